-- Root of the library: every module, so that `lake build` checks the model, all lemma files and every `Props/Cnn.lean`.
import DisjointImpls.Bounds
import DisjointImpls.Canon
import DisjointImpls.CanonAlphaDefs
import DisjointImpls.CanonWF
import DisjointImpls.Det
import DisjointImpls.Expand
import DisjointImpls.ExpandOK
import DisjointImpls.Facts
import DisjointImpls.Group
import DisjointImpls.Key
import DisjointImpls.Lemmas.Acyclic
import DisjointImpls.Lemmas.CanonAlpha
import DisjointImpls.Lemmas.CanonAlphaHeader
import DisjointImpls.Lemmas.CanonDeclOrder
import DisjointImpls.Lemmas.CanonHeaderConverse
import DisjointImpls.Lemmas.CanonHeaderConverseDefs
import DisjointImpls.Lemmas.CanonIdem
import DisjointImpls.Lemmas.CanonIsRenaming
import DisjointImpls.Lemmas.CanonIsRenamingDefs
import DisjointImpls.Lemmas.CanonLemmas
import DisjointImpls.Lemmas.CanonRoundTrip
import DisjointImpls.Lemmas.CanonRoundTripDefs
import DisjointImpls.Lemmas.DetBasics
import DisjointImpls.Lemmas.EndToEnd
import DisjointImpls.Lemmas.EndToEndNested
import DisjointImpls.Lemmas.ExpandEmit
import DisjointImpls.Lemmas.ExpandInherent
import DisjointImpls.Lemmas.ExpandItems
import DisjointImpls.Lemmas.ExpandLemmas
import DisjointImpls.Lemmas.FlatAccept
import DisjointImpls.Lemmas.FlatOrder
import DisjointImpls.Lemmas.FlatPlacement
import DisjointImpls.Lemmas.GroupLemmas
import DisjointImpls.Lemmas.HelperAlign
import DisjointImpls.Lemmas.HelperPath
import DisjointImpls.Lemmas.KeyLemmas
import DisjointImpls.Lemmas.ListBasics
import DisjointImpls.Lemmas.MatchComplete
import DisjointImpls.Lemmas.MatchSound
import DisjointImpls.Lemmas.MatchTrans
import DisjointImpls.Lemmas.Names
import DisjointImpls.Lemmas.OverlapEndToEnd
import DisjointImpls.Lemmas.Refine
import DisjointImpls.Lemmas.RevSubExact
import DisjointImpls.Lemmas.RevSubLemmas
import DisjointImpls.Lemmas.RowsOwn
import DisjointImpls.Lemmas.UnsizedExpand
import DisjointImpls.Lemmas.UnsizedSearch
import DisjointImpls.Lemmas.ValidateLemmas
import DisjointImpls.Match
import DisjointImpls.MatchFacts
import DisjointImpls.MatchSchema
import DisjointImpls.Props.C01
import DisjointImpls.Props.C02
import DisjointImpls.Props.C03
import DisjointImpls.Props.C04
import DisjointImpls.Props.C05
import DisjointImpls.Props.C06
import DisjointImpls.Props.C07
import DisjointImpls.Props.C08
import DisjointImpls.Props.C09
import DisjointImpls.Props.C10
import DisjointImpls.Props.C11
import DisjointImpls.Props.C12
import DisjointImpls.Props.C13
import DisjointImpls.Props.C14
import DisjointImpls.Props.C15
import DisjointImpls.Props.C16
import DisjointImpls.Props.C17
import DisjointImpls.RevSub
import DisjointImpls.Sem
import DisjointImpls.Sexpr
import DisjointImpls.Tree
import DisjointImpls.Validate

/-
  C14 — validation of the blocks of a family (`validate.rs`, model `Validate.lean`): property theorems.
  The arguments about the loop of `compare_trait_items` are in `Lemmas/ValidateLemmas.lean`: it answers what the first
  failing check of a list answers (`compareTraitItemsLoop_eq_firstError`), and an entry nobody asks for is inert
  (`compareTraitItemsLoop_unasked`).

  The look-up table: a block may name an item several times (the same item under complementary `cfg` attributes); the
  code enters the items into look-up tables in which a repeated name overwrites (`itemMap`, `Validate.lean`). On blocks
  without repeated names nothing differs (`C14_no_repeats_table_is_block`).
  Item level (lists of `ItemSig`): the acceptance characterisation of `compare_trait_items` /
  `compare_inherent_items`, read on the tables (`…_any`, `…_tables`) and, as the special case, on clean lists
  (`cleanItems`: no unsupported item, no duplicate (kind, name)); the diagnostic of every single-defect mutation of an
  accepted input. In inherent mode BOTH blocks are turned into tables since /repo 133a44b (before, the first block was
  walked as a slice and a first block that repeated a name was rejected): `C14_inherent_first_block_table`,
  `C14_inherent_items_ok_iff_tables`; an unsupported item of the first block gives "Not supported" while its table is built.
  Family level: the first failing check determines the diagnostic; header checks come before item checks.

  Definitions used in the statements (`Lemmas/ValidateLemmas.lean`, all executable or decidable):
  `cleanItems`, `dropItem k x xs` (the list without the item of kind `k` called `x`), `TraitAccept`, `traitHeader`,
  `traitItemsCheck`, `inherentHeader`, `validateFamily`.
-/
import DisjointImpls.Lemmas.ValidateLemmas
namespace DI

/-! ## The look-up table of a block (a repeated name is one entry: one item under complementary `cfg` attributes) -/

/-- the look-up table of ANY block: no (kind, name) twice, exactly the names of the block, an unsupported item in the
    table iff one in the block -/
theorem C14_table (xs : List ItemSig) :
    ((itemMap xs).map ItemSig.key).Nodup ∧
    (∀ k x, (∃ s ∈ itemMap xs, s.kind = k ∧ s.ident = x) ↔ (∃ s ∈ xs, s.kind = k ∧ s.ident = x)) ∧
    (itemMap xs).any (fun i => i.kind = .other) = xs.any (fun i => i.kind = .other) :=
  ⟨itemMap_nodup xs, fun k x => itemMap_exists_iff (fun k' x' => k' = k ∧ x' = x) xs, itemMap_any_other xs⟩

/-- the look-up table of the model is the table the code builds: every item of the block entered from the left with
    `IndexMap::insert` (`insertItem`: an existing key keeps its position and gets the new value, a new key is appended) -/
theorem C14_table_is_insert_loop (xs : List ItemSig) : itemMap xs = xs.foldl insertItem [] :=
  itemMap_eq_foldl_insert xs

/-- building the table twice changes nothing -/
theorem C14_table_idempotent (xs : List ItemSig) : itemMap (itemMap xs) = itemMap xs :=
  itemMap_of_nodup (itemMap_nodup xs)

/-- a block without repeated (kind, name) pairs is its own look-up table: on such blocks the answers of
    `compareTraitItems` / `compareInherentItems` are those of the plain loops over the block. In inherent mode the FIRST
    block `fs` is a table as well (/repo 133a44b): an unsupported item in it aborts, otherwise the loop runs over its
    table — which is `fs` itself when `fs` is clean (last clause). -/
theorem C14_no_repeats_table_is_block (xs : List ItemSig) (h : (xs.map ItemSig.key).Nodup) :
    itemMap xs = xs ∧ (∀ ts, compareTraitItems ts xs = compareTraitItemsLoop ts xs) ∧
    (∀ fs, compareInherentItems fs xs =
      if fs.any (fun i => i.kind = .other) then .error .notSupported else compareInherentItemsLoop (itemMap fs) xs) ∧
    (∀ fs, cleanItems fs = true → compareInherentItems fs xs = compareInherentItemsLoop fs xs) := by
  have hx := itemMap_of_nodup h
  refine ⟨hx, fun ts => ?_, fun fs => ?_, fun fs hf => ?_⟩
  · rw [compareTraitItems, hx]
  · rw [compareInherentItems, hx]
  · rw [compareInherentItems, hx, if_neg (Bool.not_eq_true _ ▸ clean_no_other hf), itemMap_of_clean hf]

/-! ## Item level, trait mode -/

/-- acceptance WITHOUT a condition on the block (repeated names, unsupported items allowed): nothing required is missing,
    nothing extra, const generics arity agrees — read on the look-up table, i.e. on the last copy of every name.
    Side condition: the trait's own item list is clean. -/
theorem C14_trait_items_ok_iff_any (ts second : List ItemSig) (hts : cleanItems ts = true) :
    compareTraitItems ts second = .ok () ↔
      (∀ t ∈ ts, t.hasDefault = false → ∃ s ∈ itemMap second, s.kind = t.kind ∧ s.ident = t.ident) ∧
      (∀ s ∈ itemMap second, ∃ t ∈ ts, t.kind = s.kind ∧ t.ident = s.ident) ∧
      (∀ t ∈ ts, ∀ s ∈ itemMap second, t.kind = .const → s.kind = .const → s.ident = t.ident → t.arity = s.arity) := by
  rw [compareTraitItems]
  cases ho : second.any (fun i => i.kind = .other) with
  | false => exact compareTraitItemsLoop_ok_iff ts _ hts (clean_itemMap ho)
  | true =>
    rw [compareTraitItemsLoop_other ts ((itemMap_any_other second).trans ho)]
    refine ⟨nofun, fun h => ?_⟩
    -- an unsupported entry of the table would be covered by an item of the clean trait
    rw [← itemMap_any_other] at ho
    obtain ⟨s, hs, hk⟩ := List.any_eq_true.1 ho
    obtain ⟨t, ht, hm⟩ := h.2.1 s hs
    exact absurd (hm.1.trans (of_decide_eq_true hk)) ((cleanItems_iff.1 hts).1 t ht)

/-- on a clean block the table is the block -/
theorem C14_trait_items_ok_iff (ts second : List ItemSig) (hts : cleanItems ts = true)
    (hs : cleanItems second = true) :
    compareTraitItems ts second = .ok () ↔
      (∀ t ∈ ts, t.hasDefault = false → ∃ s ∈ second, s.kind = t.kind ∧ s.ident = t.ident) ∧
      (∀ s ∈ second, ∃ t ∈ ts, t.kind = s.kind ∧ t.ident = s.ident) ∧
      (∀ t ∈ ts, ∀ s ∈ second, t.kind = .const → s.kind = .const → s.ident = t.ident → t.arity = s.arity) := by
  rw [C14_trait_items_ok_iff_any ts second hts, itemMap_of_clean hs]

/-- omitting every copy of an item that has a trait default keeps the block accepted; no condition on the block -/
theorem C14_default_may_be_omitted_any (ts second : List ItemSig) (t : ItemSig) (hts : cleanItems ts = true)
    (hok : compareTraitItems ts second = .ok ()) (ht : t ∈ ts)
    (hd : t.hasDefault = true) : compareTraitItems ts (dropItem t.kind t.ident second) = .ok () := by
  rw [compareTraitItems] at hok ⊢
  rw [itemMap_dropItem]
  exact compareTraitItemsLoop_default_omitted ts _ t hts (clean_itemMap (compareTraitItems_ok_no_other hok)) hok ht hd

/-- the same under the additional hypothesis `cleanItems second` -/
theorem C14_default_may_be_omitted (ts second : List ItemSig) (t : ItemSig) (hts : cleanItems ts = true)
    (_hs : cleanItems second = true) (hok : compareTraitItems ts second = .ok ()) (ht : t ∈ ts)
    (hd : t.hasDefault = true) : compareTraitItems ts (dropItem t.kind t.ident second) = .ok () :=
  C14_default_may_be_omitted_any ts second t hts hok ht hd

/-- removing the item a required trait item asks for: "Missing in one of the impls" -/
theorem C14_missing_item (ts second : List ItemSig) (t : ItemSig) (hts : cleanItems ts = true)
    (hok : compareTraitItems ts second = .ok ()) (ht : t ∈ ts) (hd : t.hasDefault = false) :
    compareTraitItems ts (dropItem t.kind t.ident second) = .error .missing := by
  rw [compareTraitItems] at hok ⊢
  rw [itemMap_dropItem]
  exact compareTraitItemsLoop_missing ts _ t hts (clean_itemMap (compareTraitItems_ok_no_other hok)) hok ht hd

/-- an item the trait does not declare, inserted at any position: "Not found in trait definition" -/
theorem C14_extra_item (ts l1 l2 : List ItemSig) (x : ItemSig) (hok : compareTraitItems ts (l1 ++ l2) = .ok ())
    (hx : x.kind ≠ .other) (hn : ∀ t ∈ ts, ¬ (t.kind = x.kind ∧ t.ident = x.ident)) :
    compareTraitItems ts (l1 ++ x :: l2) = .error .notInTrait := by
  rw [compareTraitItems] at hok ⊢
  -- the table of the block without `x` is the table without the entry of `x`, and has no entry of that name
  have hfresh : ∀ s ∈ itemMap (l1 ++ l2), ¬ s.is x.kind x.ident := fun s hs hsx => by
    obtain ⟨t, ht, hm⟩ := compareTraitItemsLoop_ok_covered hok s hs
    exact hn t ht ⟨hm.1.trans hsx.1, hm.2.trans hsx.2⟩
  rw [compareTraitItemsLoop_unasked hx ts _ hn ((itemMap_exists_iff (fun k n => k = x.kind ∧ n = x.ident) _).2
      ⟨x, List.mem_append_right _ List.mem_cons_self, rfl, rfl⟩),
    ← itemMap_dropItem, dropItem_append, dropItem_cons_eq ⟨rfl, rfl⟩, ← dropItem_append, itemMap_dropItem,
    dropItem_eq_self hfresh, hok]

/-- a different number of generic parameters on an associated const: "Doesn't match trait definition" -/
theorem C14_const_arity (ts l1 l2 : List ItemSig) (s s' : ItemSig) (hts : cleanItems ts = true)
    (hcl : cleanItems (l1 ++ s :: l2) = true) (hok : compareTraitItems ts (l1 ++ s :: l2) = .ok ())
    (hsk : s.kind = .const) (hk : s'.kind = s.kind) (hi : s'.ident = s.ident) (ha : s'.arity ≠ s.arity) :
    compareTraitItems ts (l1 ++ s' :: l2) = .error .noMatch := by
  have hnd := (cleanItems_iff.1 hcl).2
  have hnd' : ((l1 ++ s' :: l2).map ItemSig.key).Nodup := by
    rw [List.map_append, List.map_cons, key_eq_iff.2 ⟨hk, hi⟩, ← List.map_cons, ← List.map_append]; exact hnd
  rw [(C14_no_repeats_table_is_block _ hnd).2.1] at hok
  rw [(C14_no_repeats_table_is_block _ hnd').2.1]
  exact compareTraitItemsLoop_arity ts l1 l2 s s' hts hcl hok hsk hk hi ha

/-! ## Item level, inherent mode -/

/-- `compare_inherent_items` is `compare_trait_items` without defaults, with its own messages; the TABLE of the first
    block (`itemMap fs`: one entry per name) plays the trait's item list, and an unsupported item of the first block gives
    "Not supported" before anything is compared (/repo 133a44b). No side condition.
    (Before 133a44b the statement was `… = inhResult (compareTraitItems (fs.map ItemSig.strict) second)` for every `fs`;
    that is `C14_inherent_as_trait_clean` now, under `cleanItems fs`.) -/
theorem C14_inherent_as_trait (fs second : List ItemSig) :
    compareInherentItems fs second =
      if fs.any (fun i => i.kind = .other) then .error .notSupported
      else inhResult (compareTraitItems ((itemMap fs).map ItemSig.strict) second) := by
  rw [compareInherentItems, compareInherentItemsLoop_eq (itemMap fs) (itemMap second)]; rfl

/-- on a clean first block (no unsupported item, no repeated name): the first block itself plays the trait's item list -/
theorem C14_inherent_as_trait_clean (fs second : List ItemSig) (hf : cleanItems fs = true) :
    compareInherentItems fs second = inhResult (compareTraitItems (fs.map ItemSig.strict) second) := by
  rw [C14_inherent_as_trait, if_neg (Bool.not_eq_true _ ▸ clean_no_other hf), itemMap_of_clean hf]

/-- the first block counts through its look-up table only (one entry per (kind, name): position of the first copy, value of
    the last). No side condition (an unsupported item is in the table iff it is in the block: both sides are
    "Not supported" then). -/
theorem C14_inherent_first_block_table (fs second : List ItemSig) :
    compareInherentItems fs second = compareInherentItems (itemMap fs) second := by
  rw [compareInherentItems, compareInherentItems, itemMap_any_other, C14_table_idempotent]

/-- an unsupported item in the first block: "Not supported", whatever the other block is -/
theorem C14_inherent_first_block_unsupported (fs second : List ItemSig)
    (h : fs.any (fun i => i.kind = .other) = true) : compareInherentItems fs second = .error .notSupported := by
  rw [compareInherentItems, if_pos h]

/-- acceptance for a clean FIRST block (side condition `cleanItems fs`; the other block may repeat names), read on the
    other block's table. Without the side condition: `C14_inherent_items_ok_iff_tables`. -/
theorem C14_inherent_items_ok_iff_any (fs second : List ItemSig) (hf : cleanItems fs = true) :
    compareInherentItems fs second = .ok () ↔
      (∀ f ∈ fs, ∃ s ∈ itemMap second, s.kind = f.kind ∧ s.ident = f.ident) ∧
      (∀ s ∈ itemMap second, ∃ f ∈ fs, f.kind = s.kind ∧ f.ident = s.ident) ∧
      (∀ f ∈ fs, ∀ s ∈ itemMap second, f.kind = .const → s.kind = .const → s.ident = f.ident → f.arity = s.arity) := by
  rw [C14_inherent_as_trait_clean fs second hf, inhResult_ok, C14_trait_items_ok_iff_any _ _ (clean_strict.trans hf)]
  exact traitAccept_strict

theorem C14_inherent_items_ok_iff (fs second : List ItemSig) (hf : cleanItems fs = true)
    (hs : cleanItems second = true) :
    compareInherentItems fs second = .ok () ↔
      (∀ f ∈ fs, ∃ s ∈ second, s.kind = f.kind ∧ s.ident = f.ident) ∧
      (∀ s ∈ second, ∃ f ∈ fs, f.kind = s.kind ∧ f.ident = s.ident) ∧
      (∀ f ∈ fs, ∀ s ∈ second, f.kind = .const → s.kind = .const → s.ident = f.ident → f.arity = s.arity) := by
  rw [C14_inherent_items_ok_iff_any fs second hf, itemMap_of_clean hs]

/-- acceptance in inherent mode with NO condition on either block (repeated names and unsupported items allowed on both
    sides): no unsupported item in the first block, and the characterisation of `C14_inherent_items_ok_iff` read on the two
    look-up tables, i.e. on the last copy of every name of either block -/
theorem C14_inherent_items_ok_iff_tables (fs second : List ItemSig) :
    compareInherentItems fs second = .ok () ↔
      fs.any (fun i => i.kind = .other) = false ∧
      (∀ f ∈ itemMap fs, ∃ s ∈ itemMap second, s.kind = f.kind ∧ s.ident = f.ident) ∧
      (∀ s ∈ itemMap second, ∃ f ∈ itemMap fs, f.kind = s.kind ∧ f.ident = s.ident) ∧
      (∀ f ∈ itemMap fs, ∀ s ∈ itemMap second, f.kind = .const → s.kind = .const → s.ident = f.ident →
        f.arity = s.arity) := by
  cases ho : fs.any (fun i => i.kind = .other) with
  | true =>
    rw [C14_inherent_first_block_unsupported fs second ho]
    exact ⟨nofun, fun h => nomatch h.1⟩
  | false =>
    rw [C14_inherent_first_block_table, C14_inherent_items_ok_iff_any _ _ (clean_itemMap ho)]
    exact ⟨fun h => ⟨rfl, h⟩, fun h => h.2⟩

/-- an item of the first block missing from another block: "Not found in one of the impls" -/
theorem C14_inherent_missing (fs second : List ItemSig) (f : ItemSig) (hfs : cleanItems fs = true)
    (hok : compareInherentItems fs second = .ok ()) (hf : f ∈ fs) :
    compareInherentItems fs (dropItem f.kind f.ident second) = .error .notInOneImpl := by
  rw [C14_inherent_as_trait_clean _ _ hfs] at hok ⊢
  exact congrArg inhResult (C14_missing_item _ second f.strict (clean_strict.trans hfs) (inhResult_ok.1 hok)
    (List.mem_map_of_mem hf) rfl)

/-- `C14_inherent_missing` without the side condition on the first block: every copy of a name of the first block removed
    from the other block gives "Not found in one of the impls" -/
theorem C14_inherent_missing_any (fs second : List ItemSig) (f : ItemSig)
    (hok : compareInherentItems fs second = .ok ()) (hf : f ∈ fs) :
    compareInherentItems fs (dropItem f.kind f.ident second) = .error .notInOneImpl := by
  have hno := compareInherentItems_ok_no_other_first hok
  obtain ⟨g, hg, hgk⟩ := (itemMap_exists_iff (fun k n => k = f.kind ∧ n = f.ident) fs).2 ⟨f, hf, rfl, rfl⟩
  rw [C14_inherent_first_block_table] at hok ⊢
  have := C14_inherent_missing (itemMap fs) second g (clean_itemMap hno) hok hg
  rwa [hgk.1, hgk.2] at this

/-- an item the first block does not have: "Not found in one of the impls" -/
theorem C14_inherent_extra (fs l1 l2 : List ItemSig) (x : ItemSig)
    (hok : compareInherentItems fs (l1 ++ l2) = .ok ()) (hx : x.kind ≠ .other)
    (hn : ∀ f ∈ fs, ¬ (f.kind = x.kind ∧ f.ident = x.ident)) :
    compareInherentItems fs (l1 ++ x :: l2) = .error .notInOneImpl := by
  have hno := compareInherentItems_ok_no_other_first hok
  rw [C14_inherent_as_trait, if_neg (Bool.not_eq_true _ ▸ hno)] at hok ⊢
  refine congrArg inhResult (C14_extra_item _ l1 l2 x (inhResult_ok.1 hok) hx (List.forall_mem_map.2 fun f hf hfx => ?_))
  obtain ⟨f', hf', hP⟩ := (itemMap_exists_iff (fun k n => k = x.kind ∧ n = x.ident) fs).1 ⟨f, hf, hfx⟩
  exact hn f' hf' hP

/-- a different number of generic parameters on an associated const: "Generics don't match between impls" -/
theorem C14_inherent_arity (fs l1 l2 : List ItemSig) (s s' : ItemSig) (hfs : cleanItems fs = true)
    (hcl : cleanItems (l1 ++ s :: l2) = true) (hok : compareInherentItems fs (l1 ++ s :: l2) = .ok ())
    (hsk : s.kind = .const) (hk : s'.kind = s.kind) (hi : s'.ident = s.ident) (ha : s'.arity ≠ s.arity) :
    compareInherentItems fs (l1 ++ s' :: l2) = .error .genericsMismatch := by
  rw [C14_inherent_as_trait_clean _ _ hfs] at hok ⊢
  exact congrArg inhResult (C14_const_arity _ l1 l2 s s' (clean_strict.trans hfs) hcl (inhResult_ok.1 hok) hsk hk hi ha)

/-- `C14_inherent_arity` without the side condition on the first block -/
theorem C14_inherent_arity_any (fs l1 l2 : List ItemSig) (s s' : ItemSig)
    (hcl : cleanItems (l1 ++ s :: l2) = true) (hok : compareInherentItems fs (l1 ++ s :: l2) = .ok ())
    (hsk : s.kind = .const) (hk : s'.kind = s.kind) (hi : s'.ident = s.ident) (ha : s'.arity ≠ s.arity) :
    compareInherentItems fs (l1 ++ s' :: l2) = .error .genericsMismatch := by
  have hno := compareInherentItems_ok_no_other_first hok
  rw [C14_inherent_first_block_table] at hok ⊢
  exact C14_inherent_arity (itemMap fs) l1 l2 s s' (clean_itemMap hno) hcl hok hsk hk hi ha

/-! ## Family level -/

/-- the first impl whose header check fails determines the diagnostic, whatever the items are -/
theorem C14_header_error (trait_ : T) (pre : List T) (item : T) (post : List T) (d : Diag)
    (hpre : ∀ i ∈ pre, traitHeader trait_ i = .ok ()) (h : traitHeader trait_ item = .error d) :
    validateTraitImpls trait_ (pre ++ item :: post) = .error d := by
  rw [validateTraitImpls_eq, firstError_append, firstError_map_error_iff.2 ⟨pre, item, post, rfl, h, hpre⟩]

/-- an impl of another trait: "Doesn't match trait definition" -/
theorem C14_other_trait (trait_ : T) (pre : List T) (item : T) (post : List T) (p : T)
    (hpre : ∀ i ∈ pre, traitHeader trait_ i = .ok ()) (hp : implTraitPath item = some p)
    (hne : lastSegIdent p ≠ traitIdent trait_) :
    validateTraitImpls trait_ (pre ++ item :: post) = .error .noMatch :=
  C14_header_error trait_ pre item post _ hpre (by unfold traitHeader; rw [hp]; simp [hne])

/-- `unsafe impl` of a safe trait or the other way round: "Doesn't match trait definition" -/
theorem C14_unsafety (trait_ : T) (pre : List T) (item : T) (post : List T) (p : T)
    (hpre : ∀ i ∈ pre, traitHeader trait_ i = .ok ()) (hp : implTraitPath item = some p)
    (hid : lastSegIdent p = traitIdent trait_) (hne : traitUnsafety trait_ ≠ implUnsafety item) :
    validateTraitImpls trait_ (pre ++ item :: post) = .error .noMatch :=
  C14_header_error trait_ pre item post _ hpre (by unfold traitHeader; rw [hp]; simp [hid, hne])

/-- an inherent impl among trait impls: "Expected trait impl, found inherent impl" -/
theorem C14_inherent_in_trait_mode (trait_ : T) (pre : List T) (item : T) (post : List T)
    (hpre : ∀ i ∈ pre, traitHeader trait_ i = .ok ()) (hp : implTraitPath item = none) :
    validateTraitImpls trait_ (pre ++ item :: post) = .error .expectedTraitImpl :=
  C14_header_error trait_ pre item post _ hpre (by unfold traitHeader; rw [hp])

/-- a trait impl among inherent impls: "Expected inherent impl but found trait" -/
theorem C14_trait_in_inherent_mode (pre : List T) (item : T) (post : List T) (p : T)
    (hpre : ∀ i ∈ pre, implTraitPath i = none) (hp : implTraitPath item = some p) :
    validateInherentImpls (pre ++ item :: post) = .error .expectedInherent := by
  rw [validateInherentImpls_eq, firstError_map_error_iff.2 ⟨pre, item, post, rfl,
    by unfold inherentHeader; rw [hp], fun i hi => (inherentHeader_ok_iff i).2 (hpre i hi)⟩]

/-- header checks come first: if any header fails, the result is a header diagnostic, even if the items of an
    earlier impl are wrong (the two loops of `validate_trait_impls`) -/
theorem C14_headers_before_items (trait_ : T) (impls : List T)
    (h : ∃ item ∈ impls, traitHeader trait_ item ≠ .ok ()) :
    validateTraitImpls trait_ impls = .error .expectedTraitImpl ∨
    validateTraitImpls trait_ impls = .error .noMatch := by
  rw [validateTraitImpls_eq, firstError_append]
  cases hf : firstError (impls.map (traitHeader trait_)) with
  | ok u =>
    obtain ⟨item, hi, hne⟩ := h
    exact absurd (firstError_map_ok_iff.1 hf item hi) hne
  | error d =>
    obtain ⟨pre, x, post, _, hx, _⟩ := firstError_map_error_iff.1 hf
    rcases traitHeader_cases trait_ x with h1 | h1 | h1
    · rw [h1] at hx; cases hx
    · rw [h1] at hx; cases hx; exact Or.inl rfl
    · rw [h1] at hx; cases hx; exact Or.inr rfl

/-- with all headers fine, the first impl whose items are rejected determines the diagnostic -/
theorem C14_items_error (trait_ : T) (pre : List T) (item : T) (post : List T) (d : Diag)
    (hh : ∀ i ∈ pre ++ item :: post, traitHeader trait_ i = .ok ())
    (hpre : ∀ i ∈ pre, traitItemsCheck trait_ i = .ok ()) (h : traitItemsCheck trait_ item = .error d) :
    validateTraitImpls trait_ (pre ++ item :: post) = .error d := by
  rw [validateTraitImpls_eq, firstError_append_of_ok (firstError_map_ok_iff.2 hh)]
  exact firstError_map_error_iff.2 ⟨pre, item, post, rfl, h, hpre⟩

/-- acceptance of a family: exactly when every header and every item list is accepted -/
theorem C14_family_ok_iff (trait_ : T) (impls : List T) :
    validateTraitImpls trait_ impls = .ok () ↔
      (∀ i ∈ impls, traitHeader trait_ i = .ok ()) ∧ (∀ i ∈ impls, traitItemsCheck trait_ i = .ok ()) := by
  rw [validateTraitImpls_eq, firstError_append_ok_iff, firstError_map_ok_iff, firstError_map_ok_iff]

/-- no false positive: impls of the right trait with the right unsafety whose items satisfy the acceptance
    characterisation are accepted -/
theorem C14_no_false_positive (trait_ : T) (impls : List T) (hts : cleanItems (traitItems trait_) = true)
    (hh : ∀ i ∈ impls, ∃ p, implTraitPath i = some p ∧ lastSegIdent p = traitIdent trait_ ∧
      traitUnsafety trait_ = implUnsafety i)
    (hi : ∀ i ∈ impls, cleanItems (implItemSigs i) = true ∧ TraitAccept (traitItems trait_) (implItemSigs i)) :
    validateTraitImpls trait_ impls = .ok () := by
  rw [C14_family_ok_iff]
  refine ⟨fun i h => (traitHeader_ok_iff trait_ i).2 (hh i h), fun i h => ?_⟩
  exact (C14_trait_items_ok_iff _ _ hts (hi i h).1).2 (hi i h).2

/-- inherent family: every other block is compared with the first one — item sets, then visibilities -/
theorem C14_inherent_family_ok_iff (first : T) (rest : List T) :
    validateInherentImpls (first :: rest) = .ok () ↔
      (∀ i ∈ first :: rest, implTraitPath i = none) ∧
      (∀ i ∈ rest, compareInherentItems (implItemSigs first) (implItemSigs i) = .ok ()) ∧
      (∀ i ∈ rest, compareInherentVis (implItems first) (implItems i) = .ok ()) := by
  rw [validateInherentImpls_cons, firstError_append_ok_iff, firstError_append_ok_iff, firstError_map_ok_iff,
    firstError_map_ok_iff, firstError_map_ok_iff]
  simp only [inherentHeader_ok_iff]

theorem compareInherentVis_cases (a b : List T) :
    compareInherentVis a b = .ok () ∨ compareInherentVis a b = .error .visMismatch := by
  unfold compareInherentVis; split <;> simp

/-- (fix 48b34ff) inherent blocks that agree on their item sets but give one item different visibilities are rejected with
    "Visibility doesn't match between impls": the generated impl could only carry the first block's visibility -/
theorem C14_visibility_mismatch (first : T) (rest : List T)
    (hh : ∀ i ∈ first :: rest, implTraitPath i = none)
    (hi : ∀ i ∈ rest, compareInherentItems (implItemSigs first) (implItemSigs i) = .ok ())
    (hv : ∃ i ∈ rest, compareInherentVis (implItems first) (implItems i) = .error .visMismatch) :
    validateInherentImpls (first :: rest) = .error .visMismatch := by
  obtain ⟨i, hi', hv⟩ := hv
  rw [validateInherentImpls_cons, firstError_append_of_ok (firstError_map_ok_iff.2 fun i h => (inherentHeader_ok_iff i).2 (hh i h)),
    firstError_append_of_ok (firstError_map_ok_iff.2 hi)]
  exact firstError_eq_of_all (List.forall_mem_map.2 fun j _ => compareInherentVis_cases _ _)
    ⟨_, List.mem_map_of_mem hi', hv⟩

/-- atomic: `validateAll` answers `.ok ()` or exactly one diagnostic — that of the first failing family -/
theorem C14_atomic (trait_ : Option T) (fams : List (List T)) (d : Diag)
    (h : validateAll trait_ fams = .error d) :
    ∃ pre fam post, fams = pre ++ fam :: post ∧ validateFamily trait_ fam = .error d ∧
      ∀ f ∈ pre, validateFamily trait_ f = .ok () := by
  rw [validateAll_eq] at h
  exact firstError_map_error_iff.1 h

theorem C14_all_ok_iff (trait_ : Option T) (fams : List (List T)) :
    validateAll trait_ fams = .ok () ↔ ∀ fam ∈ fams, validateFamily trait_ fam = .ok () := by
  rw [validateAll_eq]; exact firstError_map_ok_iff

/-! ## Non-vacuity -/

section Examples
private def cN (a : Nat) : ItemSig := ⟨.const, "N", a, false⟩
private def tA : ItemSig := ⟨.type, "A", 0, false⟩
private def fD : ItemSig := ⟨.fn, "f", 0, true⟩      -- has a default body
private def fX : ItemSig := ⟨.fn, "g", 0, false⟩

example : cleanItems [cN 0, tA, fD] = true ∧ cleanItems [tA, cN 0] = true ∧
    compareTraitItems [cN 0, tA, fD] [tA, cN 0] = .ok () ∧                       -- default omitted, other order
    compareTraitItems [cN 0, tA, fD] [fD, tA, cN 0] = .ok () ∧
    compareTraitItems [cN 0, tA, fD] [tA] = .error .missing ∧
    compareTraitItems [cN 0, tA, fD] [tA, fX, cN 0] = .error .notInTrait ∧
    compareTraitItems [cN 0, tA, fD] [tA, cN 1] = .error .noMatch ∧
    compareTraitItems [cN 0, tA, fD] [tA, cN 0, ⟨.other, "", 0, false⟩] = .error .notSupported := by decide +kernel

example : compareInherentItems [cN 0, tA] [tA, cN 0] = .ok () ∧
    compareInherentItems [cN 0, tA] [tA] = .error .notInOneImpl ∧
    compareInherentItems [cN 0, tA] [tA, fX, cN 0] = .error .notInOneImpl ∧
    compareInherentItems [cN 0, tA] [tA, cN 2] = .error .genericsMismatch := by decide +kernel

/-- `C14_missing_item` / `C14_default_may_be_omitted` are about `dropItem` -/
example : dropItem .const "N" [tA, cN 0] = [tA] ∧ dropItem .fn "f" [fD, tA, cN 0] = [tA, cN 0] := by decide +kernel

/-- a name given twice in a block is ONE entry of the look-up table (the real validator accepts
    `#[cfg(any())] type A = u8; #[cfg(not(any()))] type A = u16;`); the TRAIT's items are a slice: a name declared twice
    there is asked for twice and found once -/
example : cleanItems [tA, tA] = false ∧ compareTraitItems [tA] [tA, tA] = .ok () ∧ itemMap [tA, tA] = [tA] ∧
    compareTraitItems [tA, tA] [tA] = .error .missing ∧ compareTraitItems [tA, tA] [tA, tA] = .error .missing := by decide +kernel

/-- the clean-list hypothesis of the characterisation `C14_trait_items_ok_iff` is needed: with a repeated const the LAST
    copy's number of generic parameters counts (`IndexMap::insert` overwrites the value), the clause about the arities
    speaks about every copy -/
example : cleanItems [cN 1, cN 0] = false ∧ compareTraitItems [cN 0] [cN 1, cN 0] = .ok () ∧
    compareTraitItems [cN 0] [cN 0, cN 1] = .error .noMatch ∧
    ¬ (∀ t ∈ [cN 0], ∀ s ∈ [cN 1, cN 0], t.kind = .const → s.kind = .const → s.ident = t.ident → t.arity = s.arity) ∧
    itemMap [cN 1, tA, cN 0] = [cN 0, tA] := by decide +kernel

/-- header order: the second impl's header is checked before the first impl's items -/
example :
    let tr : T := .node "ItemTrait" [] [.node "L" [] [], .node "V" [] [], .node "None" [] [], .node "None" [] [],
      .node "None" [] [], .node "Ident" ["Kita"] [], .node "G" [] [], .node "None" [] [], .node "List" [] [],
      .node "List" [] [.node "TraitItem::Const" [] [.node "A" [] [], .node "Ident" ["N"] [], .node "G" [] [],
        .node "Ty" [] [], .node "None" [] []]]]
    let badItems : T := .node "ItemImpl" [] [.node "A" [] [], .node "None" [] [], .node "None" [] [], .node "G" [] [],
      .node "Some" [] [.node "Tuple" [] [.node "None" [] [], .node "Path" [] [.node "IgnL" [] [.node "None" [] []],
        .node "List" [] [.node "PathSegment" [] [.node "Ident" ["Kita"] [], .node "PathArguments::None" [] []]]]]],
      .node "S" [] [], .node "List" [] []]
    let inherent : T := .node "ItemImpl" [] [.node "A" [] [], .node "None" [] [], .node "None" [] [], .node "G" [] [],
      .node "None" [] [], .node "S" [] [], .node "List" [] []]
    traitItemsCheck tr badItems = .error .missing ∧
    validateTraitImpls tr [badItems] = .error .missing ∧
    validateTraitImpls tr [badItems, inherent] = .error .expectedTraitImpl ∧
    validateAll (some tr) [[], [badItems, inherent], [badItems]] = .error .expectedTraitImpl := by decide +kernel
/-- the duplicate-under-`cfg` block on real trees. Trait `trait Kita { fn f() -> u8; }`; block
    `impl Kita for S { #[cfg(any())] fn f() -> u8 { 0 } #[cfg(not(any()))] fn f() -> u8 { 1 } }` (validation sees the kind and
    the name of an item only, so both copies are the same `ItemSig`).
    Trait mode: ACCEPTED (no diagnostic), alone and next to a block with one `f`.
    Inherent mode (the same items in `impl S { … }`): since /repo 133a44b the FIRST block is a table as well, so a first
    block that names `f` twice is ACCEPTED against a block with one `f` and against a block that names `f` twice (before
    133a44b: "Not found in one of the impls" — `f` was asked for twice and found once); a LATER block that names `f` twice
    is accepted against a first block with one `f`; a family of one block is not compared. -/
example :
    let fnSig (x : String) : T := .node "Signature" [] [.node "None" [] [], .node "None" [] [], .node "None" [] [],
      .node "None" [] [], .node "Ident" [x] [], .node "G" [] [], .node "List" [] [], .node "None" [] [], .node "R" [] []]
    let tr : T := .node "ItemTrait" [] [.node "L" [] [], .node "V" [] [], .node "None" [] [], .node "None" [] [],
      .node "None" [] [], .node "Ident" ["Kita"] [], .node "G" [] [], .node "None" [] [], .node "List" [] [],
      .node "List" [] [.node "TraitItem::Fn" [] [.node "A" [] [], fnSig "f", .node "None" [] [], .node "Some" ["Semi"] []]]]
    let fnItem (cfg : String) : T := .node "ImplItem::Fn" [] [.node "Ign" [] [.node "List" [] [.node cfg [] []]],
      .node "Visibility::Inherited" [] [], .node "None" [] [], fnSig "f", .node "Block" [] []]
    let kitaRef : T := .node "Some" [] [.node "Tuple" [] [.node "None" [] [], .node "Path" [] [.node "IgnL" [] [.node "None" [] []],
        .node "List" [] [.node "PathSegment" [] [.node "Ident" ["Kita"] [], .node "PathArguments::None" [] []]]]]]
    let block (tref : T) (items : List T) : T := .node "ItemImpl" [] [.node "A" [] [], .node "None" [] [], .node "None" [] [],
      .node "G" [] [], tref, .node "S" [] [], .node "List" [] items]
    let dup := [fnItem "cfg(any())", fnItem "cfg(not(any()))"]
    let one := [fnItem "none"]
    implItemSigs (block kitaRef dup) = [⟨.fn, "f", 0, false⟩, ⟨.fn, "f", 0, false⟩] ∧
    traitItemsCheck tr (block kitaRef dup) = .ok () ∧
    validateTraitImpls tr [block kitaRef dup] = .ok () ∧
    validateTraitImpls tr [block kitaRef one, block kitaRef dup] = .ok () ∧
    validateAll (some tr) [[block kitaRef dup, block kitaRef dup]] = .ok () ∧
    validateInherentImpls [block (.node "None" [] []) dup] = .ok () ∧
    validateInherentImpls [block (.node "None" [] []) one, block (.node "None" [] []) dup] = .ok () ∧
    validateInherentImpls [block (.node "None" [] []) dup, block (.node "None" [] []) dup] = .ok () ∧
    validateInherentImpls [block (.node "None" [] []) dup, block (.node "None" [] []) one] = .ok () ∧
    validateInherentImpls [block (.node "None" [] []) dup, block (.node "None" [] []) one, block (.node "None" [] []) []]
      = .error .notInOneImpl := by
  decide +kernel

/-- the example of /repo 133a44b on real trees: first block `impl S { #[cfg(x)] fn name() {} #[cfg(not(x))] fn name() {} }`,
    second block `impl S { fn name() {} }`: accepted (`.ok ()`), item comparison and whole family; with the blocks the other
    way round as well; a second block without `name`, or with another function, is still rejected. -/
example :
    let fnSig (x : String) : T := .node "Signature" [] [.node "None" [] [], .node "None" [] [], .node "None" [] [],
      .node "None" [] [], .node "Ident" [x] [], .node "G" [] [], .node "List" [] [], .node "None" [] [], .node "R" [] []]
    let fnItem (cfg x : String) : T := .node "ImplItem::Fn" [] [.node "Ign" [] [.node "List" [] [.node cfg [] []]],
      .node "Visibility::Inherited" [] [], .node "None" [] [], fnSig x, .node "Block" [] []]
    let block (items : List T) : T := .node "ItemImpl" [] [.node "A" [] [], .node "None" [] [], .node "None" [] [],
      .node "G" [] [], .node "None" [] [], .node "S" [] [], .node "List" [] items]
    let first := block [fnItem "cfg(x)" "name", fnItem "cfg(not(x))" "name"]
    let second := block [fnItem "none" "name"]
    implItemSigs first = [⟨.fn, "name", 0, false⟩, ⟨.fn, "name", 0, false⟩] ∧
    implItemSigs second = [⟨.fn, "name", 0, false⟩] ∧
    compareInherentItems (implItemSigs first) (implItemSigs second) = .ok () ∧
    validateInherentImpls [first, second] = .ok () ∧
    validateInherentImpls [second, first] = .ok () ∧
    validateAll none [[first, second]] = .ok () ∧
    validateInherentImpls [first, block []] = .error .notInOneImpl ∧
    validateInherentImpls [first, block [fnItem "none" "name", fnItem "none" "other"]] = .error .notInOneImpl := by
  decide +kernel

example : insertItem [tA, cN 1, fD] (cN 0) = [tA, cN 0, fD] ∧ insertItem [tA, cN 1] fD = [tA, cN 1, fD] ∧
    [tA, cN 1, fD, tA, cN 0].foldl insertItem [] = [tA, cN 0, fD] := by decide +kernel

/-- the hypotheses of the `…_any` theorems on a block that repeats names -/
example : cleanItems [cN 0, tA, fD] = true ∧ compareTraitItems [cN 0, tA, fD] [tA, cN 1, fD, tA, cN 0] = .ok () ∧
    cleanItems [tA, cN 1, fD, tA, cN 0] = false ∧ itemMap [tA, cN 1, fD, tA, cN 0] = [tA, cN 0, fD] ∧
    dropItem .fn "f" [tA, cN 1, fD, tA, cN 0] = [tA, cN 1, tA, cN 0] ∧
    compareTraitItems [cN 0, tA, fD] [tA, cN 1, tA, cN 0] = .ok () ∧
    compareInherentItems [cN 0, tA] [tA, cN 1, tA, cN 0] = .ok () ∧
    compareInherentItems [cN 0, tA, tA] [tA, cN 0] = .ok () := by decide +kernel

/-- inherent mode, FIRST block repeats a name (/repo 133a44b): it counts through its table. The example of the commit
    message on item signatures (`#[cfg(x)] fn name` / `#[cfg(not(x))] fn name` against one `fn name`): accepted; the last
    copy's number of generic parameters counts; an unsupported item in the first block is "Not supported" even when a name
    before it is missing from the other block; the hypotheses of `C14_inherent_missing_any` / `C14_inherent_arity_any` /
    `C14_inherent_items_ok_iff_tables` on a first block that is not clean. -/
example :
    let fName : ItemSig := ⟨.fn, "name", 0, false⟩
    let oth : ItemSig := ⟨.other, "", 0, false⟩
    compareInherentItems [fName, fName] [fName] = .ok () ∧
    compareInherentItems [fName, fName] [fName, fName] = .ok () ∧
    compareInherentItems [fName, fName] [] = .error .notInOneImpl ∧
    cleanItems [cN 1, tA, cN 0] = false ∧ itemMap [cN 1, tA, cN 0] = [cN 0, tA] ∧
    compareInherentItems [cN 1, tA, cN 0] [tA, cN 0] = .ok () ∧
    compareInherentItems [cN 0, tA, cN 1] [tA, cN 0] = .error .genericsMismatch ∧
    compareInherentItems [cN 1, tA, cN 0] (dropItem .const "N" [tA, cN 0]) = .error .notInOneImpl ∧
    cleanItems ([tA] ++ cN 0 :: []) = true ∧
    compareInherentItems [cN 1, tA, cN 0] ([tA] ++ cN 2 :: []) = .error .genericsMismatch ∧
    compareInherentItems [tA, oth] [] = .error .notSupported ∧
    compareInherentItems [tA, oth] [tA, oth] = .error .notSupported ∧
    compareInherentItemsLoop [tA, oth] [] = .error .notInOneImpl ∧
    [cN 1, tA, cN 0].any (fun i => i.kind = .other) = false ∧
    compareInherentItems [cN 1, tA, cN 0] [tA, cN 0] = compareInherentItems (itemMap [cN 1, tA, cN 0]) [tA, cN 0] := by
  decide +kernel
end Examples

end DI

/-
  C05 — block order independence.
  The specification side of dispatch (`applies`) does not mention the order of the blocks; by the refinement (C02) a
  well-formed grouping of *any* order of the blocks implements exactly that specification, hence two orders whose
  groupings are well-formed dispatch identically. (That the search produces a well-formed grouping for every order is
  C11's subject and is re-validated on the real grouping for every generated order.)
  Second part (`C05_flat_*`, proofs in `Lemmas/FlatOrder.lean`): for invocations without nested headers the SEARCH
  itself is order-free — `parseGroups` accepts a permutation of the blocks iff it accepts the original, with the same
  kind of rejection, and the families it forms are the same up to the order of members, keys and `?Sized` parameters
  and the spelling of the keys.
-/
import DisjointImpls.Lemmas.Refine
import DisjointImpls.Lemmas.GroupLemmas
import DisjointImpls.Lemmas.FlatOrder
import DisjointImpls.Props.C03
namespace DI

/-- "some block applies" is invariant under permuting the blocks -/
theorem C05_spec_order_invariant (W : World) (q : T) (bs bs' : List Block) (h : bs.Perm bs') :
    (∃ b ∈ bs, applies W b q) ↔ (∃ b ∈ bs', applies W b q) := by
  constructor
  · rintro ⟨b, hb, ha⟩; exact ⟨b, h.mem_iff.mp hb, ha⟩
  · rintro ⟨b, hb, ha⟩; exact ⟨b, h.mem_iff.mpr hb, ha⟩

/-- a grouping (list of families) is well-formed in world `W` -/
def GroupingWF (W : World) (G : List Family) : Prop :=
  ∀ F ∈ G, WorldTotal W F ∧ ∀ m ∈ F.members, memberOK F m = true ∧ ThetaCovers F m ∧ SizedCompat W F m

def blocksOf (G : List Family) : List Block := G.flatMap (fun F => F.members.map (·.blk))

/-- the trait is implemented for `q` through some family of the grouping -/
def implemented (W : World) (G : List Family) (q : T) : Prop := ∃ F ∈ G, ∃ m ∈ F.members, genSel W F m q

theorem implemented_iff_applies (W : World) (G : List Family) (hG : GroupingWF W G) (q : T) :
    implemented W G q ↔ ∃ b ∈ blocksOf G, applies W b q := by
  constructor
  · rintro ⟨F, hF, m, hm, hs⟩
    refine ⟨m.blk, ?_, gen_sub_spec W F m q hs⟩
    simp only [blocksOf, List.mem_flatMap, List.mem_map]
    exact ⟨F, hF, m, hm, rfl⟩
  · rintro ⟨b, hb, ha⟩
    simp only [blocksOf, List.mem_flatMap, List.mem_map] at hb
    obtain ⟨F, hF, m, hm, rfl⟩ := hb
    obtain ⟨hw, hmem⟩ := hG F hF
    obtain ⟨ok, tc, sc⟩ := hmem m hm
    exact ⟨F, hF, m, hm, spec_sub_gen W F m q ok hw tc sc ha⟩

/-- two groupings of the same blocks in different orders (e.g. the groupings the macro computes for two
    permutations of one invocation) implement the trait for exactly the same queries -/
theorem C05_dispatch_invariant (W : World) (G G' : List Family) (hG : GroupingWF W G) (hG' : GroupingWF W G')
    (hperm : (blocksOf G).Perm (blocksOf G')) (q : T) :
    implemented W G q ↔ implemented W G' q := by
  rw [implemented_iff_applies W G hG, implemented_iff_applies W G' hG']
  exact C05_spec_order_invariant W q _ _ hperm

/-- whatever member a grouping selects for `q` is a block that applies to `q` in the (order-free) specification -/
theorem C05_selected_block_order_free (W : World) (G : List Family) (F : Family) (m : Member) (q : T)
    (_ : F ∈ G) (_ : m ∈ F.members) : genSel W F m q → applies W m.blk q :=
  gen_sub_spec W F m q

/-- the first step of the grouping does not depend on the order of the blocks: for pairwise different block texts,
    the buckets of a permutation have the same headers and, under each header, the same blocks, up to order -/
theorem C05_buckets_order_free (bs bs' : List Blk) (hp : bs.Perm bs') (hnd : (bs.map (·.item)).Nodup) :
    ((mkBuckets bs).map (·.1)).Perm ((mkBuckets bs').map (·.1)) ∧
    ∀ id blks blks', (id, blks) ∈ mkBuckets bs → (id, blks') ∈ mkBuckets bs' → blks.Perm blks' :=
  mkBuckets_perm' hp (itemDet_of_nodup hnd)

/-- what the buckets are, independently of any order: the bucket of a header holds exactly the blocks with that
    header, and the headers are those of the blocks -/
theorem C05_buckets_characterised (bs : List Blk) (hnd : (bs.map (·.item)).Nodup) :
    (∀ bk ∈ mkBuckets bs, bk.2 = bs.filter (fun b => groupIdOf b.item == bk.1)) ∧
    (∀ id, id ∈ (mkBuckets bs).map (·.1) ↔ ∃ b ∈ bs, groupIdOf b.item = id) ∧
    ((mkBuckets bs).map (·.1)).Nodup :=
  ⟨(mkBuckets_char bs hnd).1, (mkBuckets_char bs hnd).2, mkBuckets_ids_nodup bs⟩

/-- non-vacuity: two blocks with different headers, in both orders -/
example :
    let b1 : Blk := ⟨.node "ItemImpl" [] [.node "A" [] [], .node "None" [] [], .node "None" [] [], .node "G" [] [],
      .node "None" [] [], .node "S1" [] [], .node "List" [] []], []⟩
    let b2 : Blk := ⟨.node "ItemImpl" [] [.node "A" [] [], .node "None" [] [], .node "None" [] [], .node "G" [] [],
      .node "None" [] [], .node "S2" [] [], .node "List" [] []], []⟩
    ([b1, b2].map (·.item)).Nodup ∧ (mkBuckets [b1, b2]).map (·.1) = [groupIdOf b1.item, groupIdOf b2.item] ∧
    (mkBuckets [b2, b1]).map (·.1) = [groupIdOf b2.item, groupIdOf b1.item] := by decide

/-! ## The search itself is order-free, for invocations without nested headers

  Side conditions (both executable, evaluated per test case):
  * `noNesting items` (Props/C11): no header generalises a different one, so every bucket is searched on its own;
  * `flatWF items` (Lemmas/FlatOrder): every header matches itself with identity bindings only (`selfIdentity`), and
    every trait path in the bounds is one `TraitBound::eq` can compare (`wfPath`, which every path `syn` produces
    satisfies — `Fn(A) -> B` included since /repo 94aac73; outside of it the model of the comparison panics,
    `C12_panics_outside`) — then `keyEq` is an equivalence;
  Pairwise different block texts are NOT needed (a textually identical block replaces the earlier one; the buckets of a
  permutation are still permutations of each other, `mkBuckets_perm'`).
  The side conditions are themselves invariant under permuting the blocks (`C05_flat_hyps_order_free`).
  `flatWF0` is the weaker form of `flatWF` that also admits headers on which the matcher itself panics or answers no
  (`selfWeak`: *if* the header matches itself, then with identity bindings only); it suffices for everything except
  the clause "the kind of rejection is preserved" (`C05_flat_rejection_kind_counterexample`). -/

/-- the side conditions of the flat order theorems hold for every permutation of the blocks if they hold for one -/
theorem C05_flat_hyps_order_free (items items' : List T) (hp : items.Perm items') (hn : noNesting items = true)
    (hwf : flatWF items = true) : noNesting items' = true ∧ flatWF items' = true := by
  obtain ⟨h1, h2⟩ := flat_hyps_perm hp (noNesting_iff.1 hn) hwf
  exact ⟨noNesting_iff.2 h1, h2⟩

/-- **Acceptance is order-free.** For an invocation without nested headers, `parseGroups` accepts a permutation of
    the blocks iff it accepts the original; it reports "Unable to form impl group for" (for some header) for the one iff
    it does for the other; and it panics for neither. -/
theorem C05_flat_acceptance_order_free (items items' : List T) (hp : items.Perm items') (hn : noNesting items = true)
    (hwf : flatWF items = true) :
    ((∃ g, parseGroups items = .ok g) ↔ (∃ g', parseGroups items' = .ok g')) ∧
    ((∃ id, parseGroups items = .unableToForm id) ↔ (∃ id', parseGroups items' = .unableToForm id')) ∧
    (∀ e, parseGroups items ≠ .panic e) ∧ (∀ e, parseGroups items' ≠ .panic e) :=
  flat_acceptance_perm hp (noNesting_iff.1 hn) hwf

/-- the part of `C05_flat_acceptance_order_free` that holds under the weaker side condition `flatWF0` (headers on
    which the matcher panics are allowed): acceptance itself is order-free -/
theorem C05_flat_acceptance_order_free_partial (items items' : List T) (hp : items.Perm items')
    (hn : noNesting items = true) (hwf : flatWF0 items = true) :
    (∃ g, parseGroups items = .ok g) ↔ (∃ g', parseGroups items' = .ok g') :=
  flat_acceptance_perm0 hp (noNesting_iff.1 hn) hwf

/-- what acceptance is, independently of any order: no bucket makes the search panic (`bucketPanics`: two or more
    blocks under a header that does not match itself) and every bucket's single candidate passes the candidate
    filter (`accOK`: after pruning the keys without a binding a key is left and no member's row generalises
    another's). Under the full side condition `flatWF` no bucket panics and the result is never `.panic`. -/
theorem C05_flat_acceptance_characterised (items : List T) (hn : noNesting items = true)
    (hwf : flatWF0 items = true) :
    ((∃ g, parseGroups items = .ok g) ↔
      ∀ bk ∈ mkBuckets (items.map mkBlk), bucketPanics bk = false ∧ accOK bk.2 = true) ∧
    (flatWF items = true → (∀ bk ∈ mkBuckets (items.map mkBlk), bucketPanics bk = false) ∧
      ∀ e, parseGroups items ≠ .panic e) :=
  ⟨parseGroups_flat_ok_iff items (noNesting_iff.1 hn) hwf,
   fun h => ⟨buckets_no_panic items h, (parseGroups_flat_kinds items (noNesting_iff.1 hn) h).2.2⟩⟩

/-- the flat search yields exactly one candidate per bucket (so `chooseCandidate` has no choice to make); its keys
    and rows are `famB` — the blocks joined one after the other — and its `?Sized` parameters are `famU` -/
theorem C05_flat_single_candidate (c : T) (hself : selfIdentity c = true) (b1 : Blk) (rest : List Blk) :
    flatSearch c (b1 :: rest) [] = .ok [[(c, ⟨famB b1 rest, famU b1 rest⟩, b1 :: rest)]] :=
  flatSearch_root hself b1 rest

/-- … and `famB` is characterised order-free: the keys (of the last block) that every block has, each with the
    members' own rows (`rowD b k`: the block's bounds folded per key, looked up up to `keyEq`) -/
theorem C05_flat_candidate_spec (b1 : Blk) (rest : List Blk) (hw : ∀ x ∈ b1 :: rest, wfBlk x = true) :
    famB b1 rest = famSpec (b1 :: rest) (lastB b1 rest) :=
  famB_spec b1 rest hw

/-- the candidate filter on one bucket does not depend on the order of its blocks -/
theorem C05_flat_bucket_filter_order_free (blks blks' : List Blk) (hp : blks.Perm blks')
    (hw : ∀ b ∈ blks, wfBlk b = true) (hnd : blks.Nodup) : accOK blks = accOK blks' :=
  accOK_perm hp hw hnd

/-- **The families are order-free.** If an invocation without nested headers and a permutation of it are both
    accepted (by `C05_flat_acceptance_order_free`: if one of them is), the two groupings have the same headers (each
    once), and the family `e'` with the header of a family `e`
    * has the same members up to order;
    * has the same keys up to spelling and order: the normal forms `nk k = (bounded type, dispatch key of the trait
      path)` — what `keyEq` compares, associated-type bindings ignored — are permutations of each other;
    * for every key of `e` has a `keyEq` key under which every member has the same row of bindings: the member/row
      pairs are a permutation of each other (so `rowLookup` gives the same binding, or none, for every member, key
      and associated-type identifier);
    * has the same `?Sized` parameters, as a set.
    Applied to `hp.symm` it gives the converse direction. The weak side condition `flatWF0` suffices
    (`flatWF0_of_flatWF`). What does depend on the order: the order of the members,
    of the keys and of the `?Sized` parameters, and the spelling of a key (that of the last member). -/
theorem C05_flat_families_order_free (items items' : List T) (g g' : Groups) (hp : items.Perm items')
    (hn : noNesting items = true) (hwf : flatWF0 items = true)
    (h : parseGroups items = .ok g) (h' : parseGroups items' = .ok g') :
    (g.map (·.1)).Perm (g'.map (·.1)) ∧ (g.map (·.1)).Nodup ∧
    ∀ e ∈ g, ∃ e' ∈ g', e'.1 = e.1 ∧ e.2.2.Perm e'.2.2 ∧
      (e.2.1.bounds.map (fun kr => nk kr.1)).Perm (e'.2.1.bounds.map (fun kr => nk kr.1)) ∧
      (∀ kr ∈ e.2.1.bounds, ∃ kr' ∈ e'.2.1.bounds, keyEq kr.1 kr'.1 = true ∧ (e.2.2.zip kr.2).Perm (e'.2.2.zip kr'.2)) ∧
      ∀ p, p ∈ e.2.1.unsized ↔ p ∈ e'.2.1.unsized :=
  flat_families_perm hp (noNesting_iff.1 hn) hwf h h'

/-- an accepted family, without reference to any order of the search: its members are exactly the input blocks with
    its header, each once; its keys are exactly the keys of the last member that every member has (`hasKey`) and for
    which some member has a binding; the row of a member under a key is the member's own row -/
theorem C05_flat_family_characterised (items : List T) (g : Groups) (hn : noNesting items = true)
    (hwf : flatWF0 items = true) (h : parseGroups items = .ok g) :
    ∀ e ∈ g, e.2.2.Nodup ∧ (∀ b, b ∈ e.2.2 ↔ b ∈ items.map mkBlk ∧ groupIdOf b.item = e.1) ∧
      ∃ l, e.2.2.getLast? = some l ∧
        ∀ kr, kr ∈ e.2.1.bounds ↔
          (∃ r, (kr.1, r) ∈ otherFold l) ∧ hasKey e.2.2 kr.1 = true ∧ kr.2 = e.2.2.map (fun b => rowD b kr.1) ∧
            ∃ b ∈ e.2.2, rowD b kr.1 ≠ [] :=
  flat_family_char h (noNesting_iff.1 hn) hwf

/-- … and for pairwise different block texts the members come in input order -/
theorem C05_flat_family_members (items : List T) (g : Groups) (hn : noNesting items = true)
    (hwf : flatWF0 items = true) (hnd : ((items.map mkBlk).map (·.item)).Nodup) (h : parseGroups items = .ok g) :
    ∀ e ∈ g, e.2.2 = (items.map mkBlk).filter (fun b => groupIdOf b.item == e.1) :=
  flat_family_members_filter h (noNesting_iff.1 hn) hwf hnd

/-- the side conditions as one executable check -/
def flatOrderPre (items : List T) : Bool := noNesting items && flatWF items

/-- acceptance is order-free, under the single executable precondition `flatOrderPre items` -/
theorem C05_flat_order_free_exec (items items' : List T) (hp : items.Perm items') (hpre : flatOrderPre items = true) :
    flatOrderPre items' = true ∧
    ((∃ g, parseGroups items = .ok g) ↔ (∃ g', parseGroups items' = .ok g')) ∧
    ((∃ id, parseGroups items = .unableToForm id) ↔ (∃ id', parseGroups items' = .unableToForm id')) ∧
    (∀ e, parseGroups items ≠ .panic e) ∧ (∀ e, parseGroups items' ≠ .panic e) := by
  simp only [flatOrderPre, Bool.and_eq_true] at hpre ⊢
  obtain ⟨hn, hwf⟩ := hpre
  exact ⟨C05_flat_hyps_order_free items items' hp hn hwf, C05_flat_acceptance_order_free items items' hp hn hwf⟩

namespace Ex11
/-- `impl<T: bounds> Kita for T {}` -/
def blockBounds (bs : List T) : T := implOf [tyParam "T" bs] tT
/-- three blocks with the same header and different bindings; the second one lists its bounds in the other order and
    the third one lacks the `Other` bound, so the family keeps the single key `T: Dispatch` -/
def order3 : List T :=
  [blockBounds [traitBound (dispatch "GroupA"), traitBound (otherTr "X")],
   blockBounds [traitBound (otherTr "Y"), traitBound (dispatch "GroupB")],
   blockBounds [traitBound (dispatch "GroupC")]]
def order3' : List T :=
  [blockBounds [traitBound (dispatch "GroupC")],
   blockBounds [traitBound (dispatch "GroupA"), traitBound (otherTr "X")],
   blockBounds [traitBound (otherTr "Y"), traitBound (dispatch "GroupB")]]
end Ex11

section FlatNonVacuity
open Ex11

/-- non-vacuity: the three blocks in two orders satisfy every hypothesis, and both orders are accepted
    (`order3` is `flat3_fa` of C03) -/
theorem C05_flat_example_hyps :
    order3.Perm order3' ∧ noNesting order3 = true ∧ flatWF order3 = true :=
  ⟨List.perm_append_comm (l₁ := [blockBounds [traitBound (dispatch "GroupA"), traitBound (otherTr "X")],
    blockBounds [traitBound (otherTr "Y"), traitBound (dispatch "GroupB")]])
    (l₂ := [blockBounds [traitBound (dispatch "GroupC")]]), C03_flat_three_blocks_pre.1, C03_flat_three_blocks_pre.2.1⟩

theorem C05_flat_example_accepted :
    ∃ gs, parseGroups order3 = .ok gs ∧
      (gs.map (fun (e : T × ABG × List Blk) => (e.2.2.length, e.2.1.bounds.length, e.2.1.payloads.length)) == [(3, 1, 3)]) = true := by
  decide +kernel

example : flatOrderPre order3 = true := by
  rw [flatOrderPre, C05_flat_example_hyps.2.1, C05_flat_example_hyps.2.2]; rfl

/-- the theorem (not a computation) yields the acceptance of the other order, and the correspondence of the families -/
example : ∃ gs gs', parseGroups order3 = .ok gs ∧ parseGroups order3' = .ok gs' ∧
    (gs.map (·.1)).Perm (gs'.map (·.1)) := by
  obtain ⟨hp, hn, hwf⟩ := C05_flat_example_hyps
  obtain ⟨gs, hgs, _⟩ := C05_flat_example_accepted
  obtain ⟨gs', hgs'⟩ := (C05_flat_acceptance_order_free order3 order3' hp hn hwf).1.1 ⟨gs, hgs⟩
  exact ⟨gs, gs', hgs, hgs', (C05_flat_families_order_free order3 order3' gs gs' hp hn (flatWF0_of_flatWF hwf) hgs hgs').1⟩

/-- a rejected invocation (two blocks with the same binding: rows not distinguishable) is rejected in both orders,
    with the same kind of error -/
example :
    let items := [blockBounds [traitBound (dispatch "GroupA"), traitBound (otherTr "X")],
      blockBounds [traitBound (otherTr "Y"), traitBound (dispatch "GroupA")], blockBounds [traitBound (dispatch "GroupC")]]
    (noNesting items = true ∧ flatWF items = true) ∧
    (∃ id, parseGroups items = .unableToForm id) ∧ (∃ id, parseGroups items.reverse = .unableToForm id) := by
  intro items
  -- `items` is `nonshared_fa` of C03
  obtain ⟨hn, hwf, _, _, h1⟩ := C03_flat_nonshared_key_counterexample
  exact ⟨⟨hn, hwf⟩, h1, (C05_flat_acceptance_order_free items items.reverse (List.reverse_perm items).symm hn hwf).2.1.1 h1⟩

/-- two buckets (`Vec<T>` and `Box<T>`), blocks interleaved, and the reversed input: both accepted; the families come
    out in a different order (`Box<T>` first) with their members in a different order, and
    `C05_flat_families_order_free` relates them -/
example :
    let items := [blockSelf "GroupA" (vecOf tT), blockSelf "GroupA" (boxOf tT), blockSelf "GroupB" (vecOf tT),
      blockSelf "GroupB" (boxOf tT)]
    ∃ gs gs', parseGroups items = .ok gs ∧ parseGroups items.reverse = .ok gs' ∧
      gs.map (·.1) ≠ gs'.map (·.1) ∧ (gs.map (·.1)).Perm (gs'.map (·.1)) ∧
      ∀ e ∈ gs, ∃ e' ∈ gs', e'.1 = e.1 ∧ e.2.2.Perm e'.2.2 := by
  intro items
  let idV := groupIdOf (mkBlk (blockSelf "GroupA" (vecOf tT))).item
  let idB := groupIdOf (mkBlk (blockSelf "GroupA" (boxOf tT))).item
  have h : noNesting items = true ∧ flatWF items = true ∧
      (∃ gs, parseGroups items = .ok gs ∧ (gs.map (·.1) == [idV, idB]) = true) ∧
      (∃ gs', parseGroups items.reverse = .ok gs' ∧ (gs'.map (·.1) == [idB, idV]) = true) ∧ [idV, idB] ≠ [idB, idV] := by
    decide +kernel
  obtain ⟨hn, hwf, ⟨gs, hgs, hids⟩, ⟨gs', hgs', hids'⟩, hne⟩ := h
  obtain ⟨h1, _, h3⟩ := C05_flat_families_order_free items items.reverse gs gs' (List.reverse_perm items).symm hn
    (flatWF0_of_flatWF hwf) hgs hgs'
  refine ⟨gs, gs', hgs, hgs', ?_, h1, fun e he => ?_⟩
  · rw [eq_of_beq hids, eq_of_beq hids']
    exact hne
  · obtain ⟨e', he', a, b, _⟩ := h3 e he
    exact ⟨e', he', a, b⟩

def ParseResult.isPanic : ParseResult → Bool
  | .panic _ => true
  | _ => false
def ParseResult.isUnable : ParseResult → Bool
  | .unableToForm _ => true
  | _ => false

/-- why `selfIdentity` is a side condition of the clause "the kind of rejection is preserved": on a header on which the
    matcher itself panics (`unimplemented!()` arms of `is_superset`, here a synthetic header containing a
    `Pat::Struct` node) the search of a bucket with two blocks panics, a bucket with indistinguishable rows is
    rejected with "Unable to form impl group for", and which of the two failures is reported depends on which bucket
    comes first. (Acceptance itself is the same in both orders: both are rejected.) -/
theorem C05_flat_rejection_kind_counterexample :
    let weird : T := .node "Type::Slice" [] [.node "Pat::Struct" [] []]
    let items := [blockSelf "GroupA" weird, blockSelf "GroupB" weird, blockSelf "GroupA" (vecOf tT),
      blockSelf2 "GroupA" (vecOf tT)]
    noNesting items = true ∧ flatWF items = false ∧ flatWF0 items = true ∧
      (parseGroups items).isPanic = true ∧ (parseGroups items.reverse).isUnable = true := by
  decide +kernel

/-- non-vacuity of the `flatWF0` theorems outside `flatWF`: a lone block under a header on which the matcher panics
    (its bucket is never compared with itself) next to an ordinary family — accepted, hence accepted in every order -/
example :
    let weird : T := .node "Type::Slice" [] [.node "Pat::Struct" [] []]
    let items := [blockSelf "GroupA" weird, blockSelf "GroupA" (vecOf tT), blockSelf "GroupB" (vecOf tT)]
    flatWF items = false ∧ ∃ gs', parseGroups items.reverse = .ok gs' := by
  intro weird items
  obtain ⟨hnwf, hn, hwf, hd, _⟩ := Ex11.weird_eval_fa
  obtain ⟨gs, hgs, _⟩ := C03_flat_accepts_weak items hn hwf hd
  exact ⟨hnwf,
    (C05_flat_acceptance_order_free_partial items items.reverse (List.reverse_perm items).symm hn hwf).1 ⟨gs, hgs⟩⟩

/-- pairwise different block texts are not needed: with a textually repeated block (which replaces the earlier copy)
    the theorem still transfers acceptance to another order -/
example :
    let items := [blockFor "GroupA", blockFor "GroupB", blockFor "GroupA"]
    let items' := [blockFor "GroupA", blockFor "GroupA", blockFor "GroupB"]
    ¬ ((items.map mkBlk).map (·.item)).Nodup ∧ ∃ gs', parseGroups items' = .ok gs' := by
  intro items items'
  have h : noNesting items = true ∧ flatWF items = true ∧ (∃ gs, parseGroups items = .ok gs ∧ true = true) ∧
      ¬ ((items.map mkBlk).map (·.item)).Nodup := by decide +kernel
  obtain ⟨hn, hwf, ⟨gs, hgs, _⟩, hnd⟩ := h
  exact ⟨hnd, (C05_flat_acceptance_order_free items items' (List.Perm.cons _ (List.Perm.swap _ _ [])) hn hwf).1.1 ⟨gs, hgs⟩⟩

end FlatNonVacuity

end DI

/-
  C13 — parameter canonicalisation (`param.rs`, model `Canon.lean`): property theorems.
  Proofs are in `Lemmas/CanonLemmas.lean` (which uses `Nat.repr_injective` from Std through `Lemmas/Names.lean`).

  Indexer: every traversal (`ixT`, `ixL`, `ixRound`, `ixLoop`, `indexImpl`) is a composition of the primitive
  steps `ltIdent` / `tyIdent` / `coIdent` (`IxRel`, `ixT_rel` …), so anything the primitive steps preserve is
  preserved. `IxInv s`: the indices handed out are exactly `0 … next-1`, each once, across the three kinds
  (`IdxInv`), and per kind no name occurs twice among the indexed and the not yet indexed parameters.
  Resolver: `rsT` rewrites lifetimes and the first segment of type / expression paths only.
  Idempotence (`C13_canon_idem`): `canon (canon x) = canon x` under the executable condition `canonWF x`
  (`CanonWF.lean`; proofs in `Lemmas/CanonIdem.lean`): indexing commutes with the resolver when the names of the
  indexer state are renamed along (`C13_index_commutes`, `C13_indexImpl_commutes`), so the renaming computed for
  `canon x` is the identity and `canon x` is a fixed point by `C13_canon_fixed`. The clauses `deadFresh`, `rsOK` and (for
  type / const names) `namesDistinct` of `canonWF` are needed (`C13_canonWF_clauses_needed`).
  Declaration order (`C13_declOrder_*`, proofs in `Lemmas/CanonDeclOrder.lean`): permuting the generic parameter list of
  `impl<…>` changes neither the numbering nor anything of the canonical item except the order of the declarations,
  provided the declared type / const names are distinct (`C13_declOrder_counterexample`).
  Alpha-invariance (`C13_alpha_*`, proofs in `Lemmas/CanonAlpha.lean`): consistently respelling the declared parameters
  (`alphaRename π`) does not change the canonical item, under the executable conditions `canonWF item` and
  `alphaOK π item`; the conditions that matter have counterexamples (`C13_alpha_*_counterexample*`). The canonical
  *header* is invariant also when parameters that occur nowhere are respelled (`C13_alpha_header_any`, by the completeness
  of the indexer `C13_indexer_complete`; proofs in `Lemmas/CanonAlphaHeader.lean`). The executable definitions
  (`alphaRename`, `alphaOK`, `setParams`, `hdrVis`, …) are in `CanonAlphaDefs.lean` (core only).
  Canonicalisation IS a renaming (`C13_canon_is_renaming*`, proofs in `Lemmas/CanonIsRenaming.lean`, executable definitions
  in `Lemmas/CanonIsRenamingDefs.lean`, core only): `canon item` is the textual renaming of `item` by the computed
  renaming, followed by the one presentation change of the resolver (`T::A` is printed `<_ŠČn>::A`).
  Round trip and converse of alpha-invariance (`C13_round_trip`, `C13_same_canon_only_if_renaming`, proofs in
  `Lemmas/CanonRoundTrip.lean`, executable definitions in `Lemmas/CanonRoundTripDefs.lean`, core only): the block is
  recovered from its canonical form by the inverse renaming, and two blocks with the same canonical form are textual
  renamings of each other, under the executable condition `roundTripOK_rt`.
-/
import DisjointImpls.Lemmas.CanonLemmas
import DisjointImpls.Lemmas.CanonIdem
import DisjointImpls.Lemmas.CanonDeclOrder
import DisjointImpls.Lemmas.CanonAlpha
import DisjointImpls.Lemmas.CanonAlphaHeader
import DisjointImpls.Lemmas.CanonIsRenaming
import DisjointImpls.Lemmas.CanonRoundTrip
import DisjointImpls.Lemmas.CanonHeaderConverse
import DisjointImpls.Group
namespace DI

/-! ## The indexer -/

theorem C13_ix_preserves (s : IxState) (t : T) : IxInv s → IxInv (ixT s t) := ixT_rel ixInv_rel t s
theorem C13_ixL_preserves (s : IxState) (ts : List T) : IxInv s → IxInv (ixL s ts) :=
  ixL_rel ixInv_rel ts (fun t _ => ixT_rel ixInv_rel t) s
theorem C13_ixRound_preserves (s : IxState) (g : T) : IxInv s → IxInv (ixRound s g) := ixRound_rel ixInv_rel s g
theorem C13_ixLoop_preserves (fuel prev : Nat) (s : IxState) (g : T) : IxInv s → IxInv (ixLoop fuel prev s g) :=
  ixLoop_rel ixInv_rel fuel prev s g

/-- the declared parameter names of an impl, per kind (what the indexer starts from) -/
def declaredLt (item : T) : List String := (ixInit item).unLt
def declaredTy (item : T) : List String := (ixInit item).unTy
def declaredCo (item : T) : List String := (ixInit item).unCo

/-- the invariant holds after indexing an impl whose declared names are distinct per kind -/
theorem C13_indexImpl_inv (item : T) (hlt : (declaredLt item).Nodup) (hty : (declaredTy item).Nodup)
    (hco : (declaredCo item).Nodup) : IxInv (indexImpl item) :=
  indexImpl_inv item hlt hty hco

/-- the indices are exactly `0 … next-1`, each used once — no hypothesis needed -/
theorem C13_indices_exact (item : T) :
    (indexImpl item).idxs.Nodup ∧ (∀ i, i ∈ (indexImpl item).idxs ↔ i < (indexImpl item).next) ∧
    (indexImpl item).idxs.length = (indexImpl item).next :=
  indexImpl_idxInv item

/-- distinct parameters receive distinct canonical names, and the names used are exactly
    `_ŠČ0 … _ŠČ(next-1)`: the new names are the images of the indices under the injective `genIndexedIdent` -/
theorem C13_injective (item : T) :
    let s := indexImpl item
    let r := s.renaming
    ((r.lt ++ r.ty ++ r.co).map Prod.snd).Nodup ∧
    (∀ x, x ∈ (r.lt ++ r.ty ++ r.co).map Prod.snd ↔ ∃ i, i < s.next ∧ x = genIndexedIdent i) ∧
    (∀ i j, genIndexedIdent i = genIndexedIdent j → i = j) := by
  intro s r
  obtain ⟨h1, h2, _⟩ := indexImpl_idxInv item
  have hr : (r.lt ++ r.ty ++ r.co).map Prod.snd = s.idxs.map genIndexedIdent := renaming_new_names s
  refine ⟨?_, ?_, fun i j => genIndexedIdent_inj⟩
  · rw [hr]
    exact List.Pairwise.map genIndexedIdent (fun a b hab e => hab (genIndexedIdent_inj e)) h1
  · intro x
    rw [hr, List.mem_map]
    constructor
    · rintro ⟨i, hi, rfl⟩; exact ⟨i, (h2 i).1 hi, rfl⟩
    · rintro ⟨i, hi, rfl⟩; exact ⟨i, (h2 i).2 hi, rfl⟩

/-- only declared parameters are ever indexed: per kind, the indexed names together with the not yet indexed
    ones are a rearrangement of the declared names (so nothing is invented, nothing is lost) -/
theorem C13_indexed_are_declared (item : T) :
    let s := indexImpl item
    (s.ixLt.map Prod.fst ++ s.unLt).Perm (declaredLt item) ∧
    (s.ixTy.map Prod.fst ++ s.unTy).Perm (declaredTy item) ∧
    (s.ixCo.map Prod.fst ++ s.unCo).Perm (declaredCo item) := by
  have := indexImpl_rel sameNames_rel item
  simpa [SameNames, IxState.namesLt, IxState.namesTy, IxState.namesCo, ixInit, declaredLt, declaredTy,
    declaredCo] using this

/-- … and each at most once: with distinct declared names, no name is indexed twice and no indexed name is
    still waiting -/
theorem C13_indexed_once (item : T) (hty : (declaredTy item).Nodup) :
    ((indexImpl item).ixTy.map Prod.fst).Nodup ∧
    (∀ x ∈ (indexImpl item).ixTy.map Prod.fst, x ∈ declaredTy item ∧ x ∉ (indexImpl item).unTy) := by
  have hp := (C13_indexed_are_declared item).2.1
  have hn := hp.nodup_iff.2 hty
  rw [List.nodup_append] at hn
  refine ⟨hn.1, fun x hx => ⟨hp.mem_iff.1 (List.mem_append.2 (Or.inl hx)), fun hu => hn.2.2 x hx x hu rfl⟩⟩

/-! ## The resolver -/

/-- node kinds other than `Type::Path` / `Expr::Path` are kept, the node is rebuilt around its rewritten
    children (`Ign`, `Eq` leaves and well-formed `Lifetime` nodes have their own statements below) -/
theorem C13_rs_kind_preserved (r : Renaming) (k : String) (as : List String) (ks : List T)
    (h1 : k ≠ "Ign") (h2 : k ≠ "Eq") (h3 : k ≠ "Lifetime") (h4 : k ≠ "Type::Path") (h5 : k ≠ "Expr::Path") :
    rsT r (.node k as ks) = .node k as (rsL r ks) :=
  rsT_other r as ks ⟨h1, h2, h3, h4, h5⟩

/-- ignored children and verbatim leaves are never touched -/
theorem C13_rs_ign (r : Renaming) (as : List String) (ks : List T) :
    rsT r (.node "Ign" as ks) = .node "Ign" as ks ∧ rsT r (.node "Eq" as ks) = .node "Eq" as ks :=
  ⟨rsT_ign r as ks, rsT_eq r as ks⟩

/-- an identifier leaf (trait names in bounds, path tails, fields, methods, declared names) is never rewritten
    by the resolver -/
theorem C13_rs_ident (r : Renaming) (x : String) : rsT r (.node "Ident" [x] []) = .node "Ident" [x] [] := by
  rw [rsT_other r _ _ (by simp), rsL]

/-- lifetimes are renamed by the lifetime map only -/
theorem C13_rs_lifetime (r : Renaming) (as : List String) (x : String) :
    rsT r (.node "Lifetime" as [.node "Ident" [x] []]) =
      .node "Lifetime" as [.node "Ident" [(rlookup r.lt x).getD x] []] := rsT_lifetime r as x

/-- with the empty renaming nothing changes -/
theorem C13_rs_empty (t : T) : rsT ⟨[], [], []⟩ t = t := rsT_empty t

/-- the renaming is simultaneous (capture-free): a parameter occurrence is looked up once in the *old* names;
    the name produced is not looked up again -/
theorem C13_rs_simultaneous (r : Renaming) (n : String) :
    rsT r (.tparam n) = .tparam ((rlookup r.ty n).getD n) ∧
    rsT r (.eparam n) = .eparam (((rlookup r.ty n).or (rlookup r.co n)).getD n) :=
  ⟨rsT_tparam r n, rsT_eparam r n⟩

/-- an identity renaming changes nothing on a tree without a path that starts with a renamed name -/
theorem C13_rs_identity (r : Renaming) (hid : r.isId = true) (t : T) (hs : rsStable r t = true) : rsT r t = t :=
  rsT_id r hid t hs

/-- idempotence on canonical input: if the declared names are already the canonical ones in first-occurrence
    order (the computed renaming is the identity) and no path starts with one of them, nothing changes -/
theorem C13_canon_fixed (item : T) (h : alreadyCanonical item = true) : canon item = item := canon_fixed item h


/-! ## Idempotence -/

/-- the commuting lemma: indexing the rewritten tree from the state with renamed names is indexing the tree and
    renaming the names of the resulting state. `Stat c`: only declared names are renamed, the new spelling is
    injective on the declared names across the kinds, no name is declared in two kinds; `Un c s`: the parameters
    still waiting in `s` are declared ones; `rsOK c t`: the executable condition on the tree (`CanonWF.lean`) -/
theorem C13_index_commutes (c : CCtx) (st : Stat c) (t : T) (hok : rsOK c t = true) (s : IxState) (hu : Un c s) :
    ixT (mapS c.r s) (rsT c.r t) = mapS c.r (ixT s t) := ixT_comm c st t hok s hu

/-- `Stat` holds for the renaming the indexer computes, under the executable conditions -/
theorem C13_canonWF_stat (item : T) (hd : namesDistinct (canonCtx item) = true) (hf : deadFresh item = true) :
    Stat (canonCtx item) := canon_stat item hd hf

/-- … through the rounds over the bounds of the indexed parameters and the where-clause as well: indexing the
    canonicalised impl gives the state of the first indexing with the names replaced by their canonical names
    (same indices, same order) -/
theorem C13_indexImpl_commutes (item : T) (h : canonWF item = true) :
    indexImpl (canon item) = mapS (indexImpl item).renaming (indexImpl item) := canonWF_indexImpl_comm item h

/-- the canonicalised impl satisfies the side condition of `C13_canon_fixed` -/
theorem C13_canon_is_canonical (item : T) (h : canonWF item = true) : alreadyCanonical (canon item) = true :=
  canon_alreadyCanonical item h

/-- **idempotence of canonicalisation** -/
theorem C13_canon_idem (item : T) (h : canonWF item = true) : canon (canon item) = canon item := canon_idem item h

/-! ## Closed examples -/

namespace Ex13
def leaf (s : String) : T := .node s [] []
def attrs : T := .node "Ign" [] [.node "List" [] []]
def seg (x : String) : T := .node "PathSegment" [] [.node "Ident" [x] [], leaf "PathArguments::None"]
def path (segs : List T) : T := .node "Path" [] [.node "IgnL" [] [leaf "None"], .node "List" [] segs]
def tyPath (segs : List T) : T := .node "Type::Path" [] [leaf "None", path segs]
def tyParam (x : String) (bounds : List T) : T :=
  .node "GenericParam::Type" [] [.node "TypeParam" [] [attrs, .node "Ident" [x] [], leaf "None",
    .node "List" [] bounds, leaf "None", leaf "None"]]
def traitBound (p : T) : T :=
  .node "TypeParamBound::Trait" [] [.node "TraitBound" [] [leaf "None", leaf "TraitBoundModifier::None", leaf "None", p]]
/-- `name<arg>` as a path -/
def trWith (name : String) (arg : T) : T :=
  path [.node "PathSegment" [] [.node "Ident" [name] [], .node "PathArguments::AngleBracketed" [] [.node "Ign" [] [leaf "None"],
    .node "List" [] [.node "GenericArgument::Type" [] [arg]]]]]
def implOf (params : List T) (self : T) : T :=
  .node "ItemImpl" [] [attrs, leaf "None", leaf "None",
    .node "Generics" [] [leaf "Some", .node "List" [] params, leaf "Some", leaf "None"],
    .node "Some" [] [.node "Tuple" [] [leaf "None", path [seg "Kita"]]], self, .node "List" [] []]
def tuple (ts : List T) : T := .node "Type::Tuple" [] [.node "List" [] ts]

/-- `impl<_ŠČ1: Tr<_ŠČ0>, _ŠČ0> Kita for (_ŠČ1, _ŠČ0) {}`: the two reserved names in the "wrong" order -/
def swapped : T :=
  implOf [tyParam "_ŠČ1" [traitBound (trWith "Tr" (.tparam "_ŠČ0"))], tyParam "_ŠČ0" []] (tuple [.tparam "_ŠČ1", .tparam "_ŠČ0"])
def swappedCanon : T :=
  implOf [tyParam "_ŠČ0" [traitBound (trWith "Tr" (.tparam "_ŠČ1"))], tyParam "_ŠČ1" []] (tuple [.tparam "_ŠČ0", .tparam "_ŠČ1"])

/-- `impl<U, T: Tr<U>> Kita for (T, T::Target) {}`: user names, `U` reached only through the bound of `T`,
    a multi-segment path -/
def named : T :=
  implOf [tyParam "U" [], tyParam "T" [traitBound (trWith "Tr" (tyPath [seg "U"]))]]
    (tuple [tyPath [seg "T"], tyPath [seg "T", seg "Target"]])
def namedCanon : T :=
  implOf [tyParam "_ŠČ1" [], tyParam "_ŠČ0" [traitBound (trWith "Tr" (.tparam "_ŠČ1"))]]
    (tuple [.tparam "_ŠČ0", .node "Type::Path" [] [.node "Some" [] [.node "QSelf" [] [.tparam "_ŠČ0", .node "Atom" ["0"] [], leaf "None"]],
      .node "Path" [] [.node "IgnL" [] [.node "Some" ["PathSep"] []], .node "List" [] [seg "Target"]]]])
def lifetime (x : String) : T := .node "Lifetime" [] [.node "Ident" [x] []]
def ltParam (x : String) : T :=
  .node "GenericParam::Lifetime" [] [.node "LifetimeParam" [] [attrs, lifetime x, leaf "None", .node "List" [] []]]
def coParam (x : String) : T :=
  .node "GenericParam::Const" [] [.node "ConstParam" [] [attrs, .node "Ident" [x] [], tyPath [seg "usize"], leaf "None", leaf "None"]]
def exprPath (segs : List T) : T := .node "Expr::Path" [] [attrs, leaf "None", path segs]
def array (elem len : T) : T := .node "Type::Array" [] [elem, len]
def wherePred (bounded : T) (bounds : List T) : T :=
  .node "WherePredicate::Type" [] [.node "PredicateType" [] [leaf "None", bounded, .node "List" [] bounds]]
/-- like `implOf`, with trait path and where-clause -/
def implOfW (params : List T) (tr : T) (self : T) (preds : List T) : T :=
  .node "ItemImpl" [] [attrs, leaf "None", leaf "None",
    .node "Generics" [] [leaf "Some", .node "List" [] params, leaf "Some",
      .node "Some" [] [.node "WhereClause" [] [.node "List" [] preds]]],
    .node "Some" [] [.node "Tuple" [] [leaf "None", tr]], self, .node "List" [] []]
def kitaLt (x : String) : T :=
  path [.node "PathSegment" [] [.node "Ident" ["Kita"] [], .node "PathArguments::AngleBracketed" [] [.node "Ign" [] [leaf "None"],
    .node "List" [] [.node "GenericArgument::Lifetime" [] [lifetime x]]]]]
def qselfTy (self : T) (segs : List T) : T :=
  .node "Type::Path" [] [.node "Some" [] [.node "QSelf" [] [self, .node "Atom" ["1"] [], leaf "Some"]], path segs]

/-- `impl<'a, T: Tr<U>, U, const N: usize> Kita<'a> for [T; N] where U: Tr<T::Target> {}` -/
def mixed : T :=
  implOfW [ltParam "a", tyParam "T" [traitBound (trWith "Tr" (tyPath [seg "U"]))], tyParam "U" [], coParam "N"]
    (kitaLt "a") (array (tyPath [seg "T"]) (exprPath [seg "N"]))
    [wherePred (tyPath [seg "U"]) [traitBound (trWith "Tr" (tyPath [seg "T", seg "Target"]))]]

/-- `impl<_ŠČ0: Tr<U>, T, U> Kita for T {}` -/
def cxDead : T := implOf [tyParam "_ŠČ0" [traitBound (trWith "Tr" (tyPath [seg "U"]))], tyParam "T" [], tyParam "U" []] (tyPath [seg "T"])
/-- `impl<'a, a: Tr<U>, U> Kita for a {}`: a lifetime and a type parameter of one spelling (legal) -/
def ltTySame : T := implOf [ltParam "a", tyParam "a" [traitBound (trWith "Tr" (tyPath [seg "U"]))], tyParam "U" []] (tyPath [seg "a"])
/-- `impl<N, const N: usize, U> Kita for ([u8; N], [u8; N], U) {}`: a type and a const parameter of one spelling
    (E0403 in Rust) -/
def cxNames : T := implOf [tyParam "N" [], coParam "N", tyParam "U" []]
  (tuple [array (tyPath [seg "u8"]) (exprPath [seg "N"]), array (tyPath [seg "u8"]) (exprPath [seg "N"]), tyPath [seg "U"]])
/-- `impl<T, U> Kita for (_ŠČ1, T, U) {}` -/
def cxCapture : T := implOf [tyParam "T" [], tyParam "U" []] (tuple [.tparam "_ŠČ1", tyPath [seg "T"], tyPath [seg "U"]])
/-- `impl<T, U> Kita for (T::U,) {}` -/
def cxSecond : T := implOf [tyParam "T" [], tyParam "U" []] (tuple [tyPath [seg "T", seg "U"]])
/-- `impl<T, Clone> Kita for <T as Clone>::Out {}` -/
def cxQself : T := implOf [tyParam "T" [], tyParam "Clone" []] (qselfTy (tyPath [seg "T"]) [seg "Clone", seg "Out"])
/-- `impl<const N: usize, const M: usize> Kita for ([u8; N::X], [u8; M]) {}` -/
def cxConst : T := implOf [coParam "N", coParam "M"]
  (tuple [array (tyPath [seg "u8"]) (exprPath [seg "N", seg "X"]), array (tyPath [seg "u8"]) (exprPath [seg "M"])])
end Ex13

section Examples
open Ex13

/-- swapping two reserved names works: header, bound and declarations are renamed consistently in one pass -/
theorem C13_swap_example :
    (indexImpl swapped).renaming = ⟨[], [("_ŠČ1", "_ŠČ0"), ("_ŠČ0", "_ŠČ1")], []⟩ ∧ canon swapped = swappedCanon := by
  decide +kernel

/-- user names; a parameter first seen in a bound is numbered after those of the header; `T::Target` becomes
    `<_ŠČ0>::Target` -/
theorem C13_named_example :
    (indexImpl named).renaming = ⟨[], [("T", "_ŠČ0"), ("U", "_ŠČ1")], []⟩ ∧ canon named = namedCanon := by
  decide +kernel

/-- idempotence on the examples, and non-vacuity of `C13_canon_fixed` -/
theorem C13_idempotent_examples :
    canon (canon swapped) = canon swapped ∧ canon (canon named) = canon named ∧
    alreadyCanonical (canon swapped) = true ∧ alreadyCanonical (canon named) = true ∧
    alreadyCanonical swapped = false := by
  decide +kernel


/-- non-vacuity of `C13_canon_idem`: user names, reserved names in the wrong order, and a block with a lifetime, a
    const parameter, a where-clause and a multi-segment path -/
theorem C13_canonWF_examples :
    canonWF named = true ∧ canonWF swapped = true ∧ canonWF mixed = true ∧
    (indexImpl mixed).renaming = ⟨[("a", "_ŠČ0")], [("T", "_ŠČ1"), ("U", "_ŠČ3")], [("N", "_ŠČ2")]⟩ ∧
    canonWF (canon mixed) = true := by
  decide +kernel

/-- a lifetime and a type parameter may share their spelling (`'a` next to `a`): the declaration of the type
    parameter is found (its bound is walked, `U` is numbered), and the block satisfies `canonWF` -/
theorem C13_lifetime_and_type_of_one_name :
    (indexImpl ltTySame).renaming = ⟨[], [("a", "_ŠČ0"), ("U", "_ŠČ1")], []⟩ ∧ canonWF ltTySame = true ∧
    canon (canon ltTySame) = canon ltTySame := by
  decide +kernel

/-- three of the four clauses of `canonWF` are needed (`implDeclsOK` has no such example): six blocks, each violating
    exactly one clause (`deadFresh`, `namesDistinct`, and four ways of violating `rsOK`: a free type spelled like a name handed out, a second path
    segment spelled like a parameter, a qualified path whose trait is spelled like a parameter — the open finding
    F-C13-qualified-path-trait-capture —, a const parameter at the head of a longer path), and canonicalising twice
    changes each of them. (`cxNames` — a type and a const parameter of one name — is rejected by rustc, E0403; for
    the other half of `namesDistinct`, distinct lifetimes, no block that canonicalises differently the second time is
    known: the proof uses it to read the identity renaming off the canonical block.) -/
theorem C13_canonWF_clauses_needed :
    (deadFresh cxDead = false ∧ canon (canon cxDead) ≠ canon cxDead) ∧
    (namesDistinct (canonCtx cxNames) = false ∧ canon (canon cxNames) ≠ canon cxNames) ∧
    (rsOK (canonCtx cxCapture) cxCapture = false ∧ canon (canon cxCapture) ≠ canon cxCapture) ∧
    (rsOK (canonCtx cxSecond) cxSecond = false ∧ canon (canon cxSecond) ≠ canon cxSecond) ∧
    (rsOK (canonCtx cxQself) cxQself = false ∧ canon (canon cxQself) ≠ canon cxQself) ∧
    (rsOK (canonCtx cxConst) cxConst = false ∧ canon (canon cxConst) ≠ canon cxConst) := by
  decide +kernel

/-- … and only that clause -/
theorem C13_canonWF_one_clause_each :
    [cxDead, cxNames, cxCapture, cxSecond, cxQself, cxConst].map
      (fun x => (implDeclsOK x, namesDistinct (canonCtx x), deadFresh x, rsOK (canonCtx x) x)) =
    [(true, true, false, true), (true, false, true, true), (true, true, true, false), (true, true, true, false),
     (true, true, true, false), (true, true, true, false)] := by
  decide +kernel

/-- the side condition of `C13_rs_identity` is needed: a multi-segment path is rebuilt as `<T>::A` even by an
    identity renaming -/
theorem C13_rs_identity_counterexample :
    let r : Renaming := ⟨[], [("_ŠČ0", "_ŠČ0")], []⟩
    let t : T := tyPath [seg "_ŠČ0", seg "Target"]
    r.isId = true ∧ rsStable r t = false ∧ rsT r t ≠ t := by
  decide +kernel

/-- the declared names of the examples are distinct (hypothesis of `C13_indexImpl_inv`) -/
example : (declaredTy named).Nodup ∧ declaredTy named = ["U", "T"] ∧ (declaredLt named).Nodup ∧ (declaredCo named).Nodup := by
  decide +kernel
end Examples

/-! ## Declaration order

`setParams ps' item` is `item` with the list of generic parameters in `impl<…>` replaced by `ps'`; `implParams item` is
that list. Side conditions (both executable, both part of `canonWF`): `implDeclsOK item` (the parameter list has the
shape the decoder produces) and `namesDistinct (canonCtx item)` (of which only "the declared type and const names are
pairwise distinct" is used: `paramNode` looks a declaration up by name and takes the first one). -/

/-- **the numbering does not depend on the declaration order**: the indexer computes the same renaming for an impl and
    for the impl with its generic parameter list permuted -/
theorem C13_declOrder_renaming (item : T) (ps' : List T) (hdecl : implDeclsOK item = true)
    (hd : namesDistinct (canonCtx item) = true) (hp : ps'.Perm (implParams item)) :
    (indexImpl (setParams ps' item)).renaming = (indexImpl item).renaming :=
  (declOrder_permS item ps' hdecl hd hp).renaming

/-- … the whole final state of the indexer is the same, except for the order of the parameters that were never reached -/
theorem C13_declOrder_state (item : T) (ps' : List T) (hdecl : implDeclsOK item = true)
    (hd : namesDistinct (canonCtx item) = true) (hp : ps'.Perm (implParams item)) :
    PermS (indexImpl (setParams ps' item)) (indexImpl item) :=
  declOrder_permS item ps' hdecl hd hp

/-- **canonicalisation commutes with permuting the declarations**: the canonical form of the permuted impl is the
    canonical form of the impl with its (renamed) parameter list permuted the same way (`declF r` is what
    canonicalisation does to one declaration); everything else is identical -/
theorem C13_declOrder_canon (item : T) (ps' : List T) (hdecl : implDeclsOK item = true)
    (hd : namesDistinct (canonCtx item) = true) (hp : ps'.Perm (implParams item)) :
    canon (setParams ps' item) = setParams (ps'.map (declF (indexImpl item).renaming)) (canon item) ∧
    (ps'.map (declF (indexImpl item).renaming)).Perm (implParams (canon item)) := by
  obtain ⟨h1, h2⟩ := declOrder_canon item ps' hdecl hd hp
  exact ⟨h1, h2 ▸ hp.map _⟩

/-- in particular the canonical header (group id: trait path and self type), the trait, the self type, the items and the
    where-clause are the same -/
theorem C13_declOrder_header (item : T) (ps' : List T) (hdecl : implDeclsOK item = true)
    (hd : namesDistinct (canonCtx item) = true) (hp : ps'.Perm (implParams item)) :
    groupIdOf (canon (setParams ps' item)) = groupIdOf (canon item) ∧
    implTrait (canon (setParams ps' item)) = implTrait (canon item) ∧
    implSelfTy (canon (setParams ps' item)) = implSelfTy (canon item) ∧
    implItems (canon (setParams ps' item)) = implItems (canon item) ∧
    genericsWhere ((implGenerics (canon (setParams ps' item))).getD (.node "?" [] [])) =
      genericsWhere ((implGenerics (canon item)).getD (.node "?" [] [])) := by
  rw [(declOrder_canon item ps' hdecl hd hp).1]
  exact ⟨mkHdr_setParams _ _, implTrait_setParams _ _, implSelfTy_setParams _ _, implItems_setParams _ _,
    genericsWhere_setParams _ _⟩

namespace Ex13
/-- `impl<T: Tr<U>, U> Kita for (T, T::Target) {}`: `named` with the declarations swapped -/
def namedSwParams : List T := [tyParam "T" [traitBound (trWith "Tr" (tyPath [seg "U"]))], tyParam "U" []]
/-- `mixed` with its four declarations in another order: `impl<const N: usize, U, 'a, T: Tr<U>> …` -/
def mixedPermParams : List T := [coParam "N", tyParam "U" [], ltParam "a", tyParam "T" [traitBound (trWith "Tr" (tyPath [seg "U"]))]]
/-- `impl<T: Tr<U>, T: Tr<V>, U, V> Kita for T {}` (E0403 in Rust): two declarations of one name -/
def dupDecl : T := implOf [tyParam "T" [traitBound (trWith "Tr" (tyPath [seg "U"]))],
  tyParam "T" [traitBound (trWith "Tr" (tyPath [seg "V"]))], tyParam "U" [], tyParam "V" []] (tyPath [seg "T"])
def dupDeclParams : List T := [tyParam "T" [traitBound (trWith "Tr" (tyPath [seg "V"]))],
  tyParam "T" [traitBound (trWith "Tr" (tyPath [seg "U"]))], tyParam "U" [], tyParam "V" []]
end Ex13

section OrderExamples
open Ex13

/-- non-vacuity of the `C13_declOrder_*` theorems: `impl<U, T: Tr<U>>` against `impl<T: Tr<U>, U>`, and the block with a
    lifetime, two type parameters, a const parameter and a where-clause against a rearrangement of its declarations -/
theorem C13_declOrder_examples :
    (implDeclsOK named = true ∧ namesDistinct (canonCtx named) = true ∧ namedSwParams.Perm (implParams named) ∧
      setParams namedSwParams named ≠ named ∧
      canon (setParams namedSwParams named) ≠ canon named ∧
      groupIdOf (canon (setParams namedSwParams named)) = groupIdOf (canon named)) ∧
    (implDeclsOK mixed = true ∧ namesDistinct (canonCtx mixed) = true ∧ mixedPermParams.Perm (implParams mixed) ∧
      setParams mixedPermParams mixed ≠ mixed ∧
      (indexImpl (setParams mixedPermParams mixed)).renaming = ⟨[("a", "_ŠČ0")], [("T", "_ŠČ1"), ("U", "_ŠČ3")], [("N", "_ŠČ2")]⟩) := by
  have facts :
      (implDeclsOK named = true ∧ namesDistinct (canonCtx named) = true ∧ setParams namedSwParams named ≠ named ∧
        canon (setParams namedSwParams named) ≠ canon named ∧
        groupIdOf (canon (setParams namedSwParams named)) = groupIdOf (canon named)) ∧
      (implDeclsOK mixed = true ∧ namesDistinct (canonCtx mixed) = true ∧ setParams mixedPermParams mixed ≠ mixed ∧
        (indexImpl (setParams mixedPermParams mixed)).renaming =
          ⟨[("a", "_ŠČ0")], [("T", "_ŠČ1"), ("U", "_ŠČ3")], [("N", "_ŠČ2")]⟩) := by decide +kernel
  obtain ⟨⟨n1, n2, n3, n4, n5⟩, m1, m2, m3, m4⟩ := facts
  refine ⟨⟨n1, n2, List.Perm.swap _ _ _, n3, n4, n5⟩, m1, m2, ?_, m3, m4⟩
  show [coParam "N", tyParam "U" [], ltParam "a", tyParam "T" [traitBound (trWith "Tr" (tyPath [seg "U"]))]].Perm
    [ltParam "a", tyParam "T" [traitBound (trWith "Tr" (tyPath [seg "U"]))], tyParam "U" [], coParam "N"]
  refine List.Perm.trans ?_ (List.perm_middle (l₁ := [ltParam "a", tyParam "T" _, tyParam "U" []]) (l₂ := [])).symm
  refine List.Perm.cons _ ?_
  refine List.Perm.trans ?_ (List.perm_middle (l₁ := [ltParam "a", tyParam "T" _]) (l₂ := [])).symm
  exact List.Perm.cons _ (List.Perm.refl _)

/-- the distinctness of the declared names is needed: with two declarations of one name (rejected by rustc, E0403) the
    bounds of the first one are walked, so swapping them changes the numbering and the canonical header stays but the
    renaming differs -/
theorem C13_declOrder_counterexample :
    implDeclsOK dupDecl = true ∧ namesDistinct (canonCtx dupDecl) = false ∧ dupDeclParams.Perm (implParams dupDecl) ∧
    (indexImpl (setParams dupDeclParams dupDecl)).renaming ≠ (indexImpl dupDecl).renaming := by
  have facts : implDeclsOK dupDecl = true ∧ namesDistinct (canonCtx dupDecl) = false ∧
      (indexImpl (setParams dupDeclParams dupDecl)).renaming ≠ (indexImpl dupDecl).renaming := by decide +kernel
  exact ⟨facts.1, facts.2.1, List.Perm.swap _ _ _, facts.2.2⟩
end OrderExamples

/-! ## Alpha-invariance

`alphaRename π item` (`CanonAlphaDefs.lean`) is the user-level consistent renaming of the declared generic parameters
by the per-kind map `π` (lifetimes / types / consts): the declarations in `impl<…>`, every lifetime, every lone parameter
path, and the identifier of the first segment of every longer type or expression path (`T::Assoc` becomes `T'::Assoc`;
the resolver would write `<T'>::Assoc`). Ignored children (attributes …) and verbatim leaves are kept, nothing else
changes. The renaming never converts between the two spellings of a lone path (`tparam` / `eparam` for reserved
identifiers `_ŠČ…`, `Type::Path` / `Expr::Path` for ordinary ones), so it is the textual renaming exactly for maps that
relate reserved names to reserved names and ordinary names to ordinary names (`formOK π`, executable); the theorems hold
for every `π` on the tree level.

Executable side condition `alphaOK π item`:
* `domOK`     only declared parameters are respelled (per kind);
* `injOK`     the new spellings of the declared parameters are pairwise distinct per name space (lifetimes / types and
              consts together) — a parameter that is not respelled counts with its own spelling, so a new name does not
              clash with another declared name (swaps are fine);
* `deadFixed` a declared parameter the indexer never reaches is not respelled: it keeps its spelling in the canonical
              form (finding D21), so respelling it shows (`C13_alpha_dead_counterexample`);
* `alOK`      no capture: an identifier in parameter position that is not a declared parameter is not spelled like
              the new spelling of a declared one.
From `canonWF item` the theorems use `implDeclsOK`, `namesDistinct` and — of `rsOK` — only "an expression path whose
first segment is a const parameter is the bare identifier" (`C13_alpha_const_counterexample`). -/

/-- indexing the respelled impl gives the state of the original indexing with the names respelled: same indices, same
    order (`mapS π s` respells the names of `s`) -/
theorem C13_alpha_index (π : Renaming) (item : T) (hdecl : implDeclsOK item = true)
    (hd : namesDistinct (canonCtx item) = true) (hal : alphaOK π item = true) :
    indexImpl (alphaRename π item) = mapS π (indexImpl item) :=
  alpha_indexImpl π item hdecl hd hal

/-- resolving a respelled tree with a renaming that sends the new spellings to the canonical names is resolving the tree
    (`Comp`: what is needed of the two renamings; `alOK`: no capture; `rsOK cc t`: used for const-headed expression
    paths only) -/
theorem C13_alpha_resolve (c cc : CCtx) (r' : Renaming) (cp : Comp c cc.r r') (t : T) (h1 : alOK c t = true)
    (h2 : rsOK cc t = true) : rsT r' (arT c.r t) = rsT cc.r t :=
  rsT_arT c cc r' cp t h1 h2

/-- **alpha-invariance of canonicalisation**, with the pieces of `canonWF` that are used -/
theorem C13_alpha_invariance_of (π : Renaming) (item : T) (hdecl : implDeclsOK item = true)
    (hd : namesDistinct (canonCtx item) = true) (hrs : rsOK (canonCtx item) item = true)
    (hal : alphaOK π item = true) : canon (alphaRename π item) = canon item :=
  canon_alpha π item hdecl hd hrs hal

/-- **alpha-invariance of canonicalisation**: a block and the block with its generic parameters consistently respelled
    have the same canonical form (the whole item: header, declarations with their bounds, where-clause, items) -/
theorem C13_alpha_invariance (π : Renaming) (item : T) (hwf : canonWF item = true) (hal : alphaOK π item = true) :
    canon (alphaRename π item) = canon item := by
  simp only [canonWF, Bool.and_eq_true] at hwf
  exact canon_alpha π item hwf.1.1.1 hwf.1.1.2 hwf.2 hal

/-- in particular the same canonical header (group id) and the same extracted bounds -/
theorem C13_alpha_header (π : Renaming) (item : T) (hwf : canonWF item = true) (hal : alphaOK π item = true) :
    groupIdOf (canon (alphaRename π item)) = groupIdOf (canon item) ∧
    findBounds ((implGenerics (canon (alphaRename π item))).getD (.node "?" [] [])) =
      findBounds ((implGenerics (canon item)).getD (.node "?" [] [])) := by
  rw [C13_alpha_invariance π item hwf hal]
  exact ⟨rfl, rfl⟩

/-- the respelled block again has a well-formed parameter list with distinct names -/
theorem C13_alpha_decls (π : Renaming) (item : T) (hdecl : implDeclsOK item = true) (hal : alphaOK π item = true) :
    implDeclsOK (alphaRename π item) = true ∧ namesDistinct (canonCtx (alphaRename π item)) = true :=
  alpha_decls π item hdecl hal

namespace Ex13
/-- `T ↦ A, U ↦ B` -/
def piNamed : Renaming := ⟨[], [("T", "A"), ("U", "B")], []⟩
/-- `impl<B, A: Tr<B>> Kita for (A, A::Target) {}` -/
def namedAB : T :=
  implOf [tyParam "B" [], tyParam "A" [traitBound (trWith "Tr" (tyPath [seg "B"]))]]
    (tuple [tyPath [seg "A"], tyPath [seg "A", seg "Target"]])
/-- `'a ↦ 'b`, `T` and `U` swapped, `N ↦ M` -/
def piMixed : Renaming := ⟨[("a", "b")], [("T", "U"), ("U", "T")], [("N", "M")]⟩
/-- `impl<'b, U: Tr<T>, T, const M: usize> Kita<'b> for [U; M] where T: Tr<U::Target> {}` -/
def mixedRenamed : T :=
  implOfW [ltParam "b", tyParam "U" [traitBound (trWith "Tr" (tyPath [seg "T"]))], tyParam "T" [], coParam "M"]
    (kitaLt "b") (array (tyPath [seg "U"]) (exprPath [seg "M"]))
    [wherePred (tyPath [seg "T"]) [traitBound (trWith "Tr" (tyPath [seg "U", seg "Target"]))]]
/-- reserved names to reserved names: `_ŠČ1 ↦ _ŠČ5, _ŠČ0 ↦ _ŠČ1` -/
def piSwapped : Renaming := ⟨[], [("_ŠČ1", "_ŠČ5"), ("_ŠČ0", "_ŠČ1")], []⟩
/-- `impl<T, D> Kita for T {}`: `D` is never reached by the indexer -/
def alphaDead : T := implOf [tyParam "T" [], tyParam "D" []] (tyPath [seg "T"])
def piDead : Renaming := ⟨[], [("D", "E")], []⟩
def piConst : Renaming := ⟨[], [], [("N", "K")]⟩
/-- `impl<T> Kita for (T, u8) {}` with `T ↦ u8` -/
def alphaCapture : T := implOf [tyParam "T" []] (tuple [tyPath [seg "T"], tyPath [seg "u8"]])
def piCapture : Renaming := ⟨[], [("T", "u8")], []⟩
/-- `T ↦ U` on `named`, where `U` is declared and not respelled -/
def piClash : Renaming := ⟨[], [("T", "U")], []⟩
end Ex13

section AlphaExamples
open Ex13

/-- non-vacuity of the `C13_alpha_*` theorems: `impl<U, T: Tr<U>> Kita for (T, T::Target)` respelled to `A`, `B` (the
    multi-segment path becomes `A::Target`); the block with a lifetime, two type parameters (swapped!), a const parameter
    and a where-clause; reserved names respelled to reserved names -/
theorem C13_alpha_examples :
    (canonWF named = true ∧ alphaOK piNamed named = true ∧ alphaRename piNamed named = namedAB ∧
      canon namedAB = canon named) ∧
    (canonWF mixed = true ∧ alphaOK piMixed mixed = true ∧ alphaRename piMixed mixed = mixedRenamed ∧
      mixedRenamed ≠ mixed) ∧
    (canonWF swapped = true ∧ alphaOK piSwapped swapped = true ∧ alphaRename piSwapped swapped ≠ swapped) := by
  decide +kernel

/-- non-vacuity of `C13_alpha_resolve`: its hypothesis `Comp` holds for the renaming computed for `named` and the one
    computed for `named` respelled by `T ↦ A, U ↦ B` -/
example : Comp (alphaCtx piNamed named) (canonCtx named).r
    (mapS (alphaCtx piNamed named).r (indexImpl named)).renaming ∧
    alOK (alphaCtx piNamed named) named = true ∧ rsOK (canonCtx named) named = true := by
  have facts : namesDistinct (canonCtx named) = true ∧ domOK (alphaCtx piNamed named) = true ∧
      injOK (alphaCtx piNamed named) = true ∧ deadFixed piNamed named = true ∧
      alOK (alphaCtx piNamed named) named = true ∧ rsOK (canonCtx named) named = true := by decide +kernel
  obtain ⟨hd, hdom, hinj, hdead, hal, hrs⟩ := facts
  refine ⟨alpha_comp _ (alpha_stat _ _ hd hdom hinj) _ ?_ (deadFixed_un hdead), hal, hrs⟩
  intro k y; rw [alphaCtx_D]; exact canonCtx_mem_D _ k y

/-- a declared parameter that occurs nowhere keeps its spelling in the canonical form (finding D21), so respelling it
    changes the canonical item (not its header): `deadFixed` is needed for the equality of the items -/
theorem C13_alpha_dead_counterexample :
    canonWF alphaDead = true ∧
    (domOK (alphaCtx piDead alphaDead), injOK (alphaCtx piDead alphaDead), deadFixed piDead alphaDead,
      alOK (alphaCtx piDead alphaDead) alphaDead) = (true, true, false, true) ∧
    canon (alphaRename piDead alphaDead) ≠ canon alphaDead ∧
    groupIdOf (canon (alphaRename piDead alphaDead)) = groupIdOf (canon alphaDead) := by
  decide +kernel

/-- `impl<const N: usize, const M: usize> Kita for ([u8; N::X], [u8; M])` with `N ↦ K`: the resolver does not rewrite
    `N::X` (while the declaration is renamed), so the respelled `K::X` shows in the canonical form — the block violates
    `canonWF` (`rsOK`), `alphaOK` holds -/
theorem C13_alpha_const_counterexample :
    alphaOK piConst cxConst = true ∧ implDeclsOK cxConst = true ∧ namesDistinct (canonCtx cxConst) = true ∧
    rsOK (canonCtx cxConst) cxConst = false ∧ canon (alphaRename piConst cxConst) ≠ canon cxConst := by
  decide +kernel

/-- capture (`T ↦ u8` next to a use of `u8`) and a clash with another declared name (`T ↦ U` next to `U`) change the
    canonical form; each violates exactly one clause of `alphaOK` -/
theorem C13_alpha_capture_counterexamples :
    (canonWF alphaCapture = true ∧
      (domOK (alphaCtx piCapture alphaCapture), injOK (alphaCtx piCapture alphaCapture), deadFixed piCapture alphaCapture,
        alOK (alphaCtx piCapture alphaCapture) alphaCapture) = (true, true, true, false) ∧
      canon (alphaRename piCapture alphaCapture) ≠ canon alphaCapture) ∧
    (canonWF named = true ∧
      (domOK (alphaCtx piClash named), injOK (alphaCtx piClash named), deadFixed piClash named,
        alOK (alphaCtx piClash named) named) = (true, false, true, true) ∧
      canon (alphaRename piClash named) ≠ canon named) := by
  decide +kernel

/-- the maps of the examples relate ordinary names to ordinary names and reserved names to reserved names -/
theorem C13_alpha_forms : formOK piNamed = true ∧ formOK piMixed = true ∧ formOK piSwapped = true ∧
    formOK ⟨[], [("T", "_ŠČ7")], []⟩ = false := by
  decide +kernel
end AlphaExamples

/-! ## Alpha-invariance of the header when unused parameters are respelled as well

Respelling a declared parameter the indexer never reaches changes the canonical item (`C13_alpha_dead_counterexample`),
not its header: a name that occurs in a position the indexer visits is indexed (`C13_indexer_complete`), so the trait
path and the self type mention live parameters only. `alphaOKh` is `alphaOK` without `deadFixed`; `hdrVis item`
(executable) says that the indexer visits the whole trait and self type: they contain no `Generics` node (the indexer
has `visit_generics` switched off while the resolver rewrites inside — `C13_alpha_hidden_counterexample`) and the
attributes of their expression paths are ignored children (what the decoder produces). -/

/-- **completeness of the indexer**: after indexing a tree it visits completely, no name in a parameter position of the
    tree is still waiting (`IxInv s`, `Un c s`, `Stat c`: the invariants of the indexer under distinct declared names) -/
theorem C13_indexer_complete (c : CCtx) (st : Stat c) (t : T) (s : IxState) (hi : IxInv s) (hu : Un c s)
    (hv : ixVis t = true) : alP (livePred (ixT s t)) t = true :=
  ixT_complete c st t s hi hu hv

/-- **alpha-invariance of the canonical header**, also when parameters that occur nowhere are respelled -/
theorem C13_alpha_header_any (π : Renaming) (item : T) (hwf : canonWF item = true) (hal : alphaOKh π item = true)
    (hv : hdrVis item = true) : groupIdOf (canon (alphaRename π item)) = groupIdOf (canon item) := by
  simp only [canonWF, Bool.and_eq_true] at hwf
  exact canon_alpha_header π item hwf.1.1.1 hwf.1.1.2 hwf.2 hal hv

namespace Ex13
/-- `impl<T, D> Kita for (T, ⟨a nested generics node mentioning D⟩)`: the indexer does not look into `Generics` nodes -/
def alphaHidden : T :=
  implOf [tyParam "T" [], tyParam "D" []] (tuple [tyPath [seg "T"], .node "Generics" [] [tyPath [seg "D"]]])
end Ex13

section AlphaHeaderExamples
open Ex13

/-- non-vacuity of `C13_alpha_header_any`: `impl<T, D> Kita for T` with the unused `D` respelled (the canonical items
    differ, `C13_alpha_dead_counterexample`), and the examples of `C13_alpha_examples` -/
theorem C13_alpha_header_any_examples :
    (canonWF alphaDead = true ∧ alphaOKh piDead alphaDead = true ∧ hdrVis alphaDead = true ∧
      alphaOK piDead alphaDead = false) ∧
    (alphaOKh piNamed named = true ∧ hdrVis named = true) ∧ (alphaOKh piMixed mixed = true ∧ hdrVis mixed = true) := by
  decide +kernel

/-- `hdrVis` is needed: a parameter mentioned only inside a `Generics` node is never indexed, keeps its spelling, and
    the resolver leaves it alone — respelling it shows in the canonical header -/
theorem C13_alpha_hidden_counterexample :
    canonWF alphaHidden = true ∧ alphaOKh piDead alphaHidden = true ∧ hdrVis alphaHidden = false ∧
    groupIdOf (canon (alphaRename piDead alphaHidden)) ≠ groupIdOf (canon alphaHidden) := by
  decide +kernel
end AlphaHeaderExamples

/-! ## Canonicalisation IS a consistent textual renaming of the block

"The rewritten block means the same as the original" amounts, syntactically, to: `canon item` is `item` with its declared
parameters consistently respelled by the computed renaming `r = (indexImpl item).renaming` — the textual renaming of the
alpha-invariance section (declarations in `impl<…>`, every lifetime, every lone parameter path, the first segment of every
longer path; nothing else) — up to the one presentation change the resolver makes: `T::A` is printed `<_ŠČn>::A`.
**Trusted, not proved**: that `X::rest…` and `<X>::rest…` denote the same path when `X` is a type parameter (Rust's path
resolution), and that the theorems are about the PARSED tree (a macro body is a verbatim `Eq` leaf: a parameter mentioned
inside it is invisible to the code and to the model alike, `C13_renaming_macro_body_example`).

Definitions (`Lemmas/CanonIsRenamingDefs.lean`, all executable):
* `alphaRenameC_cr π item` (tree level `acT_cr`): the textual renaming `alphaRename π item` / `arT`, building for every lone
  parameter path the node form the decoder gives its NEW spelling — `tparam` / `eparam` for a reserved identifier `_ŠČ…`,
  a lone `Type::Path` / `Expr::Path` for an ordinary one (`alphaRename` never changes the form of a node, so it is the
  textual renaming only for maps relating reserved to reserved and ordinary to ordinary names, `formOK`; the canonical
  renaming maps ordinary names to reserved ones). The two coincide on `formOK` maps (`C13_alphaRenameC_eq_alphaRename`).
* `qsT_cr P`: every type / expression path `X::rest…` (no qualified self, no leading `::`, no arguments on `X`, at least one
  more segment) with `P X` is printed `<X>::rest…`, exactly as `qselfPath` / `rsTypePath` / `rsExprPath` print it (an
  expression path printed that way loses its attributes, as in the code: param.rs:377 replaces the whole `ExprPath`);
  nothing else changes. `qselfFormOf_cr names` is `qsT_cr` for "`X` is in `names`", `qselfForm_cr` for "`X` is a reserved
  identifier".
* `renOK_cr P r t`: EXACTLY what the equation needs of the tree — a path whose first segment is renamed by `r` is a plain
  `x` / `x::rest…` (the resolver drops a qualified self, a leading `::` and arguments on `x`) whose new first segment
  satisfies `P` if there are more segments; an expression path whose first segment is a renamed const parameter is the bare
  identifier (otherwise it is not rewritten at all while its declaration is); a path whose first segment is NOT renamed is
  not of the form `X::rest…` with `P X`. Nothing about capture, dead parameters or distinct names is needed for the
  equation itself. -/

/-- **the resolver's output is the textual renaming followed by the presentation change**, on any tree and for any
    renaming whose new type / const spellings are reserved identifiers (`reservedTargets_cr`, executable) -/
theorem C13_rs_is_renaming (P : String → Bool) (r : Renaming) (hr : r.reservedTargets_cr = true) (t : T)
    (h : renOK_cr P r t = true) : rsT r t = qsT_cr P (acT_cr r t) :=
  rsT_is_renaming_cr P r hr t h

/-- … for the whole block and the computed renaming (its new spellings are reserved: `renaming_reservedTargets_cr`);
    the condition is evaluated on the block before canonicalisation -/
theorem C13_canon_is_renaming_of (P : String → Bool) (item : T)
    (h : renOK_cr P (indexImpl item).renaming item = true) :
    canon item = qsT_cr P (alphaRenameC_cr (indexImpl item).renaming item) :=
  canon_is_renaming_of_cr P item h

/-- `canonWF` gives the condition for `P :=` "is one of the canonical names of the type parameters" -/
theorem C13_canonWF_renOK (item : T) (h : canonWF item = true) :
    renOK_cr (indexImpl item).renaming.tyNames_cr.contains (indexImpl item).renaming item = true :=
  canonWF_renOK_cr item h

/-- **canonicalisation IS the textual renaming of the block by the computed renaming**, up to `<_ŠČn>::rest…` for the
    canonical names `_ŠČn` of the type parameters. Side condition: `canonWF item` (executable) only. -/
theorem C13_canon_is_renaming (item : T) (h : canonWF item = true) :
    canon item = qselfFormOf_cr (indexImpl item).renaming.tyNames_cr
      (alphaRenameC_cr (indexImpl item).renaming item) :=
  canon_is_renaming_cr item h

/-- … with the presentation change for EVERY reserved identifier (`qselfForm_cr`, no reference to the renaming). Side
    condition `renamingShapeOK_cr item` (executable, `renOK_cr` for "is a reserved identifier"): it is the shape part of
    `canonWF` plus "no path `_ŠČk::rest…` of the block starts with a reserved identifier that is not a renamed type
    parameter" (`C13_renaming_stray_counterexample`); neither `canonWF` nor any no-capture condition is needed -/
theorem C13_canon_is_renaming_reserved (item : T) (h : renamingShapeOK_cr item = true) :
    canon item = qselfForm_cr (alphaRenameC_cr (indexImpl item).renaming item) :=
  canon_is_renaming_of_cr reserved_cr item h

/-- **the computed renaming is an admissible consistent respelling**: `canonWF item` gives every clause of the side
    condition `alphaOK` of alpha-invariance for `π := (indexImpl item).renaming` (only declared parameters are respelled,
    the new spellings are pairwise distinct per name space, unreached parameters keep their spelling, no capture) -/
theorem C13_canonWF_alphaOK (item : T) (h : canonWF item = true) : alphaOK (indexImpl item).renaming item = true :=
  canonWF_alphaOK_cr item h

/-- the decoder-form renaming is `alphaRename` for maps that relate reserved names to reserved names and ordinary names
    to ordinary names (`formOK π`), on blocks in decoder normal form (`decNF_cr`, executable: a `tparam` / `eparam` leaf is a
    reserved identifier, a lone `Type::Path` / `Expr::Path` is not) -/
theorem C13_alphaRenameC_eq_alphaRename (π : Renaming) (item : T) (hf : formOK π = true) (hn : decNF_cr item = true) :
    alphaRenameC_cr π item = alphaRename π item :=
  alphaRenameC_eq_cr π item hf hn

/-- **every occurrence is rewritten**: no old spelling of a renamed parameter is left in parameter position in the
    canonical block (`noOld_cr`, executable: lifetimes against the lifetime map, `tparam` leaves and first segments of type
    paths without qualified self against the type map, `eparam` leaves and first segments of expression paths without
    qualified self against the type and const maps; a name that is also one of the new names of its map may stay). The
    name spaces are the ones the code knows: a CONST parameter written in type position (`W<N>`, which syn parses as a
    type) is not an occurrence for it — finding D24, `C13_renaming_const_generic_arg_counterexample`. -/
theorem C13_canon_all_rewritten (P : String → Bool) (item : T)
    (h : renOK_cr P (indexImpl item).renaming item = true) :
    noOld_cr (indexImpl item).renaming (canon item) = true :=
  canon_noOld_cr P item h

theorem C13_canon_all_rewritten_wf (item : T) (h : canonWF item = true) :
    noOld_cr (indexImpl item).renaming (canon item) = true :=
  canon_noOld_cr _ item (canonWF_renOK_cr item h)

/-- **the declared parameter list is renamed position by position**: the `i`-th declaration of the canonical block is
    the `i`-th declaration of the block with its bounds resolved (`declF r`), of the same kind `k`, its name `y` respelled
    `rn (r.m k) y` (`r.m k`: the lifetime / type / const map) -/
theorem C13_canon_params (item : T) (hdecl : implDeclsOK item = true) (hd : namesDistinct (canonCtx item) = true) :
    implParams (canon item) = (implParams item).map (declF (indexImpl item).renaming) ∧
    ∀ p ∈ implParams item, ∃ k y, kindSel (kindStr k) p = some y ∧ paramIdent p = some y ∧
      kindSel (kindStr k) (declF (indexImpl item).renaming p) = some (rn ((indexImpl item).renaming.m k) y) ∧
      paramIdent (declF (indexImpl item).renaming p) = some (rn ((indexImpl item).renaming.m k) y) :=
  canon_params_cr item hdecl hd

/-- **nothing that is not an occurrence is rewritten** (frame property): a tree in which no identifier in parameter
    position — lifetime, `tparam` / `eparam` leaf, first segment of a type or expression path — is renamed by `r` in the map
    of ITS position (`untouchedP_cr r`: lifetime map / type map / type and const maps; executable through `alP`) is left
    exactly as it is: trait names, later path segments, field and method names, and identifiers that share their spelling
    with a parameter of another position (a lifetime `'T` next to a type `T`, a trait `N` next to a const `N`) are kept.
    The first segment of a QUALIFIED path counts as a parameter position for the code
    (`C13_renaming_shape_counterexamples`, finding F-C13-qualified-path-trait-capture). -/
theorem C13_rs_frame (r : Renaming) (t : T) (h : alP (untouchedP_cr r) t = true) : rsT r t = t :=
  rsT_untouched_cr r t h

namespace Ex13
/-- `Tr<'T, u8>::N::T`-like: a path `N::T` (trait-ish first segment spelled like the const `N`, later segment `T`), a
    lifetime `'T`, inside a tuple with `u8` -/
def crFrame : T := tuple [tyPath [seg "N", seg "T"], .node "Type::Reference" [] [lifetime "T", tyPath [seg "u8"]]]
/-- `impl<T> Kita for (T, _ŠČ7::Out) {}`: a path that starts with a reserved identifier that is not a parameter -/
def crStray : T := implOf [tyParam "T" []] (tuple [tyPath [seg "T"], tyPath [seg "_ŠČ7", seg "Out"]])
/-- `W<a, b>` as syn parses it: both arguments are `GenericArgument::Type` -/
def wOf (a b : T) : T :=
  .node "Type::Path" [] [leaf "None", path [.node "PathSegment" [] [.node "Ident" ["W"] [],
    .node "PathArguments::AngleBracketed" [] [.node "Ign" [] [leaf "None"],
      .node "List" [] [.node "GenericArgument::Type" [] [a], .node "GenericArgument::Type" [] [b]]]]]]
/-- `impl<T, const N: usize> Kita for (W<T, N>, [T; N]) {}` (finding D24) -/
def crConstArg : T := implOf [tyParam "T" [], coParam "N"]
  (tuple [wOf (tyPath [seg "T"]) (tyPath [seg "N"]), array (tyPath [seg "T"]) (exprPath [seg "N"])])
/-- `Tr<'x, 'y>` as a path -/
def trLt2 (x y : String) : T :=
  path [.node "PathSegment" [] [.node "Ident" ["Tr"] [], .node "PathArguments::AngleBracketed" [] [.node "Ign" [] [leaf "None"],
    .node "List" [] [.node "GenericArgument::Lifetime" [] [lifetime x], .node "GenericArgument::Lifetime" [] [lifetime y]]]]]
/-- `for<'b> p` as a bound -/
def forBound (b : String) (p : T) : T :=
  .node "TypeParamBound::Trait" [] [.node "TraitBound" [] [leaf "None", leaf "TraitBoundModifier::None",
    .node "Some" [] [.node "BoundLifetimes" [] [.node "List" [] [ltParam b]]], p]]
/-- `impl<'a, T: for<'_ŠČ0> Tr<'_ŠČ0, 'a>> Kita<'a> for T {}` (finding F-D38) -/
def crBinder : T :=
  implOfW [ltParam "a", tyParam "T" [forBound "_ŠČ0" (trLt2 "_ŠČ0" "a")]] (kitaLt "a") (tyPath [seg "T"]) []
/-- `impl<T> Kita for (T, m!(T)) {}`: the macro body is a verbatim leaf (finding F-D28) -/
def crMacro : T := implOf [tyParam "T" []] (tuple [tyPath [seg "T"], .node "Type::Macro" [] [.node "Eq" ["m ! (T)"] []]])
/-- `impl<T, const N: usize> Kita for [T; #[a] N] {}`: an attribute on a parameter expression -/
def crAttr : T := implOf [tyParam "T" [], coParam "N"]
  (array (tyPath [seg "T"]) (.node "Expr::Path" [] [.node "Ign" [] [.node "List" [] [leaf "Attribute"]], leaf "None", path [seg "N"]]))
end Ex13

section RenamingExamples
open Ex13

/-- non-vacuity of `C13_canon_is_renaming`, `C13_canon_is_renaming_reserved`, `C13_canon_all_rewritten`,
    `C13_canonWF_alphaOK` on the three example blocks: the hypotheses hold, and both sides of the equations are computed
    (user names with a multi-segment path; reserved names in the wrong order; a lifetime, two type parameters, a const
    parameter, a where-clause and `T::Target`); the renaming is not the identity on any of them -/
theorem C13_renaming_examples :
    (canonWF named = true ∧ renamingShapeOK_cr named = true ∧
      canon named = qselfFormOf_cr ["_ŠČ0", "_ŠČ1"] (alphaRenameC_cr (indexImpl named).renaming named) ∧
      canon named = qselfForm_cr (alphaRenameC_cr (indexImpl named).renaming named) ∧
      alphaRenameC_cr (indexImpl named).renaming named ≠ canon named ∧ alphaRenameC_cr (indexImpl named).renaming named ≠ named) ∧
    (canonWF swapped = true ∧ renamingShapeOK_cr swapped = true ∧
      canon swapped = qselfForm_cr (alphaRenameC_cr (indexImpl swapped).renaming swapped) ∧ canon swapped ≠ swapped) ∧
    (canonWF mixed = true ∧ renamingShapeOK_cr mixed = true ∧ (indexImpl mixed).renaming.tyNames_cr = ["_ŠČ1", "_ŠČ3"] ∧
      canon mixed = qselfFormOf_cr ["_ŠČ1", "_ŠČ3"] (alphaRenameC_cr (indexImpl mixed).renaming mixed) ∧
      canon mixed = qselfForm_cr (alphaRenameC_cr (indexImpl mixed).renaming mixed) ∧ canon mixed ≠ mixed) ∧
    (noOld_cr (indexImpl named).renaming (canon named) = true ∧ noOld_cr (indexImpl named).renaming named = false ∧
      noOld_cr (indexImpl mixed).renaming (canon mixed) = true ∧ noOld_cr (indexImpl mixed).renaming mixed = false) ∧
    (alphaOK (indexImpl named).renaming named = true ∧ alphaOK (indexImpl mixed).renaming mixed = true ∧
      alphaOK (indexImpl swapped).renaming swapped = true) := by
  decide +kernel

/-- non-vacuity of the tree-level theorem `C13_rs_is_renaming` (on the self type of `named` and on the whole block) -/
theorem C13_rs_is_renaming_example :
    (indexImpl named).renaming.reservedTargets_cr = true ∧
    renOK_cr reserved_cr (indexImpl named).renaming (tuple [tyPath [seg "T"], tyPath [seg "T", seg "Target"]]) = true ∧
    rsT (indexImpl named).renaming (tuple [tyPath [seg "T"], tyPath [seg "T", seg "Target"]]) =
      qsT_cr reserved_cr (tuple [.tparam "_ŠČ0", tyPath [seg "_ŠČ0", seg "Target"]]) ∧
    acT_cr (indexImpl named).renaming (tuple [tyPath [seg "T"], tyPath [seg "T", seg "Target"]]) =
      tuple [.tparam "_ŠČ0", tyPath [seg "_ŠČ0", seg "Target"]] := by
  decide +kernel

/-- non-vacuity of `C13_rs_frame`: with `T ↦ _ŠČ0` (type), `N ↦ _ŠČ1` (const) the type `(N::T, &'T u8)` — a path whose first
    segment is spelled like the CONST parameter and whose second like the type parameter, and a lifetime spelled like the
    type parameter — is left alone, while `T` itself is not untouched -/
theorem C13_rs_frame_example :
    alP (untouchedP_cr ⟨[], [("T", "_ŠČ0")], [("N", "_ŠČ1")]⟩) crFrame = true ∧
    rsT ⟨[], [("T", "_ŠČ0")], [("N", "_ŠČ1")]⟩ crFrame = crFrame ∧
    alP (untouchedP_cr ⟨[], [("T", "_ŠČ0")], [("N", "_ŠČ1")]⟩) (tyPath [seg "T"]) = false := by
  decide +kernel

/-- non-vacuity of `C13_alphaRenameC_eq_alphaRename` (`T ↦ A, U ↦ B` on `named`; the swap with a lifetime and a const on
    `mixed`), and of `C13_canon_params` (its hypotheses are part of `canonWF`) -/
theorem C13_renaming_form_examples :
    (formOK piNamed = true ∧ decNF_cr named = true ∧ alphaRenameC_cr piNamed named = namedAB) ∧
    (formOK piMixed = true ∧ decNF_cr mixed = true ∧ alphaRenameC_cr piMixed mixed = mixedRenamed) ∧
    (implDeclsOK mixed = true ∧ namesDistinct (canonCtx mixed) = true ∧
      (implParams (canon mixed)).map paramIdent = [some "_ŠČ0", some "_ŠČ1", some "_ŠČ3", some "_ŠČ2"] ∧
      (implParams mixed).map paramIdent = [some "a", some "T", some "U", some "N"]) := by
  decide +kernel

/-- the two shape clauses of `renOK_cr` are needed (both are clauses of `canonWF`): a qualified path whose trait is
    spelled like a type parameter (`<T as Clone>::Out` with a parameter `Clone` — finding
    F-C13-qualified-path-trait-capture: the resolver prints `<_ŠČ1>::Out` and drops `T as`), and a const parameter at the
    head of a longer path (`N::X`: not rewritten while the declaration is). Neither block satisfies `renOK_cr` for any
    `P` used here, and the canonical block is not the renamed block -/
theorem C13_renaming_shape_counterexamples :
    (renOK_cr (indexImpl cxQself).renaming.tyNames_cr.contains (indexImpl cxQself).renaming cxQself = false ∧
      renamingShapeOK_cr cxQself = false ∧
      canon cxQself ≠ qselfFormOf_cr (indexImpl cxQself).renaming.tyNames_cr (alphaRenameC_cr (indexImpl cxQself).renaming cxQself) ∧
      canon cxQself ≠ qselfForm_cr (alphaRenameC_cr (indexImpl cxQself).renaming cxQself)) ∧
    (renOK_cr (indexImpl cxConst).renaming.tyNames_cr.contains (indexImpl cxConst).renaming cxConst = false ∧
      renamingShapeOK_cr cxConst = false ∧
      canon cxConst ≠ qselfFormOf_cr (indexImpl cxConst).renaming.tyNames_cr (alphaRenameC_cr (indexImpl cxConst).renaming cxConst) ∧
      canon cxConst ≠ qselfForm_cr (alphaRenameC_cr (indexImpl cxConst).renaming cxConst)) := by
  decide +kernel

/-- `impl<T> Kita for (T, _ŠČ7::Out)`: `canonWF` holds and `C13_canon_is_renaming` applies; the resolver keeps
    `_ŠČ7::Out` (`_ŠČ7` is no parameter) while `qselfForm_cr` would print `<_ŠČ7>::Out`: the third clause of
    `renamingShapeOK_cr` is needed for `C13_canon_is_renaming_reserved` -/
theorem C13_renaming_stray_counterexample :
    canonWF crStray = true ∧ renamingShapeOK_cr crStray = false ∧
    canon crStray = qselfFormOf_cr ["_ŠČ0"] (alphaRenameC_cr (indexImpl crStray).renaming crStray) ∧
    canon crStray ≠ qselfForm_cr (alphaRenameC_cr (indexImpl crStray).renaming crStray) := by
  decide +kernel

/-- **finding D24 is INSIDE `canonWF`**: `impl<T, const N: usize> Kita for (W<T, N>, [T; N])`. syn parses the bare generic
    argument `N` as a type; the indexer reaches `N` through `[T; N]`, the declaration becomes `const _ŠČ1`, `[T; N]` becomes
    `[_ŠČ0; _ŠČ1]`, and `W<T, N>` becomes `W<_ŠČ0, N>` — `N` is no longer declared. `canonWF` holds, `C13_canon_is_renaming`
    applies (the textual renaming of the alpha-invariance section has the same per-position name spaces as the code), and
    `noOld_cr` holds because `N` in type position is not an occurrence of a TYPE parameter: the canonical block is not a
    consistent renaming in Rust's sense although it is the textual one -/
theorem C13_renaming_const_generic_arg_counterexample :
    canonWF crConstArg = true ∧ (indexImpl crConstArg).renaming = ⟨[], [("T", "_ŠČ0")], [("N", "_ŠČ1")]⟩ ∧
    canon crConstArg = qselfForm_cr (alphaRenameC_cr (indexImpl crConstArg).renaming crConstArg) ∧
    (implParams (canon crConstArg)).map paramIdent = [some "_ŠČ0", some "_ŠČ1"] ∧
    implSelfTy (canon crConstArg) =
      some (tuple [wOf (.tparam "_ŠČ0") (tyPath [seg "N"]), array (.tparam "_ŠČ0") (.eparam "_ŠČ1")]) ∧
    noOld_cr (indexImpl crConstArg).renaming (canon crConstArg) = true := by
  decide +kernel

/-- **binder capture (finding F-D38) is OUTSIDE `canonWF`** and is a property of the renaming, not of the equation:
    `impl<'a, T: for<'_ŠČ0> Tr<'_ŠČ0, 'a>> Kita<'a> for T` — `'a` becomes `'_ŠČ0` and is captured by the binder. The equation
    holds (`renamingShapeOK_cr`), the no-capture clauses fail (`rsOK`, `alOK`), so `canonWF` and `alphaOK` are false -/
theorem C13_renaming_binder_counterexample :
    renamingShapeOK_cr crBinder = true ∧
    canon crBinder = qselfForm_cr (alphaRenameC_cr (indexImpl crBinder).renaming crBinder) ∧
    (indexImpl crBinder).renaming = ⟨[("a", "_ŠČ0")], [("T", "_ŠČ1")], []⟩ ∧
    implParams (canon crBinder) = [ltParam "_ŠČ0", tyParam "_ŠČ1" [forBound "_ŠČ0" (trLt2 "_ŠČ0" "_ŠČ0")]] ∧
    rsOK (canonCtx crBinder) crBinder = false ∧ alOK (canonCtx crBinder) crBinder = false ∧ canonWF crBinder = false ∧
    alphaOK (indexImpl crBinder).renaming crBinder = false := by
  decide +kernel

/-- dead parameters (finding D21) are consistent with the equation: a declared parameter the indexer never reaches is
    not renamed by the computed renaming, so it keeps its spelling on both sides (`impl<T, D> Kita for T`) -/
theorem C13_renaming_dead_example :
    canonWF alphaDead = true ∧ (indexImpl alphaDead).renaming = ⟨[], [("T", "_ŠČ0")], []⟩ ∧
    canon alphaDead = qselfForm_cr (alphaRenameC_cr (indexImpl alphaDead).renaming alphaDead) ∧
    (implParams (canon alphaDead)).map paramIdent = [some "_ŠČ0", some "D"] := by
  decide +kernel

/-- macro bodies (finding F-D28): the theorems are about the parsed tree; `m!(T)` is a verbatim leaf that neither the
    resolver nor the textual renaming looks into, so the `T` inside it keeps its spelling on both sides -/
theorem C13_renaming_macro_body_example :
    canonWF crMacro = true ∧
    canon crMacro = qselfForm_cr (alphaRenameC_cr (indexImpl crMacro).renaming crMacro) ∧
    implSelfTy (canon crMacro) = some (tuple [.tparam "_ŠČ0", .node "Type::Macro" [] [.node "Eq" ["m ! (T)"] []]]) := by
  decide +kernel

/-- the attributes of a parameter expression are dropped by the resolver (param.rs:377, 380: the whole `ExprPath` /
    `Expr` is replaced): `[T; #[a] N]` becomes `[_ŠČ0; _ŠČ1]`. The decoder-form renaming does the same (a leaf has no
    attributes; they are an ignored child, invisible to the matcher) -/
theorem C13_renaming_attrs_dropped_example :
    canonWF crAttr = true ∧ implSelfTy (canon crAttr) = some (array (.tparam "_ŠČ0") (.eparam "_ŠČ1")) ∧
    canon crAttr = qselfForm_cr (alphaRenameC_cr (indexImpl crAttr).renaming crAttr) := by
  decide +kernel
end RenamingExamples

/-! ## The round trip, and the converse of alpha-invariance

`C13_canon_is_renaming` says that `canon item` is the textual renaming of `item` by the computed renaming `r`, followed by the
presentation change `X::rest… ↦ <X>::rest…`. Both steps can be undone (definitions in `Lemmas/CanonRoundTripDefs.lean`, all
executable):
* `r.inv_rt`: the inverse renaming (the pairs of each name space swapped); `r.comp_rt ρ`: first `r`, then `ρ`;
* `unqsT_rt P` / `unqself_rt r`: every path written `<X>::rest…` EXACTLY as the resolver prints it (`qselfPath`) with `P X`
  (`X` one of the canonical type names of `r`) is written `X::rest…` again.
Hence (`C13_round_trip`) the block is recovered from its canonical form, and (`C13_same_canon_only_if_renaming`) two blocks
with the same canonical block are textual renamings of each other by the computed renaming `r ; r'⁻¹`
(`renamingBetween_rt item item'`): blocks receive the same canonical block ONLY IF they are equal up to renaming. The IF
direction is `C13_alpha_invariance`; it FAILS for parameters that occur nowhere (finding D21,
`C13_converse_dead_parameter_example`). "Renaming" is the textual one, with the per-position name spaces of the code: a
const parameter written in type position is not an occurrence (finding D24, `C13_converse_const_generic_arg_example`).

The ONE side condition `roundTripOK_rt item` (executable, on the block before canonicalisation; `r` the computed renaming):
* `canonWF item`           the condition of `C13_canon_is_renaming`; it also gives "no capture by `r⁻¹`" — an identifier in
                           parameter position, or a declared parameter, that `r` does not rename is not one of the names
                           handed out in its name space (`C13_canonWF_no_capture`, from `rsOK` and `deadFresh`);
* `decNF_cr item`          decoder normal form: a `tparam` / `eparam` leaf is a reserved identifier, a lone `Type::Path` /
                           `Expr::Path` is not (otherwise the inverse renaming builds the other node form);
* `loneOK_rt r item`       a lone path that is a renamed parameter has no atoms and (expression path) no attributes — it
                           becomes a leaf, which has neither (`[T; #[a] N]`: the resolver drops `#[a]`);
* `qsInvOK_rt … (alphaRenameC_cr r item)`  the presentation change is not injective: the user did not write `<T>::A` for a
                           live type parameter `T` (it is printed like `T::A`), and `T::A` in expression position carries no
                           attributes (the resolver replaces the whole `ExprPath`).
Each of the three added clauses has decided counterexamples inside `canonWF` (`C13_round_trip_clauses_needed`,
`C13_round_trip_one_clause_each`, `C13_same_canon_qself_counterexample`). -/

/-- **the inverse presentation change undoes the presentation change** on a tree that contains no path already written
    `<X>::rest…` with `P X` and no attributes on an expression path `X::rest…` with `P X` (`qsInvOK_rt P t`, executable) -/
theorem C13_unqself_undoes_qself (P : String → Bool) (t : T) (h : qsInvOK_rt P t = true) :
    unqsT_rt P (qsT_cr P t) = t :=
  unqs_qs_rt P t h

/-- the textual renaming of the occurrences commutes with the respelling of the declarations (no side condition) -/
theorem C13_renaming_commutes_with_decls (π ρ : Renaming) (t : T) :
    acT_cr π (renameImplDecls ρ t) = renameImplDecls ρ (acT_cr π t) :=
  acT_renameImplDecls_rt π ρ t

/-- **two textual renamings compose**: renaming a tree by `r` and then by `ρ` is renaming it by `r ; ρ`. `CompOK_rt r ρ`: the
    new names of `r` are reserved identifiers, `ρ` is defined exactly on them (per name space, as lists), no name is new for
    a type and for a const parameter. `acOK_rt r t` (executable): no capture, lone renamed paths without atoms / attributes -/
theorem C13_renamings_compose {r ρ : Renaming} (ok : CompOK_rt r ρ) (t : T) (h : acOK_rt r t = true) :
    acT_cr ρ (acT_cr r t) = acT_cr (r.comp_rt ρ) t :=
  acT_comp_rt ok t h

/-- … for blocks (declarations respelled as well) -/
theorem C13_block_renamings_compose {r ρ : Renaming} (ok : CompOK_rt r ρ) (item : T) (h1 : acOK_rt r item = true)
    (h2 : declsFresh_rt r item = true) :
    alphaRenameC_cr ρ (alphaRenameC_cr r item) = alphaRenameC_cr (r.comp_rt ρ) item :=
  alphaRenameC_comp_rt ok item h1 h2

/-- **`canonWF` gives the no-capture conditions** of the composition for the computed renaming: `acOK_rt r item` (given its
    shape part `loneOK_rt r item`: lone renamed paths without atoms / attributes) and `declsFresh_rt r item` -/
theorem C13_canonWF_no_capture (item : T) (h : canonWF item = true) :
    (loneOK_rt (indexImpl item).renaming item = true → acOK_rt (indexImpl item).renaming item = true) ∧
    declsFresh_rt (indexImpl item).renaming item = true :=
  acOK_of_canonWF_rt item h

/-- an identity renaming changes nothing on a tree in decoder normal form -/
theorem C13_identity_renaming (π : Renaming) (hid : π.isId = true) (t : T) (h : decNF_cr t = true) : acT_cr π t = t :=
  acT_id_rt π hid t h

/-- **the inverse renaming undoes a renaming** whose new names are reserved identifiers, pairwise distinct per name space
    (`InvOK_rt r`; it holds for every renaming the indexer computes, `C13_computed_renaming_invertible`) -/
theorem C13_inverse_renaming {r : Renaming} (hr : InvOK_rt r) (item : T) (h1 : acOK_rt r item = true)
    (h2 : declsFresh_rt r item = true) (h3 : decNF_cr item = true) :
    alphaRenameC_cr r.inv_rt (alphaRenameC_cr r item) = item :=
  alphaRenameC_inv_rt hr item h1 h2 h3

theorem C13_computed_renaming_invertible (item : T) : InvOK_rt (indexImpl item).renaming := renaming_invOK_rt item

/-- undoing the presentation change on the canonical block gives the textual renaming of the block -/
theorem C13_unqself_canon (item : T) (h : roundTripOK_rt item = true) :
    unqself_rt (indexImpl item).renaming (canon item) = alphaRenameC_cr (indexImpl item).renaming item :=
  unqself_canon_rt item h

/-- **the round trip**: the block is recovered from its canonical block and the computed renaming `r` — undo the
    presentation change (`<_ŠČn>::rest… ↦ _ŠČn::rest…` for the canonical type names), then rename textually by `r⁻¹`.
    Side condition: `roundTripOK_rt item` (executable) only. -/
theorem C13_round_trip (item : T) (h : roundTripOK_rt item = true) :
    alphaRenameC_cr (indexImpl item).renaming.inv_rt (unqself_rt (indexImpl item).renaming (canon item)) = item :=
  round_trip_rt item h

/-- the canonical block carries the names handed out (per name space, in the order of the numbering): blocks with the same
    canonical block were handed the same names -/
theorem C13_canon_names (item : T) (h : canonWF item = true) :
    (indexImpl (canon item)).renaming.lt.map Prod.snd = (indexImpl item).renaming.lt.map Prod.snd ∧
    (indexImpl (canon item)).renaming.ty.map Prod.snd = (indexImpl item).renaming.ty.map Prod.snd ∧
    (indexImpl (canon item)).renaming.co.map Prod.snd = (indexImpl item).renaming.co.map Prod.snd :=
  canon_names_rt item h

/-- **the converse of alpha-invariance**: two blocks receive the same canonical block ONLY IF they are textual renamings of
    each other — `item'` is `item` renamed by the computed renaming `r ; r'⁻¹` (`renamingBetween_rt item item'`: canonicalise
    `item`, undo the canonicalisation of `item'`; it pairs the `i`-th numbered parameter of `item` with the `i`-th numbered
    parameter of `item'`). Side condition: `roundTripOK_rt` (executable) for both blocks. Parameters that occur nowhere keep
    their spelling in the canonical block (finding D21), so they are spelled alike in both blocks and the renaming does not
    touch them. -/
theorem C13_same_canon_only_if_renaming (item item' : T) (h : roundTripOK_rt item = true) (h' : roundTripOK_rt item' = true)
    (e : canon item = canon item') : alphaRenameC_cr (renamingBetween_rt item item') item = item' :=
  same_canon_only_if_renaming_rt item item' h h' e

/-- … in terms of the user-level renaming `alphaRename` of the alpha-invariance theorems, when the computed renaming
    relates ordinary names to ordinary names and reserved names to reserved names (`formOK`, executable) -/
theorem C13_same_canon_only_if_alphaRename (item item' : T) (h : roundTripOK_rt item = true)
    (h' : roundTripOK_rt item' = true) (e : canon item = canon item')
    (hf : formOK (renamingBetween_rt item item') = true) : alphaRename (renamingBetween_rt item item') item = item' := by
  rw [← alphaRenameC_eq_cr _ item hf (roundTripOK_parts_rt h).2.1]
  exact same_canon_only_if_renaming_rt item item' h h' e

/-- **same canonical block IFF textual renaming of each other**, for blocks that satisfy `roundTripOK_rt`: the two
    directions (`C13_alpha_invariance`, `C13_same_canon_only_if_alphaRename`) put together, for the computed renaming, which
    has to pass `formOK` and `alphaOK` -/
theorem C13_same_canon_iff_renaming (item item' : T) (h : roundTripOK_rt item = true) (h' : roundTripOK_rt item' = true)
    (hf : formOK (renamingBetween_rt item item') = true) (hal : alphaOK (renamingBetween_rt item item') item = true) :
    canon item = canon item' ↔ alphaRename (renamingBetween_rt item item') item = item' := by
  constructor
  · exact fun e => C13_same_canon_only_if_alphaRename item item' h h' e hf
  · intro e
    rw [← e]
    exact (C13_alpha_invariance _ item (roundTripOK_parts_rt h).1 hal).symm

/-- **the tree-level converse, in the form the grouping uses** (trait path and self type are resolved by `rsT r`): two trees
    that two renamings handing out the SAME names (per name space, as lists — executable) resolve to the same tree are
    textual renamings of each other by `r ; r'⁻¹`. Side conditions, all executable: `renOK_cr` (the shape condition of
    `C13_rs_is_renaming`), `qsInvOK_rt` on the renamed trees, `acOK_rt` (no capture, lone renamed paths without atoms /
    attributes), `decNF_cr t'`; `InvOK_rt` holds for computed renamings (`C13_computed_renaming_invertible`). The corollary
    "`groupIdOf (canon item) = groupIdOf (canon item')` → the headers are renamings of each other" is
    `C13_same_header_only_if_renaming`; it rests on "equal canonical headers were handed the same names",
    `C13_same_header_names` (for equal canonical BLOCKS: `C13_canon_names`). -/
theorem C13_same_resolved_only_if_renaming {r r' : Renaming} (hr : InvOK_rt r) (hr' : InvOK_rt r')
    (elt : r'.lt.map Prod.snd = r.lt.map Prod.snd) (ety : r'.ty.map Prod.snd = r.ty.map Prod.snd)
    (eco : r'.co.map Prod.snd = r.co.map Prod.snd) (t t' : T)
    (h1 : renOK_cr r.tyNames_cr.contains r t = true) (h1' : renOK_cr r'.tyNames_cr.contains r' t' = true)
    (h2 : qsInvOK_rt r.tyNames_cr.contains (acT_cr r t) = true)
    (h2' : qsInvOK_rt r'.tyNames_cr.contains (acT_cr r' t') = true)
    (h3 : acOK_rt r t = true) (h3' : acOK_rt r' t' = true) (h4' : decNF_cr t' = true)
    (e : rsT r t = rsT r' t') : acT_cr (r.comp_rt r'.inv_rt) t = t' :=
  same_resolved_only_if_renaming_rt hr hr' elt ety eco t t' h1 h1' h2 h2' h3 h3' h4' e

namespace Ex13
/-- `impl<T> Kita for <T>::A {}`: the user wrote the qualified form -/
def rtQself : T := implOf [tyParam "T" []]
  (.node "Type::Path" [] [.node "Some" [] [.node "QSelf" [] [tyPath [seg "T"], .node "Atom" ["0"] [], leaf "None"]],
    .node "Path" [] [.node "IgnL" [] [.node "Some" ["PathSep"] []], .node "List" [] [seg "A"]]])
/-- `impl<T> Kita for T::A {}` -/
def rtPlain : T := implOf [tyParam "T" []] (tyPath [seg "T", seg "A"])
/-- `impl<T> Kita for T {}` with `T` as a `tparam` leaf: not in decoder normal form -/
def rtLeaf : T := implOf [tyParam "T" []] (.tparam "T")
/-- `impl<T> Kita for T {}` with an atom on the lone path -/
def rtAtoms : T := implOf [tyParam "T" []] (.node "Type::Path" ["x"] [leaf "None", path [seg "T"]])
/-- `impl<T> Kita for [u8; #[a] T::N] {}`: attributes on a multi-segment parameter expression -/
def rtExprAttr : T := implOf [tyParam "T" []]
  (array (tyPath [seg "u8"]) (.node "Expr::Path" [] [.node "Ign" [] [.node "List" [] [leaf "Attribute"]], leaf "None", path [seg "T", seg "N"]]))
/-- `swapped` respelled by `_ŠČ1 ↦ _ŠČ5, _ŠČ0 ↦ _ŠČ1` -/
def swappedRenamed : T := alphaRename piSwapped swapped
/-- `impl<T, E> Kita for T {}`: `alphaDead` with the unused `D` respelled -/
def alphaDeadE : T := alphaRename piDead alphaDead
/-- `impl<T, const M: usize> Kita for (W<T, N>, [T; M]) {}`: `crConstArg` with the const parameter respelled where the
    code sees it -/
def crConstArgM : T := implOf [tyParam "T" [], coParam "M"]
  (tuple [wOf (tyPath [seg "T"]) (tyPath [seg "N"]), array (tyPath [seg "T"]) (exprPath [seg "M"])])
/-- the four clauses of `roundTripOK_rt` -/
def rtClauses (item : T) : Bool × Bool × Bool × Bool :=
  let r := (indexImpl item).renaming
  (canonWF item, decNF_cr item, loneOK_rt r item, qsInvOK_rt r.tyNames_cr.contains (alphaRenameC_cr r item))
/-- the round trip, computed -/
def rtHolds (item : T) : Bool :=
  alphaRenameC_cr (indexImpl item).renaming.inv_rt (unqself_rt (indexImpl item).renaming (canon item)) == item
end Ex13

section RoundTripExamples
open Ex13

/-- non-vacuity of `C13_round_trip` on the three example blocks (user names with `T::Target`; reserved names in the wrong
    order; a lifetime, two type parameters, a const parameter, a where-clause and `T::Target`): the hypothesis holds, the
    inverse renamings are computed (none is the identity), and both sides of the equation are computed -/
theorem C13_round_trip_examples :
    (roundTripOK_rt named = true ∧ (indexImpl named).renaming.inv_rt = ⟨[], [("_ŠČ0", "T"), ("_ŠČ1", "U")], []⟩ ∧
      unqself_rt (indexImpl named).renaming (canon named) ≠ canon named ∧
      alphaRenameC_cr (indexImpl named).renaming.inv_rt (unqself_rt (indexImpl named).renaming (canon named)) = named) ∧
    (roundTripOK_rt swapped = true ∧ (indexImpl swapped).renaming.inv_rt = ⟨[], [("_ŠČ0", "_ŠČ1"), ("_ŠČ1", "_ŠČ0")], []⟩ ∧
      alphaRenameC_cr (indexImpl swapped).renaming.inv_rt (unqself_rt (indexImpl swapped).renaming (canon swapped)) = swapped ∧
      canon swapped ≠ swapped) ∧
    (roundTripOK_rt mixed = true ∧
      (indexImpl mixed).renaming.inv_rt = ⟨[("_ŠČ0", "a")], [("_ŠČ1", "T"), ("_ŠČ3", "U")], [("_ŠČ2", "N")]⟩ ∧
      alphaRenameC_cr (indexImpl mixed).renaming.inv_rt (unqself_rt (indexImpl mixed).renaming (canon mixed)) = mixed ∧
      canon mixed ≠ mixed) := by
  decide +kernel

/-- non-vacuity of `C13_same_canon_only_if_renaming` (and of the `alphaRename` form, and of the equivalence): `named`
    against `impl<B, A: Tr<B>> Kita for (A, A::Target)`, `mixed` against the block with `'a ↦ 'b`, `T` and `U` swapped,
    `N ↦ M`, `swapped` against its respelling by reserved names — the hypotheses hold, the canonical blocks are equal, the
    computed renamings are the expected ones (none is the identity), in both directions -/
theorem C13_same_canon_examples :
    (roundTripOK_rt named = true ∧ roundTripOK_rt namedAB = true ∧ canon named = canon namedAB ∧
      renamingBetween_rt named namedAB = ⟨[], [("T", "A"), ("U", "B")], []⟩ ∧
      alphaRenameC_cr (renamingBetween_rt named namedAB) named = namedAB ∧
      renamingBetween_rt namedAB named = ⟨[], [("A", "T"), ("B", "U")], []⟩ ∧
      alphaRenameC_cr (renamingBetween_rt namedAB named) namedAB = named ∧
      formOK (renamingBetween_rt named namedAB) = true ∧ alphaOK (renamingBetween_rt named namedAB) named = true) ∧
    (roundTripOK_rt mixed = true ∧ roundTripOK_rt mixedRenamed = true ∧ canon mixed = canon mixedRenamed ∧
      renamingBetween_rt mixed mixedRenamed = ⟨[("a", "b")], [("T", "U"), ("U", "T")], [("N", "M")]⟩ ∧
      alphaRenameC_cr (renamingBetween_rt mixed mixedRenamed) mixed = mixedRenamed ∧ mixedRenamed ≠ mixed ∧
      formOK (renamingBetween_rt mixed mixedRenamed) = true ∧ alphaOK (renamingBetween_rt mixed mixedRenamed) mixed = true) ∧
    (roundTripOK_rt swapped = true ∧ roundTripOK_rt swappedRenamed = true ∧ canon swapped = canon swappedRenamed ∧
      renamingBetween_rt swapped swappedRenamed = ⟨[], [("_ŠČ1", "_ŠČ5"), ("_ŠČ0", "_ŠČ1")], []⟩ ∧
      alphaRenameC_cr (renamingBetween_rt swapped swappedRenamed) swapped = swappedRenamed ∧ swappedRenamed ≠ swapped) := by
  decide +kernel

/-- non-vacuity of the tree-level theorems: `C13_unqself_undoes_qself` on the renamed self type of `named` (the presentation
    change applies), `C13_renamings_compose` / `C13_inverse_renaming` for the computed renaming of `named` and its inverse -/
theorem C13_round_trip_tree_examples :
    (qsInvOK_rt ["_ŠČ0", "_ŠČ1"].contains (tuple [.tparam "_ŠČ0", tyPath [seg "_ŠČ0", seg "Target"]]) = true ∧
      qsT_cr ["_ŠČ0", "_ŠČ1"].contains (tuple [.tparam "_ŠČ0", tyPath [seg "_ŠČ0", seg "Target"]]) ≠
        tuple [.tparam "_ŠČ0", tyPath [seg "_ŠČ0", seg "Target"]] ∧
      unqsT_rt ["_ŠČ0", "_ŠČ1"].contains (qsT_cr ["_ŠČ0", "_ŠČ1"].contains (tuple [.tparam "_ŠČ0", tyPath [seg "_ŠČ0", seg "Target"]])) =
        tuple [.tparam "_ŠČ0", tyPath [seg "_ŠČ0", seg "Target"]]) ∧
    (acOK_rt (indexImpl named).renaming named = true ∧ declsFresh_rt (indexImpl named).renaming named = true ∧
      loneOK_rt (indexImpl named).renaming named = true ∧ decNF_cr named = true ∧
      (indexImpl named).renaming.comp_rt (indexImpl named).renaming.inv_rt = ⟨[], [("T", "T"), ("U", "U")], []⟩ ∧
      ((indexImpl named).renaming.comp_rt (indexImpl named).renaming.inv_rt).isId = true) := by
  decide +kernel

/-- non-vacuity of `C13_renamings_compose` / `C13_block_renamings_compose`: `CompOK_rt` holds for the renaming computed for
    `named` and the inverse of the one computed for `impl<B, A: Tr<B>> Kita for (A, A::Target)` -/
example : CompOK_rt (indexImpl named).renaming (indexImpl namedAB).renaming.inv_rt ∧
    acOK_rt (indexImpl named).renaming named = true ∧ declsFresh_rt (indexImpl named).renaming named = true := by
  have facts :
      ((indexImpl namedAB).renaming.lt.map Prod.snd = (indexImpl named).renaming.lt.map Prod.snd ∧
        (indexImpl namedAB).renaming.ty.map Prod.snd = (indexImpl named).renaming.ty.map Prod.snd ∧
        (indexImpl namedAB).renaming.co.map Prod.snd = (indexImpl named).renaming.co.map Prod.snd) ∧
      acOK_rt (indexImpl named).renaming named = true ∧ declsFresh_rt (indexImpl named).renaming named = true := by
    decide +kernel
  exact ⟨compOK_inv_rt (renaming_invOK_rt named) facts.1.1 facts.1.2.1 facts.1.2.2, facts.2⟩

/-- non-vacuity of `C13_same_resolved_only_if_renaming`: the self types `(T, T::Target)` of `named` and `(A, A::Target)` of
    `impl<B, A: Tr<B>> Kita for (A, A::Target)` under the renamings computed for the two blocks — same names handed out, same
    resolved tree, all side conditions hold, and the conclusion computed -/
theorem C13_same_resolved_example :
    let r := (indexImpl named).renaming
    let r' := (indexImpl namedAB).renaming
    let t := tuple [tyPath [seg "T"], tyPath [seg "T", seg "Target"]]
    let t' := tuple [tyPath [seg "A"], tyPath [seg "A", seg "Target"]]
    (r'.lt.map Prod.snd = r.lt.map Prod.snd ∧ r'.ty.map Prod.snd = r.ty.map Prod.snd ∧ r'.co.map Prod.snd = r.co.map Prod.snd) ∧
    (renOK_cr r.tyNames_cr.contains r t = true ∧ renOK_cr r'.tyNames_cr.contains r' t' = true) ∧
    (qsInvOK_rt r.tyNames_cr.contains (acT_cr r t) = true ∧ qsInvOK_rt r'.tyNames_cr.contains (acT_cr r' t') = true) ∧
    (acOK_rt r t = true ∧ acOK_rt r' t' = true ∧ decNF_cr t' = true) ∧
    rsT r t = rsT r' t' ∧ acT_cr (r.comp_rt r'.inv_rt) t = t' ∧ t ≠ t' := by
  decide +kernel

/-- **the clauses of `roundTripOK_rt` are needed**: five blocks inside `canonWF`, each violating exactly one clause (see
    `C13_round_trip_one_clause_each`), and the round trip fails on each of them:
    `impl<T> Kita for <T>::A` (the user wrote the qualified form; it is printed like `T::A`, and the round trip returns
    `T::A`), `impl<T> Kita for [u8; #[a] T::N]` (attributes on a path the presentation change rewrites), `impl<T> Kita for T`
    with `T` as a reserved-form leaf (not in decoder normal form), a lone path with an atom, `[T; #[a] N]` (attributes on a
    lone parameter expression, dropped by the resolver) -/
theorem C13_round_trip_clauses_needed :
    (roundTripOK_rt rtQself = false ∧ rtHolds rtQself = false) ∧
    (roundTripOK_rt rtExprAttr = false ∧ rtHolds rtExprAttr = false) ∧
    (roundTripOK_rt rtLeaf = false ∧ rtHolds rtLeaf = false) ∧
    (roundTripOK_rt rtAtoms = false ∧ rtHolds rtAtoms = false) ∧
    (roundTripOK_rt crAttr = false ∧ rtHolds crAttr = false) := by
  decide +kernel

/-- … and only that clause (`canonWF`, `decNF_cr`, `loneOK_rt`, `qsInvOK_rt`) -/
theorem C13_round_trip_one_clause_each :
    [rtQself, rtExprAttr, rtLeaf, rtAtoms, crAttr].map rtClauses =
    [(true, true, true, false), (true, true, true, false), (true, false, true, true),
     (true, true, false, true), (true, true, false, true)] := by
  decide +kernel

/-- **the presentation change is not injective** (the clause `qsInvOK_rt` is needed for the converse as well):
    `impl<T> Kita for <T>::A` and `impl<T> Kita for T::A` receive the same canonical block and are NOT textual renamings of
    each other (the computed renaming is the identity `T ↦ T`). They denote the same type in Rust — `<T>::A` and `T::A` are
    the same path for a type parameter `T` — so nothing is wrong with the code; the second block satisfies the condition -/
theorem C13_same_canon_qself_counterexample :
    canon rtQself = canon rtPlain ∧ roundTripOK_rt rtQself = false ∧ roundTripOK_rt rtPlain = true ∧
    renamingBetween_rt rtQself rtPlain = ⟨[], [("T", "T")], []⟩ ∧
    alphaRenameC_cr (renamingBetween_rt rtQself rtPlain) rtQself ≠ rtPlain := by
  decide +kernel

/-- **dead parameters (finding D21)**: `impl<T, D> Kita for T` and `impl<T, E> Kita for T` ARE renamings of each other
    (`D ↦ E`), both satisfy `roundTripOK_rt` (the round trip holds: the unused `D` keeps its spelling in the canonical block
    and is not touched by `r⁻¹`), and they receive DIFFERENT canonical blocks: the ONLY-IF direction
    (`C13_same_canon_only_if_renaming`) is a theorem, the IF direction needs `deadFixed` (`C13_alpha_dead_counterexample`) -/
theorem C13_converse_dead_parameter_example :
    roundTripOK_rt alphaDead = true ∧ roundTripOK_rt alphaDeadE = true ∧ rtHolds alphaDead = true ∧
    alphaRename piDead alphaDead = alphaDeadE ∧ canon alphaDead ≠ canon alphaDeadE ∧
    (implParams (canon alphaDead)).map paramIdent = [some "_ŠČ0", some "D"] ∧
    (implParams (canon alphaDeadE)).map paramIdent = [some "_ŠČ0", some "E"] := by
  decide +kernel

/-- **const parameter in type position (finding D24)**: `impl<T, const N: usize> Kita for (W<T, N>, [T; N])` and
    `impl<T, const M: usize> Kita for (W<T, N>, [T; M])` satisfy `roundTripOK_rt`, receive the SAME canonical block
    (`W<_ŠČ0, N>` keeps the `N` the code does not see), and the second is the textual renaming of the first by `N ↦ M` in the
    const name space — as the theorem says. In Rust's sense they are not renamings of each other (in the second block `N`
    is not declared at all): "renaming" in `C13_same_canon_only_if_renaming` has the per-position name spaces of the code -/
theorem C13_converse_const_generic_arg_example :
    roundTripOK_rt crConstArg = true ∧ roundTripOK_rt crConstArgM = true ∧ canon crConstArg = canon crConstArgM ∧
    renamingBetween_rt crConstArg crConstArgM = ⟨[], [("T", "T")], [("N", "M")]⟩ ∧
    alphaRenameC_cr (renamingBetween_rt crConstArg crConstArgM) crConstArg = crConstArgM ∧ rtHolds crConstArg = true := by
  decide +kernel
end RoundTripExamples

/-! ## The converse of alpha-invariance for HEADERS (what the grouping relies on)

`mkBuckets` groups the canonical blocks by `groupIdOf` = `mkHdr` (trait path, self type). `C13_alpha_header*` /
`C06_renamed_permuted_same_header` say: blocks whose headers are equal up to renaming land in one bucket. This section is
the ONLY-IF half: two blocks land in one bucket only if their headers are textual renamings of each other.
Definitions (`Lemmas/CanonHeaderConverseDefs.lean`, all executable): `hdrIx_hc item` = the indexer run on the header ALONE
from the start state of the block (`ixInit item`: the declared names), `hdrRenaming_hc item` the renaming read off it (`rH`),
`hdrRenamingBetween_hc item item'` = `rH ; rH'⁻¹`. The ONE side condition `hdrConverseOK_hc item` (on the block BEFORE
canonicalisation):
* `canonWF item`          the condition of idempotence;
* `hdrFirst_hc item`      the indexer reaches trait path and self type first: attributes, `default`, `unsafe`, the skipped
                          `Generics` node and the `!` of a negative impl hand out no number (state-based, exact);
* `ixVis (mkHdr item)`    the indexer visits every parameter position of the header (no nested `Generics` node; the
                          attributes of an expression path are an ignored child);
* `hdrShapeOK_hc item`    the four executable conditions of the tree-level converse `C13_same_resolved_only_if_renaming`
                          for the header and `rH` (`renOK_cr`, `qsInvOK_rt`, `acOK_rt`, `decNF_cr`);
* `strayFree_hc item`     no identifier in parameter position of the CANONICAL header is a reserved identifier `_ŠČ…` that
                          is not the new spelling of a declared parameter of ITS position (lifetime / type / const). Needed:
                          `C13_same_header_stray_counterexamples` — `impl<T> Kita for (T, _ŠČ1)` lands in the bucket of
                          `impl<T, U> Kita for (T, U)`. -/

/-- **the header of the canonical block is the resolver applied to the header** (`r` the computed renaming of the whole
    block) — no side condition at all (for a tree that is not an `ItemImpl` both sides are the empty header) -/
theorem C13_header_of_canon (item : T) : groupIdOf (canon item) = rsT (indexImpl item).renaming (groupIdOf item) :=
  mkHdr_canon_hc item

/-- … for the trait path and the self type separately -/
theorem C13_header_parts_of_canon (item : T) :
    implTraitPath (canon item) = (implTraitPath item).map (rsT (indexImpl item).renaming) ∧
    implSelfTy (canon item) = (implSelfTy item).map (rsT (indexImpl item).renaming) :=
  ⟨implTraitPath_canon_hc item, implSelfTy_canon_hc item⟩

/-- **the numbering of the header's parameters depends on the header alone**: when the indexer reaches the header first
    (`hdrFirst_hc`, executable), the renaming computed for the block starts, in each of the three name spaces, with the
    renaming `hdrRenaming_hc item` that the indexer computes for the header ALONE (from the declared names and the tree
    `mkHdr item`, nothing else — `C13_header_numbering_depends_on_header_only`); items, inline bounds and where-clause
    only append -/
theorem C13_header_numbering_local (item : T) (hf : hdrFirst_hc item = true) :
    ∃ e : Renaming, (indexImpl item).renaming.lt = (hdrRenaming_hc item).lt ++ e.lt ∧
      (indexImpl item).renaming.ty = (hdrRenaming_hc item).ty ++ e.ty ∧
      (indexImpl item).renaming.co = (hdrRenaming_hc item).co ++ e.co := by
  obtain ⟨l1, e1⟩ := hdr_prefix_hc item hf .lt
  obtain ⟨l2, e2⟩ := hdr_prefix_hc item hf .ty
  obtain ⟨l3, e3⟩ := hdr_prefix_hc item hf .co
  exact ⟨⟨l1, l2, l3⟩, e1, e2, e3⟩

/-- two blocks with the same declared names (`ixInit`: the three lists of declared lifetime / type / const names) and the
    same header have the same header renaming — whatever their items, bounds and where-clauses are -/
theorem C13_header_numbering_depends_on_header_only (item item' : T) (ed : ixInit item = ixInit item')
    (eh : mkHdr item = mkHdr item') : hdrRenaming_hc item = hdrRenaming_hc item' := by
  unfold hdrRenaming_hc hdrIx_hc
  rw [ed, eh]

/-- **every renamed parameter that occurs in the header is numbered by the header alone**: the resolver of the block acts
    on the header like the resolver of the header's own renaming. Side conditions (executable): `canonWF item` (only
    `namesDistinct` and `deadFresh` are used), `hdrFirst_hc item`, `ixVis (mkHdr item)` -/
theorem C13_header_resolved_locally (item : T) (hwf : canonWF item = true) (hf : hdrFirst_hc item = true)
    (hv : ixVis (mkHdr item) = true) :
    groupIdOf (canon item) = rsT (hdrRenaming_hc item) (groupIdOf item) :=
  mkHdr_canon_local_hc item hwf hf hv

/-- the header's renaming is invertible (reserved new names, pairwise distinct per name space) — no side condition -/
theorem C13_header_renaming_invertible (item : T) : InvOK_rt (hdrRenaming_hc item) := hdr_invOK_hc item

/-- **equal canonical headers were handed the same names**, per name space and in the order of the numbering (the
    header analogue of `C13_canon_names`). Side conditions (executable, both blocks): `canonWF`, `hdrFirst_hc`,
    `strayFree_hc` -/
theorem C13_same_header_names (item item' : T) (hwf : canonWF item = true) (hwf' : canonWF item' = true)
    (hf : hdrFirst_hc item = true) (hf' : hdrFirst_hc item' = true) (hs : strayFree_hc item = true)
    (hs' : strayFree_hc item' = true) (e : groupIdOf (canon item) = groupIdOf (canon item')) :
    (hdrRenaming_hc item').lt.map Prod.snd = (hdrRenaming_hc item).lt.map Prod.snd ∧
    (hdrRenaming_hc item').ty.map Prod.snd = (hdrRenaming_hc item).ty.map Prod.snd ∧
    (hdrRenaming_hc item').co.map Prod.snd = (hdrRenaming_hc item).co.map Prod.snd :=
  ⟨hdr_names_hc item item' hwf hwf' hf hf' hs hs' e .lt, hdr_names_hc item item' hwf hwf' hf hf' hs hs' e .ty,
    hdr_names_hc item item' hwf hwf' hf hf' hs hs' e .co⟩

/-- **the converse of alpha-invariance for headers**: two blocks receive the same canonical header (the same group id —
    they land in one bucket of `mkBuckets`) ONLY IF their headers are textual renamings of each other: the header of `item'`
    is the header of `item` renamed by the computed renaming `rH ; rH'⁻¹` of the two headers
    (`hdrRenamingBetween_hc item item'`: it pairs the `i`-th numbered parameter of the header of `item` with the `i`-th
    numbered parameter of the header of `item'`, and mentions the parameters of the headers only). Side condition:
    `hdrConverseOK_hc` (executable) for both blocks. Nothing is assumed about items, bounds, where-clauses and parameters
    that do not occur in the header (D21: they may differ arbitrarily, `C13_same_header_examples`). -/
theorem C13_same_header_only_if_renaming (item item' : T) (h : hdrConverseOK_hc item = true)
    (h' : hdrConverseOK_hc item' = true) (e : groupIdOf (canon item) = groupIdOf (canon item')) :
    acT_cr (hdrRenamingBetween_hc item item') (groupIdOf item) = groupIdOf item' :=
  same_header_only_if_renaming_hc item item' h h' e

/-- … for the trait path and the self type separately -/
theorem C13_same_header_only_if_renaming_parts (item item' : T) (h : hdrConverseOK_hc item = true)
    (h' : hdrConverseOK_hc item' = true) (e : groupIdOf (canon item) = groupIdOf (canon item')) :
    (implTraitPath item).map (acT_cr (hdrRenamingBetween_hc item item')) = implTraitPath item' ∧
    (implSelfTy item).map (acT_cr (hdrRenamingBetween_hc item item')) = implSelfTy item' :=
  same_header_parts_hc item item' h h' e

namespace Ex13
/-- `impl<T> Kita for (T, _ŠČ1) {}`: a concrete type spelled like a reserved identifier (the decoder makes it a leaf) -/
def hcStray : T := implOf [tyParam "T" []] (tuple [tyPath [seg "T"], .tparam "_ŠČ1"])
/-- `impl<T, U> Kita for (T, U) {}` -/
def hcTwo : T := implOf [tyParam "T" [], tyParam "U" []] (tuple [tyPath [seg "T"], tyPath [seg "U"]])
/-- `impl<T> Kita for [u8; T] {}`: a type parameter as a lone expression (rejected by rustc) -/
def hcKindTy : T := implOf [tyParam "T" []] (array (tyPath [seg "u8"]) (exprPath [seg "T"]))
/-- `impl<const N: usize> Kita for [u8; N] {}` -/
def hcKindCo : T := implOf [coParam "N"] (array (tyPath [seg "u8"]) (exprPath [seg "N"]))
def hcRef (l : String) (t : T) : T := .node "Type::Reference" [] [lifetime l, t]
/-- `impl<'a> Kita for (_ŠČ0, &'a u8) {}` -/
def hcLtA : T := implOf [ltParam "a"] (tuple [.tparam "_ŠČ0", hcRef "a" (tyPath [seg "u8"])])
/-- `impl<T> Kita for (T, &'_ŠČ0 u8) {}` -/
def hcLtB : T := implOf [tyParam "T" []] (tuple [tyPath [seg "T"], hcRef "_ŠČ0" (tyPath [seg "u8"])])
/-- the five clauses of `hdrConverseOK_hc` -/
def hcClauses (item : T) : Bool × Bool × Bool × Bool × Bool :=
  (canonWF item, hdrFirst_hc item, ixVis (mkHdr item), hdrShapeOK_hc item, strayFree_hc item)
end Ex13

section HeaderConverseExamples
open Ex13

/-- non-vacuity of `C13_header_of_canon`, `C13_header_numbering_local`, `C13_header_resolved_locally`: on `mixed`
    (`impl<'a, T: Tr<U>, U, const N: usize> Kita<'a> for [T; N] where U: Tr<T::Target>`) the header hands out `'a ↦ _ŠČ0,
    T ↦ _ŠČ1, N ↦ _ŠČ2`; `U` is numbered later (`_ŠČ3`, through the bound of `T`) and is appended; the canonical header is
    computed by the header's renaming; the renaming is not the identity -/
theorem C13_header_local_examples :
    (hdrFirst_hc mixed = true ∧ canonWF mixed = true ∧ ixVis (mkHdr mixed) = true ∧
      hdrRenaming_hc mixed = ⟨[("a", "_ŠČ0")], [("T", "_ŠČ1")], [("N", "_ŠČ2")]⟩ ∧
      (indexImpl mixed).renaming = ⟨[("a", "_ŠČ0")], [("T", "_ŠČ1"), ("U", "_ŠČ3")], [("N", "_ŠČ2")]⟩ ∧
      groupIdOf (canon mixed) = rsT (hdrRenaming_hc mixed) (groupIdOf mixed) ∧
      groupIdOf (canon mixed) = rsT (indexImpl mixed).renaming (groupIdOf mixed) ∧ groupIdOf (canon mixed) ≠ groupIdOf mixed) ∧
    (hdrFirst_hc named = true ∧ hdrRenaming_hc named = ⟨[], [("T", "_ŠČ0")], []⟩ ∧
      (indexImpl named).renaming = ⟨[], [("T", "_ŠČ0"), ("U", "_ŠČ1")], []⟩) := by
  decide +kernel

/-- non-vacuity of `C13_header_numbering_depends_on_header_only`: `named` (`impl<U, T: Tr<U>> Kita for (T, T::Target)`) and
    the block `impl<U, T> Kita for (T, T::Target)` without the bound have the same declared names and the same header; the
    renamings computed for the whole blocks differ (`U` is numbered in the first one only) -/
example : ixInit named = ixInit (implOf [tyParam "U" [], tyParam "T" []] (tuple [tyPath [seg "T"], tyPath [seg "T", seg "Target"]])) ∧
    mkHdr named = mkHdr (implOf [tyParam "U" [], tyParam "T" []] (tuple [tyPath [seg "T"], tyPath [seg "T", seg "Target"]])) ∧
    (indexImpl named).renaming ≠
      (indexImpl (implOf [tyParam "U" [], tyParam "T" []] (tuple [tyPath [seg "T"], tyPath [seg "T", seg "Target"]]))).renaming := by
  decide +kernel

/-- non-vacuity of `C13_same_header_names`, `C13_same_header_only_if_renaming` (and `_parts`): the side condition holds for
    both blocks, the canonical headers are equal, the computed header renamings are the expected ones (not the identity),
    and the conclusion is computed —
    * `named` `impl<U, T: Tr<U>> Kita for (T, T::Target)` against `impl<B, A: Tr<B>> Kita for (A, A::Target)`: only `T ↦ A`
      (`U` / `B` do not occur in the header), in both directions;
    * `mixed` against `mixedRenamed` (`'a ↦ 'b`, `T ↦ U`, `N ↦ M`; the `U ↦ T` of the block-level renaming is not part of the
      header's);
    * **D21**: `impl<T, D> Kita for T` against `impl<T, E> Kita for T` — DIFFERENT canonical blocks
      (`C13_converse_dead_parameter_example`), the SAME canonical header, and the header theorem applies (the renaming is
      `T ↦ T`);
    * **D24**: `impl<T, const N: usize> Kita for (W<T, N>, [T; N])` against `impl<T, const M: usize> Kita for (W<T, N>, [T; M])`:
      same canonical header, the header of the second is the textual renaming `N ↦ M` (const name space only) of the first -/
theorem C13_same_header_examples :
    (hdrConverseOK_hc named = true ∧ hdrConverseOK_hc namedAB = true ∧ groupIdOf (canon named) = groupIdOf (canon namedAB) ∧
      hdrRenamingBetween_hc named namedAB = ⟨[], [("T", "A")], []⟩ ∧
      acT_cr (hdrRenamingBetween_hc named namedAB) (groupIdOf named) = groupIdOf namedAB ∧
      hdrRenamingBetween_hc namedAB named = ⟨[], [("A", "T")], []⟩ ∧
      acT_cr (hdrRenamingBetween_hc namedAB named) (groupIdOf namedAB) = groupIdOf named ∧ groupIdOf named ≠ groupIdOf namedAB) ∧
    (hdrConverseOK_hc mixed = true ∧ hdrConverseOK_hc mixedRenamed = true ∧
      groupIdOf (canon mixed) = groupIdOf (canon mixedRenamed) ∧
      hdrRenamingBetween_hc mixed mixedRenamed = ⟨[("a", "b")], [("T", "U")], [("N", "M")]⟩ ∧
      acT_cr (hdrRenamingBetween_hc mixed mixedRenamed) (groupIdOf mixed) = groupIdOf mixedRenamed ∧
      groupIdOf mixed ≠ groupIdOf mixedRenamed) ∧
    (hdrConverseOK_hc alphaDead = true ∧ hdrConverseOK_hc alphaDeadE = true ∧ canon alphaDead ≠ canon alphaDeadE ∧
      groupIdOf (canon alphaDead) = groupIdOf (canon alphaDeadE) ∧
      hdrRenamingBetween_hc alphaDead alphaDeadE = ⟨[], [("T", "T")], []⟩ ∧
      acT_cr (hdrRenamingBetween_hc alphaDead alphaDeadE) (groupIdOf alphaDead) = groupIdOf alphaDeadE) ∧
    (hdrConverseOK_hc crConstArg = true ∧ hdrConverseOK_hc crConstArgM = true ∧
      groupIdOf (canon crConstArg) = groupIdOf (canon crConstArgM) ∧
      hdrRenamingBetween_hc crConstArg crConstArgM = ⟨[], [("T", "T")], [("N", "M")]⟩ ∧
      acT_cr (hdrRenamingBetween_hc crConstArg crConstArgM) (groupIdOf crConstArg) = groupIdOf crConstArgM ∧
      groupIdOf crConstArg ≠ groupIdOf crConstArgM) := by
  decide +kernel

/-- non-vacuity of `C13_same_header_only_if_renaming_parts`: trait path and self type of `named` / `namedAB` -/
example : (implTraitPath named).map (acT_cr (hdrRenamingBetween_hc named namedAB)) = implTraitPath namedAB ∧
    (implSelfTy named).map (acT_cr (hdrRenamingBetween_hc named namedAB)) = implSelfTy namedAB ∧
    implSelfTy named ≠ implSelfTy namedAB := by
  decide +kernel

/-- headers that are NOT renamings of each other get different group ids: `(T, T::Target)` (`named`) against `(T, U)` —
    both satisfy the side condition, the computed renaming does not map one header to the other, and (as
    `C13_same_header_only_if_renaming` says, contrapositively) the canonical headers differ -/
theorem C13_different_headers_example :
    hdrConverseOK_hc named = true ∧ hdrConverseOK_hc hcTwo = true ∧
    acT_cr (hdrRenamingBetween_hc named hcTwo) (groupIdOf named) ≠ groupIdOf hcTwo ∧
    groupIdOf (canon named) ≠ groupIdOf (canon hcTwo) := by
  decide +kernel

/-- **the clause `strayFree_hc` is needed** — without it the full-strength statement is false, three closed witnesses, one
    per position, each inside `canonWF` and inside every other clause of `hdrConverseOK_hc` (and the first inside
    `roundTripOK_rt`):
    * TYPE position: `impl<T> Kita for (T, _ŠČ1)` (a concrete type spelled `_ŠČ1`) and `impl<T, U> Kita for (T, U)` receive
      the SAME canonical header `(_ŠČ0, _ŠČ1)` — the two blocks land in one bucket although `(T, _ŠČ1)` is not a renaming of
      `(T, U)`; only the reserved spelling `_ŠČ…` of the user's type makes this possible;
    * EXPRESSION position: `impl<T> Kita for [u8; T]` (a type parameter as a lone expression — rejected by rustc) and
      `impl<const N: usize> Kita for [u8; N]` receive the same canonical header `[u8; _ŠČ0]`;
    * LIFETIME position: `impl<'a> Kita for (_ŠČ0, &'a u8)` and `impl<T> Kita for (T, &'_ŠČ0 u8)` receive the same canonical
      header `(_ŠČ0, &'_ŠČ0 u8)`.
    In each pair the headers are not textual renamings of each other by the computed renaming, and the names handed out
    differ -/
theorem C13_same_header_stray_counterexamples :
    (hcClauses hcStray = (true, true, true, true, false) ∧ hdrConverseOK_hc hcTwo = true ∧ roundTripOK_rt hcStray = true ∧
      groupIdOf (canon hcStray) = groupIdOf (canon hcTwo) ∧
      hdrRenamingBetween_hc hcStray hcTwo = ⟨[], [("T", "T")], []⟩ ∧
      acT_cr (hdrRenamingBetween_hc hcStray hcTwo) (groupIdOf hcStray) ≠ groupIdOf hcTwo ∧
      (hdrRenaming_hc hcTwo).ty.map Prod.snd ≠ (hdrRenaming_hc hcStray).ty.map Prod.snd) ∧
    (hcClauses hcKindTy = (true, true, true, true, false) ∧ hdrConverseOK_hc hcKindCo = true ∧
      groupIdOf (canon hcKindTy) = groupIdOf (canon hcKindCo) ∧
      acT_cr (hdrRenamingBetween_hc hcKindTy hcKindCo) (groupIdOf hcKindTy) ≠ groupIdOf hcKindCo ∧
      (hdrRenaming_hc hcKindCo).ty.map Prod.snd ≠ (hdrRenaming_hc hcKindTy).ty.map Prod.snd) ∧
    (hcClauses hcLtA = (true, true, true, true, false) ∧ hcClauses hcLtB = (true, true, true, true, false) ∧
      groupIdOf (canon hcLtA) = groupIdOf (canon hcLtB) ∧
      acT_cr (hdrRenamingBetween_hc hcLtA hcLtB) (groupIdOf hcLtA) ≠ groupIdOf hcLtB ∧
      (hdrRenaming_hc hcLtB).lt.map Prod.snd ≠ (hdrRenaming_hc hcLtA).lt.map Prod.snd) := by
  decide +kernel

/-- with `roundTripOK_rt item` and `canonWF item'` in place of `hdrConverseOK_hc` for both blocks the statement is false
    (the example violates `strayFree_hc`) -/
theorem C13_same_header_only_if_renaming_counterexample :
    ¬ ∀ (item item' : T), roundTripOK_rt item = true → canonWF item' = true →
        groupIdOf (canon item) = groupIdOf (canon item') →
        acT_cr (hdrRenamingBetween_hc item item') (groupIdOf item) = groupIdOf item' := by
  intro hall
  obtain ⟨⟨_, h2, h3, h4, _, h6, _⟩, _⟩ := C13_same_header_stray_counterexamples
  exact h6 (hall hcStray hcTwo h3 (hdrConverseOK_parts_hc h2).1 h4)

/-- the presentation clause is needed as well (as for blocks, `C13_same_canon_qself_counterexample`): `impl<T> Kita for
    <T>::A` and `impl<T> Kita for T::A` have the same canonical header and are not textual renamings of each other; the
    first violates `hdrShapeOK_hc` (its `qsInvOK_rt` clause) only -/
theorem C13_same_header_qself_counterexample :
    hcClauses rtQself = (true, true, true, false, true) ∧ hdrConverseOK_hc rtPlain = true ∧
    groupIdOf (canon rtQself) = groupIdOf (canon rtPlain) ∧
    acT_cr (hdrRenamingBetween_hc rtQself rtPlain) (groupIdOf rtQself) ≠ groupIdOf rtPlain := by
  decide +kernel
end HeaderConverseExamples

end DI

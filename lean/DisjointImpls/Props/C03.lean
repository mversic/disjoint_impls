/-
  C03 — acceptance: inputs the macro must accept. Property theorem over `parseGroups` (`Group.lean`); the proof is
  in `Lemmas/GroupLemmas.lean` (`parseGroups_single_bucket`, via `parseGroups_multi_key`: `mkBuckets_single`,
  `flatSearch_root` with `famB_aligned`, `filterCandidate_of_checks`).

  `C03_single_bucket_accepts`: blocks that all have the same header (one bucket), each with exactly one trait bound
  `bounded: tr_i<a = p_i>` whose trait paths are pairwise equal as dispatch keys (`TraitBound::eq`, bindings
  ignored), with pairwise non-generalising payloads `p_i`, are accepted as one family containing all the blocks in
  order, with a single key and one row per block — for any number of blocks. The trait path stored with the key
  is the last block's (`lastTr`), as in the code. Side conditions: the blocks are pairwise different texts
  (`Nodup`, else the later one replaces the earlier), and the header matches itself with identity bindings only
  (`selfIdentity`, executable).

  Last part (`C03_flat_*`, proofs in `Lemmas/FlatAccept.lean`): ARBITRARY invocations without nested headers (any number
  of buckets; within a bucket bounds in any order, extra and repeated bounds, several associated types).
  `C03_flat_accepts`: every bucket `distinguishedB` (blocks pairwise differ by bindings of an associated type, under a
  key every block bounds, of which neither generalises the other) ⇒ accepted, one family per bucket;
  `C03_flat_accepts_nonunifiable`: the same from pairwise NON-UNIFIABLE payloads; `C03_flat_acceptance_exact`:
  accepted ⇔ every bucket `separatedB` (executable, order-free form of the candidate filter);
  `C03_flat_rejects_indistinguishable` / `C03_flat_rejects_first`: rejection, and which header is reported;
  counterexamples to natural weakenings (`C03_flat_nonshared_key_counterexample`, `C03_flat_lone_block_counterexample`,
  `C03_flat_generalising_payload_counterexample`).
-/
import DisjointImpls.Lemmas.GroupLemmas
import DisjointImpls.Lemmas.FlatAccept
import DisjointImpls.Props.C11
namespace DI

theorem C03_single_bucket_accepts (items : List T) (gid bounded : T) (a : String) (trOf pay : Blk → T)
    (b1 : Blk) (other : List Blk) (hB : items.map mkBlk = b1 :: other)
    (hid : ∀ b ∈ b1 :: other, groupIdOf b.item = gid) (hnd : ((b1 :: other).map (·.item)).Nodup)
    (hsb : ∀ b ∈ b1 :: other, ∃ mb, b.raw = [⟨bounded, trOf b, [(a, pay b)], mb⟩])
    (htr : ∀ b ∈ b1 :: other, ∀ b' ∈ b1 :: other, tbEq (trOf b) (trOf b') = .t)
    (hself : selfIdentity gid = true) (hng : nonGenB ((b1 :: other).map pay) = true) :
    ∃ u, parseGroups items =
      .ok [(gid, ⟨[((bounded, lastTr trOf (trOf b1) other), (b1 :: other).map (fun b => [(a, pay b)]))], u⟩, b1 :: other)] :=
  parseGroups_single_bucket items gid bounded a trOf pay b1 other hB hid hnd hsb htr hself (nonGen_of_nonGenB hng)

/-- what `nonGenB` says: no payload generalises another one -/
theorem C03_nonGen_spec (ps : List T) (h : nonGenB ps = true) (i j : Nat) (x y : T) (hij : i ≠ j)
    (hx : ps[i]? = some x) (hy : ps[j]? = some y) : ∀ σ l, sup x y ≠ .yes σ l := by
  intro σ l hs
  have := nonGen_of_nonGenB h i j x y hij hx hy
  rw [hs] at this
  cases this

/-- non-vacuity: the README example (`impl<T: Dispatch<Group = GroupA>> Kita for T`, `… GroupB …`) satisfies every
    hypothesis, so the theorem (not a computation) yields its acceptance -/
theorem C03_readme_example :
    ∃ u gid key b1 b2, parseGroups [Ex11.blockFor "GroupA", Ex11.blockFor "GroupB"] =
      .ok [(gid, ⟨[(key, [[("Group", Ex11.tyPath [Ex11.seg "GroupA"])], [("Group", Ex11.tyPath [Ex11.seg "GroupB"])]])], u⟩, [b1, b2])] := by
  let b1 := mkBlk (Ex11.blockFor "GroupA")
  let b2 := mkBlk (Ex11.blockFor "GroupB")
  -- the trait path and the payload of a block's first bound
  let trOf : Blk → T := fun b => (b.raw.map (·.tr)).headD Ex11.tT
  let pay : Blk → T := fun b => ((b.raw.flatMap (·.binds)).map (·.2)).headD Ex11.tT
  have h : (∀ b ∈ [b1, b2], groupIdOf b.item = groupIdOf b1.item) ∧ ([b1, b2].map (·.item)).Nodup ∧
      (∀ b ∈ [b1, b2], b.raw = [⟨.tparam "_ŠČ0", trOf b, [("Group", pay b)], false⟩]) ∧
      (∀ b ∈ [b1, b2], ∀ b' ∈ [b1, b2], tbEq (trOf b) (trOf b') = .t) ∧
      selfIdentity (groupIdOf b1.item) = true ∧ nonGenB ([b1, b2].map pay) = true ∧
      [b1, b2].map (fun b => [("Group", pay b)]) =
        [[("Group", Ex11.tyPath [Ex11.seg "GroupA"])], [("Group", Ex11.tyPath [Ex11.seg "GroupB"])]] := by
    decide +kernel
  obtain ⟨u, hu⟩ := C03_single_bucket_accepts [Ex11.blockFor "GroupA", Ex11.blockFor "GroupB"] (groupIdOf b1.item)
    (.tparam "_ŠČ0") "Group" trOf pay b1 [b2] rfl h.1 h.2.1 (fun b hb => ⟨false, h.2.2.1 b hb⟩) h.2.2.2.1 h.2.2.2.2.1
    h.2.2.2.2.2.1
  exact ⟨u, _, _, b1, b2, h.2.2.2.2.2.2 ▸ hu⟩

/-- two independently accepted sets of blocks with unrelated headers are accepted together, as the concatenation
    of their families -/
theorem C03_independent_buckets (items1 items2 : List T) (g1 g2 : Groups)
    (hdisj : ∀ b1 ∈ items1.map mkBlk, ∀ b2 ∈ items2.map mkBlk, groupIdOf b1.item ≠ groupIdOf b2.item)
    (hn : noNesting (items1 ++ items2) = true)
    (h1 : parseGroups items1 = .ok g1) (h2 : parseGroups items2 = .ok g2) :
    parseGroups (items1 ++ items2) = .ok (g1 ++ g2) := by
  rw [C11_independent items1 items2 hdisj hn, h1, h2]
  rfl

/-- `Box<x>` -/
def Ex11.boxOf (x : T) : T := Ex11.tyPath [.node "PathSegment" [] [.node "Ident" ["Box"] [],
  .node "PathArguments::AngleBracketed" [] [.node "Ign" [] [Ex11.leaf "None"], .node "List" [] [.node "GenericArgument::Type" [] [x]]]]]

set_option maxRecDepth 1000000 in
/-- non-vacuity of `C03_independent_buckets`: the two-block example for `Vec<T>` and the same for `Box<T>` -/
example :
    let items1 := [Ex11.blockSelf "GroupA" (Ex11.vecOf Ex11.tT), Ex11.blockSelf "GroupB" (Ex11.vecOf Ex11.tT)]
    let items2 := [Ex11.blockSelf "GroupA" (Ex11.boxOf Ex11.tT), Ex11.blockSelf "GroupB" (Ex11.boxOf Ex11.tT)]
    ∃ g1 g2, parseGroups (items1 ++ items2) = .ok (g1 ++ g2) ∧ g1.length = 1 ∧ g2.length = 1 := by
  intro items1 items2
  have h : (∃ g1, parseGroups items1 = .ok g1 ∧ (g1.length == 1) = true) ∧
      (∃ g2, parseGroups items2 = .ok g2 ∧ (g2.length == 1) = true) ∧ noNesting (items1 ++ items2) = true ∧
      ∀ b1 ∈ items1.map mkBlk, ∀ b2 ∈ items2.map mkBlk, groupIdOf b1.item ≠ groupIdOf b2.item := by decide +kernel
  obtain ⟨⟨g1, h1, l1⟩, ⟨g2, h2, l2⟩, hn, hdisj⟩ := h
  exact ⟨g1, g2, C03_independent_buckets items1 items2 g1 g2 hdisj hn h1 h2, eq_of_beq l1, eq_of_beq l2⟩

/-! ## Several keys -/

/-- one bucket, several keys: blocks with the same header that all carry the same `n ≥ 1` keys in the same order
    (`alignedChainB`: position by position `keyEq`, no key `keyEq` to a later one), each binding every key, whose
    rows pass the candidate filter (every key has a non-empty row, rows pairwise not generalising —
    `isOverlapping = false`), are accepted as one family with those keys and one row per block.
    All hypotheses are executable. -/
theorem C03_multi_key_accepts (items : List T) (gid : T) (b1 : Blk) (other : List Blk)
    (hB : items.map mkBlk = b1 :: other)
    (hid : ∀ b ∈ b1 :: other, groupIdOf b.item = gid) (hnd : ((b1 :: other).map (·.item)).Nodup)
    (hd : distinctKeysB b1.ks = true) (hch : alignedChainB b1.ks other = true) (hself : selfIdentity gid = true)
    (h1 : ((lastKs b1.ks other).zip (addRows (b1.rs.map (fun r => [r])) other)).all
      (fun kr => kr.2.any (fun r => !r.isEmpty)) = true)
    (h2 : b1.raw ≠ [])
    (h3 : (ABG.mk ((lastKs b1.ks other).zip (addRows (b1.rs.map (fun r => [r])) other)) []).isOverlapping = false) :
    ∃ u, parseGroups items =
      .ok [(gid, ⟨(lastKs b1.ks other).zip (addRows (b1.rs.map (fun r => [r])) other), u⟩, b1 :: other)] := by
  have hch' := alignedChain_of_B hch
  apply parseGroups_multi_key items gid b1 other hB hid hnd (distinctKeys_of_B hd) hch' hself
    (by simpa [List.all_eq_true] using h1) ?_ h3
  -- the family has as many keys as the first block has bounds
  intro h0
  have hlen : ∀ (ks : List BKey) (rowss : List (List Row)) (bs : List Blk), AlignedChain ks bs → rowss.length = ks.length →
      ((lastKs ks bs).zip (addRows rowss bs)).length = ks.length := by
    intro ks rowss bs
    induction bs generalizing ks rowss with
    | nil => intro _ hl; simp [lastKs, addRows, hl]
    | cons b rest ih =>
      intro ⟨hal, _, hr⟩ hl
      have hkl := hal.length_eq
      simp only [lastKs, addRows]
      rw [ih b.ks _ hr (by simp [Blk.ks, Blk.rs, hkl ▸ hl])]
      exact hkl.symm
  have := hlen b1.ks (b1.rs.map (fun r => [r])) other hch' (by simp [Blk.ks, Blk.rs])
  rw [h0] at this
  simp only [List.length_nil, Blk.ks, List.length_map] at this
  exact h2 (List.length_eq_zero_iff.1 this.symm)

namespace Ex11
/-- `Other<Kind = k>` -/
def otherTr (k : String) : T :=
  path [.node "PathSegment" [] [.node "Ident" ["Other"] [], .node "PathArguments::AngleBracketed" [] [.node "Ign" [] [leaf "None"],
    .node "List" [] [.node "GenericArgument::AssocType" [] [.node "AssocType" [] [.node "Ident" ["Kind"] [], leaf "None", tyPath [seg k]]]]]]]
/-- `impl<T: Dispatch<Group = g> + Other<Kind = k>> Kita for T {}` -/
def block2 (g k : String) : T := implOf [tyParam "T" [traitBound (dispatch g), traitBound (otherTr k)]] tT
end Ex11

set_option maxRecDepth 1000000 in
/-- non-vacuity: two blocks with two keys each (`T: Dispatch<Group = …> + Other<Kind = …>`) satisfy every hypothesis;
    the theorem yields one family with 2 keys and 2 members -/
example :
    ∃ gid abg b1 b2, parseGroups [Ex11.block2 "GroupA" "X", Ex11.block2 "GroupB" "Y"] = .ok [(gid, abg, [b1, b2])] ∧
      abg.bounds.length = 2 := by
  let b1 := mkBlk (Ex11.block2 "GroupA" "X")
  let b2 := mkBlk (Ex11.block2 "GroupB" "Y")
  have h : (∀ b ∈ [b1, b2], groupIdOf b.item = groupIdOf b1.item) ∧ ([b1, b2].map (·.item)).Nodup ∧
      distinctKeysB b1.ks = true ∧ alignedChainB b1.ks [b2] = true ∧ selfIdentity (groupIdOf b1.item) = true ∧
      ((lastKs b1.ks [b2]).zip (addRows (b1.rs.map (fun r => [r])) [b2])).all
        (fun kr => kr.2.any (fun r => !r.isEmpty)) = true ∧
      b1.raw ≠ [] ∧
      (ABG.mk ((lastKs b1.ks [b2]).zip (addRows (b1.rs.map (fun r => [r])) [b2])) []).isOverlapping = false ∧
      ((lastKs b1.ks [b2]).zip (addRows (b1.rs.map (fun r => [r])) [b2])).length = 2 := by decide +kernel
  obtain ⟨u, hu⟩ := C03_multi_key_accepts [Ex11.block2 "GroupA" "X", Ex11.block2 "GroupB" "Y"] (groupIdOf b1.item) b1 [b2]
    rfl h.1 h.2.1 h.2.2.1 h.2.2.2.1 h.2.2.2.2.1 h.2.2.2.2.2.1 h.2.2.2.2.2.2.1 h.2.2.2.2.2.2.2.1
  exact ⟨_, _, b1, b2, hu, h.2.2.2.2.2.2.2.2⟩

/-! ## Arbitrary invocations without nested headers (proofs in `Lemmas/FlatAccept.lean`, on top of `Lemmas/FlatOrder.lean`)

  Side conditions (executable, evaluated per test case): `noNesting items` (no header generalises a different one) and
  `flatWF items` (every header matches itself with identity bindings only; every trait path in the bounds can be
  compared by `TraitBound::eq`). Buckets = the blocks grouped by header (`mkBuckets`). Within a bucket the blocks may
  list their bounds in any order, have extra bounds the others lack, repeat a bound, and bind several associated types.

  * `distinguishedB blks` (the documented fragment): some key that every block of the bucket bounds has a binding, and
    every two different blocks bind one associated type under a key that EVERY block of the bucket bounds to payloads
    of which neither generalises the other (`supYes p q = false ∧ supYes q p = false`; non-unifiable payloads satisfy
    it, `C03_nonunifiable_distinguishes`). `C03_distinguishedB_spec` spells it out.
  * `separatedB blks` (exact): some such key has a binding, and for no two different blocks `bi`, `bj` does the row of
    `bi` generalise the row of `bj` on all columns the family keeps (`genPair_fa`). -/

/-- **Acceptance of the documented fragment.** An invocation without nested headers in which the blocks of every
    bucket pairwise differ by bindings of a shared associated type of which neither generalises the other
    (`distinguishedB`) is accepted. The result has one family per bucket, in bucket order, with the bucket's header
    and exactly the bucket's blocks as members (in bucket order); the keys of a family are the keys of its last
    member that every member bounds and for which some member has a binding, and the row of a member under a key is
    the member's own folded row. -/
theorem C03_flat_accepts (items : List T) (hn : noNesting items = true) (hwf : flatWF items = true)
    (hd : ∀ bk ∈ mkBuckets (items.map mkBlk), distinguishedB bk.2 = true) :
    ∃ groups, parseGroups items = .ok groups ∧
      groups.map (fun e => (e.1, e.2.2)) = mkBuckets (items.map mkBlk) ∧
      ∀ e ∈ groups, ∃ l, e.2.2.getLast? = some l ∧
        ∀ kr, kr ∈ e.2.1.bounds ↔
          (∃ r, (kr.1, r) ∈ otherFold l) ∧ hasKey e.2.2 kr.1 = true ∧ kr.2 = e.2.2.map (fun b => rowD b kr.1) ∧
            ∃ b ∈ e.2.2, rowD b kr.1 ≠ [] := by
  have hms : msPairs ((mkBuckets (items.map mkBlk)).map (·.1)) = [] := noNesting_iff.1 hn
  have hwf0 := flatWF0_of_flatWF hwf
  obtain ⟨g, hg⟩ := (flat_ok_iff_separated_fa items hms hwf).2 (fun bk hbk => separatedB_of_distinguishedB (hd bk hbk))
  refine ⟨g, hg, flat_groups_shape_fa hg hms hwf0, fun e he => ?_⟩
  obtain ⟨_, _, h3⟩ := flat_family_char hg hms hwf0 e he
  exact h3

def flatAcceptPre (items : List T) : Bool := noNesting items && flatWF items && flatDistinguished items

/-- `C03_flat_accepts` under the single executable precondition `flatAcceptPre`. -/
theorem C03_flat_accepts_exec (items : List T) (hpre : flatAcceptPre items = true) :
    ∃ groups, parseGroups items = .ok groups ∧ groups.map (fun e => (e.1, e.2.2)) = mkBuckets (items.map mkBlk) := by
  simp only [flatAcceptPre, flatDistinguished, Bool.and_eq_true, List.all_eq_true] at hpre
  obtain ⟨g, h1, h2, _⟩ := C03_flat_accepts items hpre.1.1 hpre.1.2 hpre.2
  exact ⟨g, h1, h2⟩

/-- under the weaker side condition `flatWF0` (headers on which the matcher panics or answers no are allowed) the
    same holds provided no bucket makes the search panic (`bucketPanics`: two or more blocks under a header that does
    not match itself) -/
theorem C03_flat_accepts_weak (items : List T) (hn : noNesting items = true) (hwf : flatWF0 items = true)
    (hd : ∀ bk ∈ mkBuckets (items.map mkBlk), bucketPanics bk = false ∧ distinguishedB bk.2 = true) :
    ∃ groups, parseGroups items = .ok groups ∧ groups.map (fun e => (e.1, e.2.2)) = mkBuckets (items.map mkBlk) := by
  have hms : msPairs ((mkBuckets (items.map mkBlk)).map (·.1)) = [] := noNesting_iff.1 hn
  obtain ⟨g, hg⟩ := (flat_ok_iff_separated0_fa items hms hwf).2
    (fun bk hbk => ⟨(hd bk hbk).1, separatedB_of_distinguishedB (hd bk hbk).2⟩)
  exact ⟨g, hg, flat_groups_shape_fa hg hms hwf⟩

/-- what `distinguishedB` says (for blocks whose trait paths can be compared, `wfBlk`): some key every block bounds
    has a binding, and for every two different blocks `bi`, `bj` there are a key `k` of `bi` that every block of the
    bucket bounds and an associated-type identifier `a` such that `bi` binds `a` under `k` to `p`, `bj` binds `a`
    under `k` to `q` (`cell`: the block's folded row for the key, looked up at `a`), and neither of `p`, `q`
    generalises the other -/
theorem C03_distinguishedB_spec (blks : List Blk) (hw : ∀ b ∈ blks, wfBlk b = true) :
    distinguishedB blks = true ↔ hasColumn_fa blks = true ∧
      ∀ bi ∈ blks, ∀ bj ∈ blks, bi ≠ bj → ∃ e ∈ otherFold bi, hasKey blks e.1 = true ∧
        ∃ a p q, cell bi (e.1, a) = some p ∧ cell bj (e.1, a) = some q ∧ supYes p q = false ∧ supYes q p = false :=
  distinguishedB_spec_fa hw

/-- for a bucket with two different blocks the pair condition alone is `distinguishedB` (the first conjunct only
    matters for a lone block, `C03_flat_lone_block_counterexample`) -/
theorem C03_distinguishedB_of_pairs (blks : List Blk) (bi bj : Blk) (hbi : bi ∈ blks) (hbj : bj ∈ blks) (hne : bi ≠ bj)
    (h : distPairs_fa blks = true) : distinguishedB blks = true := by
  simp only [distinguishedB, Bool.and_eq_true]
  exact ⟨hasColumn_of_distPairs_fa hbi hbj hne h, h⟩

/-- **Non-unifiable payloads are distinguished.** A positive, non-lenient answer of the matcher is a unifier
    (`q` is an instance of `p`, modulo presentation). Hence two payloads without a common instance — the parameters of
    the two sides instantiated separately, `Unifiable_fa` — bound by two blocks to the same associated type under the
    same key satisfy the cell condition of `distinguishedB`. Side condition `unifPre_fa p q` (executable): both
    payloads are well-formed trees (`wf`), their ignored children face each other (`ignFaces`, both directions), and
    the matcher does not answer through one of its deliberately lenient arms (`supExact_fa`, both directions). -/
theorem C03_nonunifiable_distinguishes (bi bj : Blk) (kx : BKey × String) (p q : T) (hi : cell bi kx = some p)
    (hj : cell bj kx = some q) (hpre : unifPre_fa p q = true)
    (hnu : ¬ ∃ θ₁ θ₂ : Subst, erase (inst θ₁ p) = erase (inst θ₂ q)) : sepCell_fa bi bj kx = true :=
  sepCell_of_not_unifiable_fa hi hj hpre hnu

/-- the lemma behind it: an exact positive answer `sup p q = .yes σ false` on well-formed trees makes `q` an instance
    of `p`, so `p` and `q` are unifiable -/
theorem C03_sup_yes_unifiable (p q : T) (σ : Subst) (hp : wf p = true) (hq : wf q = true)
    (hf : ignFaces p (stripTop q) = true) (h : sup p q = .yes σ false) :
    ∃ θ₁ θ₂ : Subst, erase (inst θ₁ p) = erase (inst θ₂ q) :=
  unifiable_of_sup_fa hp hq hf h

/-- the restriction to exact answers (`lossy = false`) in `C03_sup_yes_unifiable` cannot be dropped: the anonymous
    lifetime `'_` "generalises" `'a` through a deliberately lenient arm of the matcher (`sup … = .yes [] true`), both
    trees are well-formed and closed, and they have no common instance modulo presentation — which is why
    `unifPre_fa` asks for `supExact_fa` -/
theorem C03_sup_yes_unifiable_lossy_counterexample :
    let p : T := .node "Lifetime" [] [.node "Ident" ["_"] []]
    let q : T := .node "Lifetime" [] [.node "Ident" ["a"] []]
    sup p q = .yes [] true ∧ wf p = true ∧ wf q = true ∧ ignFaces p (stripTop q) = true ∧
      ¬ ∃ θ₁ θ₂ : Subst, erase (inst θ₁ p) = erase (inst θ₂ q) := by
  intro p q
  exact ⟨by decide, by decide, by decide, by decide, not_unifiable_of_closed_fa (by decide) (by decide) (by decide)⟩

/-- **Acceptance, exactly.** An invocation without nested headers is accepted iff every bucket is separated
    (`separatedB`, executable and independent of the order of the blocks): some key that every block bounds has a
    binding, and no block's row generalises another block's row on the columns the family keeps. -/
theorem C03_flat_acceptance_exact (items : List T) (hn : noNesting items = true) (hwf : flatWF items = true) :
    (∃ groups, parseGroups items = .ok groups) ↔ ∀ bk ∈ mkBuckets (items.map mkBlk), separatedB bk.2 = true :=
  flat_ok_iff_separated_fa items (noNesting_iff.1 hn) hwf

/-- the documented fragment is inside the exact condition (a boolean implication, no side condition) -/
theorem C03_distinguished_separated (blks : List Blk) (h : distinguishedB blks = true) : separatedB blks = true :=
  separatedB_of_distinguishedB h

/-- `separatedB` is the candidate filter (`accOK`: after pruning the keys without a binding a key is left and
    `is_overlapping` is false) of the single candidate of the bucket -/
theorem C03_separatedB_is_filter (blks : List Blk) (hne : blks ≠ []) (hw : ∀ b ∈ blks, wfBlk b = true) (hnd : blks.Nodup) :
    accOK blks = separatedB blks :=
  accOK_eq_separatedB hne hw hnd

/-- **Rejection of indistinguishable blocks** (the macro half of C04 for inputs without nested headers): if two
    different blocks `bi`, `bj` of some bucket are such that the row of `bi` generalises the row of `bj` on all shared
    columns (`genPair_fa`: under every key of `bi` that every block of the bucket bounds, every associated type bound
    by `bi` is bound by `bj` to a payload that `bi`'s payload generalises — in particular if both bind the same
    payloads, or if `bi` has no binding under a shared key at all), the macro rejects the invocation with "Unable to
    form impl group" for the header of a bucket that is not separated. -/
theorem C03_flat_rejects_indistinguishable (items : List T) (hn : noNesting items = true) (hwf : flatWF items = true)
    (bk : T × List Blk) (hbk : bk ∈ mkBuckets (items.map mkBlk)) (bi bj : Blk) (hbi : bi ∈ bk.2) (hbj : bj ∈ bk.2)
    (hne : bi ≠ bj) (hg : genPair_fa bk.2 bi bj = true) :
    ∃ id, parseGroups items = .unableToForm id ∧
      ∃ bk' ∈ mkBuckets (items.map mkBlk), bk'.1 = id ∧ separatedB bk'.2 = false :=
  flat_rejects_fa items (noNesting_iff.1 hn) hwf hbk (not_separated_of_genPair_fa hbi hbj hne hg)

/-- … and of a bucket in which no key that every block bounds has a binding -/
theorem C03_flat_rejects_no_binding (items : List T) (hn : noNesting items = true) (hwf : flatWF items = true)
    (bk : T × List Blk) (hbk : bk ∈ mkBuckets (items.map mkBlk)) (hc : hasColumn_fa bk.2 = false) :
    ∃ id, parseGroups items = .unableToForm id ∧
      ∃ bk' ∈ mkBuckets (items.map mkBlk), bk'.1 = id ∧ separatedB bk'.2 = false :=
  flat_rejects_fa items (noNesting_iff.1 hn) hwf hbk (by simp [separatedB, hc])

/-- **The semantic form of C03 for inputs without nested headers.** If in every bucket some key that every block
    bounds has a binding and every two different blocks bind one associated type, under a key that every block of
    the bucket bounds, to payloads WITHOUT A COMMON INSTANCE (`¬ ∃ θ₁ θ₂, erase (inst θ₁ p) = erase (inst θ₂ q)`, a
    genuine semantic assumption; plus the executable `unifPre_fa p q`: well-formed payloads on which the matcher
    does not take a lenient arm), the invocation is accepted, with one family per bucket. -/
theorem C03_flat_accepts_nonunifiable (items : List T) (hn : noNesting items = true) (hwf : flatWF items = true)
    (h : ∀ bk ∈ mkBuckets (items.map mkBlk), hasColumn_fa bk.2 = true ∧
      ∀ bi ∈ bk.2, ∀ bj ∈ bk.2, bi ≠ bj → ∃ e ∈ otherFold bi, hasKey bk.2 e.1 = true ∧
        ∃ a p q, cell bi (e.1, a) = some p ∧ cell bj (e.1, a) = some q ∧ unifPre_fa p q = true ∧
          ¬ ∃ θ₁ θ₂ : Subst, erase (inst θ₁ p) = erase (inst θ₂ q)) :
    ∃ groups, parseGroups items = .ok groups ∧ groups.map (fun e => (e.1, e.2.2)) = mkBuckets (items.map mkBlk) := by
  obtain ⟨g, h1, h2, _⟩ := C03_flat_accepts items hn hwf (fun bk hbk => by
    obtain ⟨_, _, _, hw, _⟩ := buckets_facts items (flatWF0_of_flatWF hwf) bk hbk
    exact distinguishedB_of_nonunifiable_fa hw (h bk hbk).1 (h bk hbk).2)
  exact ⟨g, h1, h2⟩

/-- closed (parameter-free) payloads that differ modulo presentation have no common instance -/
theorem C03_closed_payloads_nonunifiable (p q : T) (hp : closed p = true) (hq : closed q = true)
    (h : erase p ≠ erase q) : ¬ ∃ θ₁ θ₂ : Subst, erase (inst θ₁ p) = erase (inst θ₂ q) :=
  not_unifiable_of_closed_fa hp hq h

/-- an executable sufficient condition for "no common instance": a constructor clash (`clash_fa p q`: at some position
    reached through rigid nodes on both sides — not a transparent wrapper, not an ignored child, not a lone type
    parameter in generic-argument position — the two trees have rigid nodes of different kinds, atoms or numbers of
    children). Payloads with parameters are allowed. -/
theorem C03_clash_nonunifiable (p q : T) (h : clash_fa p q = true) :
    ¬ ∃ θ₁ θ₂ : Subst, erase (inst θ₁ p) = erase (inst θ₂ q) :=
  not_unifiable_of_clash_fa h

/-- the two conditions are order-free: they only depend on the set of blocks of the bucket -/
theorem C03_flat_conditions_order_free (blks blks' : List Blk) (hp : blks.Perm blks') :
    distinguishedB blks = distinguishedB blks' ∧ separatedB blks = separatedB blks' :=
  ⟨distinguishedB_mem_congr_fa (fun _ => hp.mem_iff), separatedB_mem_congr_fa (fun _ => hp.mem_iff)⟩

/-- the precondition of `C03_flat_accepts_exec` holds for every permutation of the blocks if it holds for one (so the
    acceptance of every order of a documented invocation follows from the theorem itself) -/
theorem C03_flat_accept_pre_order_free (items items' : List T) (hp : items.Perm items')
    (hpre : flatAcceptPre items = true) : flatAcceptPre items' = true := by
  simp only [flatAcceptPre, Bool.and_eq_true] at hpre ⊢
  obtain ⟨h1, h2⟩ := flat_hyps_perm hp (noNesting_iff.1 hpre.1.1) hpre.1.2
  exact ⟨⟨noNesting_iff.2 h1, h2⟩, flatDistinguished_perm_fa hp hpre.2⟩

/-- what `genPair_fa` (the hypothesis of `C03_flat_rejects_indistinguishable`) says: under every key of `bi` that
    every block of the bucket bounds, every associated type `bi` binds is bound by `bj` to a payload that `bi`'s
    payload generalises (`genCell`: one position of `is_overlapping`'s row comparison) -/
theorem C03_genPair_spec (blks : List Blk) (bi bj : Blk) :
    genPair_fa blks bi bj = true ↔ ∀ e ∈ otherFold bi, hasKey blks e.1 = true → ∀ xp ∈ e.2,
      genCell (cell bi (e.1, xp.1)) (cell bj (e.1, xp.1)) = true :=
  genPair_iff_fa

/-- … and the header in the error message is that of the FIRST bucket (in the order of first occurrence of the
    headers) that is not separated -/
theorem C03_flat_rejects_first (items : List T) (hn : noNesting items = true) (hwf : flatWF items = true)
    (pre post : List (T × List Blk)) (bk : T × List Blk) (hsplit : mkBuckets (items.map mkBlk) = pre ++ bk :: post)
    (hpre : ∀ b ∈ pre, separatedB b.2 = true) (hbk : separatedB bk.2 = false) :
    parseGroups items = .unableToForm bk.1 :=
  flat_rejects_first_fa items (noNesting_iff.1 hn) hwf pre post bk hsplit hpre hbk

namespace Ex11
/-- `impl<T: bounds> Kita for T {}` -/
def blockOf_fa (bs : List T) : T := implOf [tyParam "T" bs] tT
/-- `Dispatch<Group = p>` for an arbitrary payload type `p` -/
def dispatchTy_fa (p : T) : T :=
  path [.node "PathSegment" [] [.node "Ident" ["Dispatch"] [], .node "PathArguments::AngleBracketed" [] [.node "Ign" [] [leaf "None"],
    .node "List" [] [.node "GenericArgument::AssocType" [] [.node "AssocType" [] [.node "Ident" ["Group"] [], leaf "None", p]]]]]]
/-- three blocks with the same header: the second one lists its bounds in the other order and the third one lacks the
    `Other` bound, so the family keeps the single key `T: Dispatch` -/
def flat3_fa : List T :=
  [blockOf_fa [traitBound (dispatch "GroupA"), traitBound (otherTr "X")],
   blockOf_fa [traitBound (otherTr "Y"), traitBound (dispatch "GroupB")],
   blockOf_fa [traitBound (dispatch "GroupC")]]
/-- two buckets (`Vec<T>` and `Box<T>`), blocks interleaved -/
def flat2x2_fa : List T :=
  [blockSelf "GroupA" (vecOf tT), blockSelf "GroupA" (boxOf tT), blockSelf "GroupB" (vecOf tT), blockSelf "GroupB" (boxOf tT)]
/-- three blocks with two keys each; different pairs are distinguished by different keys -/
def flat3keys_fa : List T := [block2 "GroupA" "X", block2 "GroupB" "Y", block2 "GroupA" "Y"]
/-- the first two blocks differ only on `T: Other<Kind = …>`, a key the third block does not bound -/
def nonshared_fa : List T :=
  [blockOf_fa [traitBound (dispatch "GroupA"), traitBound (otherTr "X")],
   blockOf_fa [traitBound (otherTr "Y"), traitBound (dispatch "GroupA")],
   blockOf_fa [traitBound (dispatch "GroupC")]]
/-- `impl<T: Dispatch<Group = Vec<U>>, U> Kita for T {}` and `impl<T: Dispatch<Group = Vec<u32>>> Kita for T {}` -/
def generalising_fa : List T :=
  [implOf [tyParam "T" [traitBound (dispatchTy_fa (vecOf (tyPath [seg "U"])))], tyParam "U" []] tT,
   implOf [tyParam "T" [traitBound (dispatchTy_fa (vecOf (tyPath [seg "u32"])))]] tT]
/-- `impl<T: Dispatch<Group = GroupA> + Other> Kita for T {}` and `impl<T: Dispatch + Other<Kind = X>> Kita for T {}` -/
def wildcards_fa : List T :=
  [blockOf_fa [traitBound (dispatch "GroupA"), traitBound (path [seg "Other"])],
   blockOf_fa [traitBound (path [seg "Dispatch"]), traitBound (otherTr "X")]]
end Ex11

section FlatAcceptExamples
open Ex11

/-- the closed facts about the README example that the examples below use (one evaluation) -/
theorem Ex11.readme_eval_fa :
    let b1 := mkBlk (blockFor "GroupA")
    let b2 := mkBlk (blockFor "GroupB")
    let k1 : BKey := (.tparam "_ŠČ0", dispatch "GroupA")
    let k2 : BKey := (.tparam "_ŠČ0", dispatch "GroupB")
    let pA := tyPath [seg "GroupA"]
    let pB := tyPath [seg "GroupB"]
    flatAcceptPre [blockFor "GroupA", blockFor "GroupB"] = true ∧
    mkBuckets ([blockFor "GroupA", blockFor "GroupB"].map mkBlk) = [(groupIdOf b1.item, [b1, b2])] ∧
    hasColumn_fa [b1, b2] = true ∧
    ((k1, [("Group", pA)]) ∈ otherFold b1 ∧ hasKey [b1, b2] k1 = true ∧ cell b1 (k1, "Group") = some pA ∧
      cell b2 (k1, "Group") = some pB ∧ unifPre_fa pA pB = true) ∧
    ((k2, [("Group", pB)]) ∈ otherFold b2 ∧ hasKey [b1, b2] k2 = true ∧ cell b2 (k2, "Group") = some pB ∧
      cell b1 (k2, "Group") = some pA ∧ unifPre_fa pB pA = true) := by
  decide +kernel

/-- non-vacuity of `C03_flat_accepts`: the README example satisfies every hypothesis (one bucket, two blocks) -/
theorem C03_flat_readme_pre : flatAcceptPre [blockFor "GroupA", blockFor "GroupB"] = true :=
  Ex11.readme_eval_fa.1

example : ∃ groups, parseGroups [blockFor "GroupA", blockFor "GroupB"] = .ok groups ∧
    groups.map (fun e => (e.1, e.2.2)) = mkBuckets ([blockFor "GroupA", blockFor "GroupB"].map mkBlk) :=
  C03_flat_accepts_exec _ C03_flat_readme_pre

/-- the closed facts about the three-block example `flat3_fa` that the examples below use (one evaluation) -/
theorem Ex11.flat3_eval_fa :
    (noNesting flat3_fa = true ∧ flatWF flat3_fa = true ∧
      (∀ bk ∈ mkBuckets (flat3_fa.map mkBlk), distinguishedB bk.2 = true) ∧
      (mkBuckets (flat3_fa.map mkBlk)).map (fun bk => bk.2.length) = [3]) ∧
    (∀ b ∈ flat3_fa.map mkBlk, wfBlk b = true) ∧ (flat3_fa.map mkBlk).Nodup ∧
    distPairs_fa (flat3_fa.map mkBlk) = true ∧ distinguishedB (flat3_fa.map mkBlk) = true := by
  decide +kernel

/-- non-vacuity: three blocks with the keys in different orders and an extra, non-shared bound (the example of
    `C05_flat_example_*`); not covered by `C03_single_bucket_accepts` / `C03_multi_key_accepts` (not aligned) -/
theorem C03_flat_three_blocks_pre :
    noNesting flat3_fa = true ∧ flatWF flat3_fa = true ∧
      (∀ bk ∈ mkBuckets (flat3_fa.map mkBlk), distinguishedB bk.2 = true) ∧
      (mkBuckets (flat3_fa.map mkBlk)).map (fun bk => bk.2.length) = [3] :=
  Ex11.flat3_eval_fa.1

example : ∃ groups, parseGroups flat3_fa = .ok groups ∧
    groups.map (fun e => (e.1, e.2.2)) = mkBuckets (flat3_fa.map mkBlk) := by
  obtain ⟨h1, h2, h3, _⟩ := C03_flat_three_blocks_pre
  obtain ⟨g, hg, hs, _⟩ := C03_flat_accepts flat3_fa h1 h2 h3
  exact ⟨g, hg, hs⟩

/-- non-vacuity: a two-bucket input with interleaved blocks, and three blocks with two keys each where different
    pairs are distinguished by different keys -/
theorem C03_flat_more_pre :
    flatAcceptPre flat2x2_fa = true ∧ (mkBuckets (flat2x2_fa.map mkBlk)).map (fun bk => bk.2.length) = [2, 2] ∧
    flatAcceptPre flat3keys_fa = true ∧ (mkBuckets (flat3keys_fa.map mkBlk)).map (fun bk => bk.2.length) = [3] := by
  decide +kernel

example : (∃ g, parseGroups flat2x2_fa = .ok g ∧ g.length = 2) ∧ (∃ g, parseGroups flat3keys_fa = .ok g ∧ g.length = 1) := by
  obtain ⟨h1, l1, h2, l2⟩ := C03_flat_more_pre
  obtain ⟨g1, hg1, hs1⟩ := C03_flat_accepts_exec _ h1
  obtain ⟨g2, hg2, hs2⟩ := C03_flat_accepts_exec _ h2
  have e1 := congrArg List.length (hs1.symm ▸ l1)
  have e2 := congrArg List.length (hs2.symm ▸ l2)
  simp only [List.length_map] at e1 e2
  exact ⟨⟨g1, hg1, e1⟩, ⟨g2, hg2, e2⟩⟩

/-- **Counterexample: the distinguishing key must be bounded by EVERY block of the bucket.** The first two of the
    three blocks differ (only) by their bindings `Kind = X` / `Kind = Y` under `T: Other<…>`, a key the third block
    does not bound; every other pair differs on `T: Dispatch<Group = …>`. The weakened condition
    `distinguishedAnyKeyB_fa` (distinguishing key not required to be shared by all blocks) holds, but the family only
    keeps keys every member bounds, the first two rows coincide there (`Group = GroupA`), and the macro rejects. -/
theorem C03_flat_nonshared_key_counterexample :
    noNesting nonshared_fa = true ∧ flatWF nonshared_fa = true ∧
    (mkBuckets (nonshared_fa.map mkBlk)).all (fun bk => distinguishedAnyKeyB_fa bk.2) = true ∧
    (mkBuckets (nonshared_fa.map mkBlk)).all (fun bk => distinguishedB bk.2) = false ∧
    ∃ id, parseGroups nonshared_fa = .unableToForm id := by
  have h : noNesting nonshared_fa = true ∧ flatWF nonshared_fa = true ∧
      (mkBuckets (nonshared_fa.map mkBlk)).all (fun bk => distinguishedAnyKeyB_fa bk.2) = true ∧
      (mkBuckets (nonshared_fa.map mkBlk)).all (fun bk => distinguishedB bk.2) = false ∧
      ∃ bk ∈ mkBuckets (nonshared_fa.map mkBlk), ∃ bi ∈ bk.2, ∃ bj ∈ bk.2, bi ≠ bj ∧ genPair_fa bk.2 bi bj = true := by
    decide +kernel
  -- rejection through the theorem: the row of the first block generalises the row of the second one
  obtain ⟨hn, hwf, h3, h4, bk, hbk, bi, hbi, bj, hbj, hne, hg⟩ := h
  obtain ⟨id, hid, _⟩ := C03_flat_rejects_indistinguishable nonshared_fa hn hwf bk hbk bi bj hbi hbj hne hg
  exact ⟨hn, hwf, h3, h4, id, hid⟩

/-- **Counterexample: a lone block needs a binding.** `impl<T> Kita for T {}` alone: the pair condition is vacuous,
    but the candidate filter drops a family without any associated-type binding (`is_empty` after
    `prune_non_assoc`), so the macro rejects the invocation with "Unable to form impl group". -/
theorem C03_flat_lone_block_counterexample :
    noNesting [blockOf_fa []] = true ∧ flatWF [blockOf_fa []] = true ∧
    (mkBuckets ([blockOf_fa []].map mkBlk)).all (fun bk => distPairs_fa bk.2) = true ∧
    ∃ id, parseGroups [blockOf_fa []] = .unableToForm id := by
  have h : noNesting [blockOf_fa []] = true ∧ flatWF [blockOf_fa []] = true ∧
      (mkBuckets ([blockOf_fa []].map mkBlk)).all (fun bk => distPairs_fa bk.2) = true ∧
      ∃ bk ∈ mkBuckets ([blockOf_fa []].map mkBlk), hasColumn_fa bk.2 = false := by decide +kernel
  obtain ⟨hn, hwf, h3, bk, hbk, hc⟩ := h
  obtain ⟨id, hid, _⟩ := C03_flat_rejects_no_binding _ hn hwf bk hbk hc
  exact ⟨hn, hwf, h3, id, hid⟩

/-- **Counterexample: different payloads are not enough, neither may generalise the other.** `Group = Vec<U>` (with
    `U` a parameter of the block) and `Group = Vec<u32>` are different payloads, and the second does not generalise
    the first, but the first generalises the second: the rows are not separated and the macro rejects. -/
theorem C03_flat_generalising_payload_counterexample :
    noNesting generalising_fa = true ∧ flatWF generalising_fa = true ∧
    -- the two blocks' folded rows: one key each, `Group = Vec<_ŠČ1>` and `Group = Vec<u32>`
    (generalising_fa.map mkBlk).map (fun b => (otherFold b).map (fun e => e.2)) =
      [[[("Group", vecOf (.tparam "_ŠČ1"))]], [[("Group", vecOf (tyPath [seg "u32"]))]]] ∧
    vecOf (.tparam "_ŠČ1") ≠ vecOf (tyPath [seg "u32"]) ∧
    supYes (vecOf (tyPath [seg "u32"])) (vecOf (.tparam "_ŠČ1")) = false ∧
    supYes (vecOf (.tparam "_ŠČ1")) (vecOf (tyPath [seg "u32"])) = true ∧
    (mkBuckets (generalising_fa.map mkBlk)).all (fun bk => separatedB bk.2) = false ∧
    ∃ id, parseGroups generalising_fa = .unableToForm id := by
  have h : noNesting generalising_fa = true ∧ flatWF generalising_fa = true ∧
      (generalising_fa.map mkBlk).map (fun b => (otherFold b).map (fun e => e.2)) =
        [[[("Group", vecOf (.tparam "_ŠČ1"))]], [[("Group", vecOf (tyPath [seg "u32"]))]]] ∧
      vecOf (.tparam "_ŠČ1") ≠ vecOf (tyPath [seg "u32"]) ∧
      supYes (vecOf (tyPath [seg "u32"])) (vecOf (.tparam "_ŠČ1")) = false ∧
      supYes (vecOf (.tparam "_ŠČ1")) (vecOf (tyPath [seg "u32"])) = true ∧
      (mkBuckets (generalising_fa.map mkBlk)).all (fun bk => separatedB bk.2) = false := by decide +kernel
  obtain ⟨hn, hwf, h3, h4, h5, h6, hs⟩ := h
  refine ⟨hn, hwf, h3, h4, h5, h6, hs, ?_⟩
  obtain ⟨bk, hbk, hsep⟩ := List.all_eq_false.1 hs
  obtain ⟨id, hid, _⟩ := flat_rejects_fa generalising_fa (noNesting_iff.1 hn) hwf hbk (by simpa using hsep)
  exact ⟨id, hid⟩

/-- `distinguishedB` is sufficient, not necessary: two blocks that each leave the other's bound associated type
    unconstrained (`Group = GroupA` and no `Kind`, versus no `Group` and `Kind = X`) are separated — neither row
    generalises the other, a binding never generalises a missing one — and the macro accepts them, although no
    associated type is bound by both. (Such blocks overlap semantically; that is C04's subject.) -/
theorem C03_flat_separated_not_distinguished_example :
    noNesting wildcards_fa = true ∧ flatWF wildcards_fa = true ∧
    (mkBuckets (wildcards_fa.map mkBlk)).all (fun bk => distinguishedB bk.2) = false ∧
    ∃ g, parseGroups wildcards_fa = .ok g := by
  have h : noNesting wildcards_fa = true ∧ flatWF wildcards_fa = true ∧
      (mkBuckets (wildcards_fa.map mkBlk)).all (fun bk => distinguishedB bk.2) = false ∧
      ∀ bk ∈ mkBuckets (wildcards_fa.map mkBlk), separatedB bk.2 = true := by decide +kernel
  exact ⟨h.1, h.2.1, h.2.2.1, (C03_flat_acceptance_exact wildcards_fa h.1 h.2.1).2 h.2.2.2⟩

/-- the closed facts about a lone block under a header on which the matcher itself panics (a synthetic header containing
    a `Pat::Struct` node) next to an ordinary family, which the examples of the `flatWF0` theorems use (one evaluation) -/
theorem Ex11.weird_eval_fa :
    let weird : T := .node "Type::Slice" [] [.node "Pat::Struct" [] []]
    let items := [blockSelf "GroupA" weird, blockSelf "GroupA" (vecOf tT), blockSelf "GroupB" (vecOf tT)]
    flatWF items = false ∧ noNesting items = true ∧ flatWF0 items = true ∧
    (∀ bk ∈ mkBuckets (items.map mkBlk), bucketPanics bk = false ∧ distinguishedB bk.2 = true) ∧
    (mkBuckets (items.map mkBlk)).length = 2 := by
  decide +kernel

/-- non-vacuity of `C03_flat_accepts_weak` outside `flatWF`: a lone block under a header on which the matcher itself
    panics (a synthetic header containing a `Pat::Struct` node; its bucket is never compared with itself) next to an
    ordinary family -/
example :
    let weird : T := .node "Type::Slice" [] [.node "Pat::Struct" [] []]
    let items := [blockSelf "GroupA" weird, blockSelf "GroupA" (vecOf tT), blockSelf "GroupB" (vecOf tT)]
    flatWF items = false ∧ ∃ g, parseGroups items = .ok g ∧ g.length = 2 := by
  intro weird items
  obtain ⟨hnwf, hn, hwf, hd, hl⟩ := Ex11.weird_eval_fa
  obtain ⟨g, hg, hs⟩ := C03_flat_accepts_weak items hn hwf hd
  have := congrArg List.length hs
  simp only [List.length_map] at this
  exact ⟨hnwf, g, hg, this.trans hl⟩

/-- non-vacuity of `C03_distinguishedB_spec`, `C03_distinguishedB_of_pairs`, `C03_separatedB_is_filter` and
    `C03_distinguished_separated`: the bucket of the three-block example -/
example : ∃ blks : List Blk, blks.length = 3 ∧ (∀ b ∈ blks, wfBlk b = true) ∧ blks.Nodup ∧
    distinguishedB blks = true ∧ separatedB blks = true ∧ accOK blks = true ∧
    (∀ bi ∈ blks, ∀ bj ∈ blks, bi ≠ bj → ∃ e ∈ otherFold bi, hasKey blks e.1 = true ∧
      ∃ a p q, cell bi (e.1, a) = some p ∧ cell bj (e.1, a) = some q ∧ supYes p q = false ∧ supYes q p = false) := by
  obtain ⟨_, hw, hnd, hp, _⟩ := Ex11.flat3_eval_fa
  have hd : distinguishedB (flat3_fa.map mkBlk) = true :=
    C03_distinguishedB_of_pairs _ (mkBlk (blockOf_fa [traitBound (dispatch "GroupA"), traitBound (otherTr "X")]))
      (mkBlk (blockOf_fa [traitBound (otherTr "Y"), traitBound (dispatch "GroupB")])) (by simp [flat3_fa]) (by simp [flat3_fa])
      (fun e => by simp only [List.nodup_cons, flat3_fa, List.map_cons, List.mem_cons, e, true_or, not_true_eq_false, false_and] at hnd) hp
  have hs := C03_distinguished_separated _ hd
  refine ⟨flat3_fa.map mkBlk, rfl, hw, hnd, hd, hs, ?_, ((C03_distinguishedB_spec _ hw).1 hd).2⟩
  rw [C03_separatedB_is_filter _ (by simp [flat3_fa]) hw hnd]
  exact hs

/-- non-vacuity of `C03_sup_yes_unifiable`: `Vec<_ŠČ1>` generalises `Vec<u32>` (the payloads of
    `generalising_fa`) -/
example : ∃ σ, wf (vecOf (.tparam "_ŠČ1")) = true ∧ wf (vecOf (tyPath [seg "u32"])) = true ∧
    ignFaces (vecOf (.tparam "_ŠČ1")) (stripTop (vecOf (tyPath [seg "u32"]))) = true ∧
    sup (vecOf (.tparam "_ŠČ1")) (vecOf (tyPath [seg "u32"])) = .yes σ false :=
  ⟨[("_ŠČ1", .ty (tyPath [seg "u32"]))], by decide +kernel⟩

/-- non-vacuity of `C03_nonunifiable_distinguishes`: the payloads `GroupA`, `GroupB` of the README example are closed
    and different, hence not unifiable; the theorem (not a computation of `sup`) yields the cell condition -/
example : sepCell_fa (mkBlk (blockFor "GroupA")) (mkBlk (blockFor "GroupB"))
    ((.tparam "_ŠČ0", dispatch "GroupA"), "Group") = true := by
  obtain ⟨_, _, _, ⟨_, _, c1, c2, hu⟩, _⟩ := Ex11.readme_eval_fa
  exact C03_nonunifiable_distinguishes _ _ _ _ _ c1 c2 hu
    (C03_closed_payloads_nonunifiable _ _ (by decide) (by decide) (by decide))

/-- non-vacuity of `C03_flat_accepts_nonunifiable` and `C03_closed_payloads_nonunifiable`: the README example; its
    payloads `GroupA`, `GroupB` are closed and different, and the theorems (no evaluation of the matcher on the
    payloads) yield the acceptance -/
example : ∃ g, parseGroups [blockFor "GroupA", blockFor "GroupB"] = .ok g := by
  obtain ⟨hpre, hb, hcol, ⟨m1, k1, c1, c1', u1⟩, ⟨m2, k2, c2, c2', u2⟩⟩ := Ex11.readme_eval_fa
  simp only [flatAcceptPre, Bool.and_eq_true] at hpre
  have hnu : ¬ ∃ θ₁ θ₂ : Subst, erase (inst θ₁ (tyPath [seg "GroupA"])) = erase (inst θ₂ (tyPath [seg "GroupB"])) :=
    C03_closed_payloads_nonunifiable _ _ (by decide) (by decide) (by decide)
  have hnu' : ¬ ∃ θ₁ θ₂ : Subst, erase (inst θ₁ (tyPath [seg "GroupB"])) = erase (inst θ₂ (tyPath [seg "GroupA"])) :=
    fun ⟨θ₁, θ₂, h⟩ => hnu ⟨θ₂, θ₁, h.symm⟩
  obtain ⟨g, hg, _⟩ := C03_flat_accepts_nonunifiable [blockFor "GroupA", blockFor "GroupB"] hpre.1.1 hpre.1.2 (by
    intro bk hbk
    rw [hb] at hbk
    simp only [List.mem_singleton] at hbk
    subst hbk
    refine ⟨hcol, fun bi hbi bj hbj hne => ?_⟩
    simp only [List.mem_cons, List.mem_nil_iff, or_false] at hbi hbj
    rcases hbi with rfl | rfl <;> rcases hbj with rfl | rfl
    · exact absurd rfl hne
    · exact ⟨_, m1, k1, _, _, _, c1, c1', u1, hnu⟩
    · exact ⟨_, m2, k2, _, _, _, c2, c2', u2, hnu'⟩
    · exact absurd rfl hne)
  exact ⟨g, hg⟩

/-- non-vacuity of `C03_flat_rejects_first`: the `Vec<T>` bucket is fine, the `Box<T>` bucket holds two blocks with
    the same binding (the second has an extra, unused parameter); the error names the `Box<T>` header -/
example :
    let items := [blockSelf "GroupA" (vecOf tT), blockSelf "GroupA" (boxOf tT), blockSelf "GroupB" (vecOf tT),
      blockSelf2 "GroupA" (boxOf tT)]
    parseGroups items = .unableToForm (groupIdOf (mkBlk (blockSelf "GroupA" (boxOf tT))).item) := by
  intro items
  have h : noNesting items = true ∧ flatWF items = true ∧
      ∃ bk1 ∈ mkBuckets (items.map mkBlk), ∃ bk2 ∈ mkBuckets (items.map mkBlk),
        mkBuckets (items.map mkBlk) = [bk1] ++ bk2 :: [] ∧ separatedB bk1.2 = true ∧
        separatedB bk2.2 = false ∧ bk2.1 = groupIdOf (mkBlk (blockSelf "GroupA" (boxOf tT))).item := by decide +kernel
  obtain ⟨hn, hwf, bk1, _, bk2, _, hsplit, h1, h2, hid⟩ := h
  rw [← hid]
  exact C03_flat_rejects_first items hn hwf [bk1] [] bk2 hsplit
    (fun b hb => by simp only [List.mem_singleton] at hb; subst hb; exact h1) h2

/-- non-vacuity of `C03_flat_conditions_order_free`: the three-block bucket and a rotation of it -/
example :
    let b0 := mkBlk (blockOf_fa [traitBound (dispatch "GroupA"), traitBound (otherTr "X")])
    let b1 := mkBlk (blockOf_fa [traitBound (otherTr "Y"), traitBound (dispatch "GroupB")])
    let b2 := mkBlk (blockOf_fa [traitBound (dispatch "GroupC")])
    distinguishedB [b2, b0, b1] = true := by
  intro b0 b1 b2
  rw [← (C03_flat_conditions_order_free [b0, b1, b2] [b2, b0, b1]
    (List.perm_append_comm (l₁ := [b0, b1]) (l₂ := [b2]))).1]
  exact Ex11.flat3_eval_fa.2.2.2.2

/-- non-vacuity of `C03_clash_nonunifiable`: the README payloads, and a generic payload `Vec<_ŠČ1>` against `u32` -/
example : clash_fa (tyPath [seg "GroupA"]) (tyPath [seg "GroupB"]) = true ∧
    clash_fa (vecOf (.tparam "_ŠČ1")) (tyPath [seg "u32"]) = true ∧
    clash_fa (vecOf (.tparam "_ŠČ1")) (vecOf (tyPath [seg "u32"])) = false := by decide +kernel

/-- non-vacuity of `C03_flat_accept_pre_order_free`: the reversed three-block example is accepted, by the theorems -/
example : ∃ g, parseGroups flat3_fa.reverse = .ok g := by
  have hpre : flatAcceptPre flat3_fa = true := by
    obtain ⟨h1, h2, h3, _⟩ := C03_flat_three_blocks_pre
    simp only [flatAcceptPre, flatDistinguished, Bool.and_eq_true, List.all_eq_true]
    exact ⟨⟨h1, h2⟩, h3⟩
  obtain ⟨g, hg, _⟩ := C03_flat_accepts_exec _
    (C03_flat_accept_pre_order_free flat3_fa flat3_fa.reverse (List.reverse_perm _).symm hpre)
  exact ⟨g, hg⟩

end FlatAcceptExamples

end DI

/-
  C08 — naming and top-level shape of the expansion. Four parts:

  1. Helper-trait names (`helper_trait.rs:140-142`, `format_ident!("_{}{}", ident, idx)`, model `genIdent` in
     `Lemmas/Names.lean`): pairwise distinct within an invocation and different from the trait's own name.
  2. The assembly step of `lib.rs:693-702` only: the trait is emitted verbatim, everything else goes into one
     anonymous constant. These statements are definitional facts about the model `expandTop` of that step;
     what is *inside* the anonymous constant (hygiene of the generated items) is not covered here.
  3. The assembly step tied to the generators of `Expand.lean`: `expandAll trait? groups` runs the three
     generators on every family in order and renders the result; `C08_expandAll_top_level` (trait verbatim + one
     `const _`, nothing else in inherent mode), `C08_helper_names_in_const` (helper trait of family `idx` is named
     `genIdent n idx`), distinctness in trait mode, and two counterexamples: helper names CAN clash in inherent mode
     with eleven or more families on different self types (`C08_inherent_helper_names_clash_counterexample`), and
     a user item named like a helper is shadowed inside the constant (`C08_user_item_shadowed_counterexample`, D11).
  4. The helper impls name the helper trait by ONE unqualified segment whatever qualifiers the user wrote
     (`C08_helper_path_unqualified`, `C08_helper_impls_unqualified`; /repo commit ccb06e8).
-/
import DisjointImpls.Lemmas.Names
import DisjointImpls.Validate
import DisjointImpls.Lemmas.ExpandEmit
import DisjointImpls.Props.C17
import DisjointImpls.Lemmas.HelperPath
namespace DI

/-! ## Helper-trait names -/

theorem C08_helpers_distinct (name : String) (i j : Nat) : genIdent name i = genIdent name j → i = j :=
  genIdent_inj name

theorem C08_helper_differs_from_trait (name : String) (i : Nat) : genIdent name i ≠ name := genIdent_ne name i

/-- helpers of one invocation: pairwise distinct names -/
theorem C08_helper_names_nodup (name : String) (n : Nat) : ((List.range n).map (genIdent name)).Nodup :=
  List.Pairwise.map (genIdent name) (fun _ _ hab e => hab (genIdent_inj name e)) List.nodup_range

/-- … none of which is the trait's name -/
theorem C08_helper_names_avoid_trait (name : String) (n : Nat) : name ∉ (List.range n).map (genIdent name) := by
  intro h
  obtain ⟨i, _, hi⟩ := List.mem_map.1 h
  exact genIdent_ne name i hi

/-! ## Top-level shape (assembly step only) -/

/-- what `disjoint_impls!` expands to: the trait definition (trait mode) and one `const _: () = { … };` -/
structure TopLevel where
  trait_ : Option T
  anon : List T

/-- `lib.rs:693-702`: `#trait_  const _: () = { #(#helper_traits)* #(#helper_impls)* #(#main_impls)* };` -/
def expandTop (trait_ : Option T) (helpers helperImpls mainImpls : List T) : TopLevel :=
  ⟨trait_, helpers ++ helperImpls ++ mainImpls⟩

/-- an item of the enclosing scope -/
inductive ScopeItem where
  | named (t : T)                 -- an item with a name of its own: the trait definition
  | anonymous (items : List T)    -- `const _: () = { items };`

def scopeItems (tl : TopLevel) : List ScopeItem := tl.trait_.toList.map .named ++ [.anonymous tl.anon]

/-- names bound in the enclosing scope by an item (`const _` binds none; its contents are not in scope outside) -/
def ScopeItem.boundNames : ScopeItem → List String
  | .named t => [traitIdent t]
  | .anonymous _ => []

/-- the only items added to the enclosing scope are the trait, verbatim, and one anonymous constant containing
    everything else -/
theorem C08_top_level_shape (trait_ : Option T) (helpers helperImpls mainImpls : List T) :
    scopeItems (expandTop trait_ helpers helperImpls mainImpls) =
      trait_.toList.map .named ++ [.anonymous (helpers ++ helperImpls ++ mainImpls)] := rfl

/-- names bound in the enclosing scope: the trait's name only; none in inherent mode -/
theorem C08_introduced_names (trait_ : Option T) (helpers helperImpls mainImpls : List T) :
    (scopeItems (expandTop trait_ helpers helperImpls mainImpls)).flatMap ScopeItem.boundNames =
      trait_.toList.map traitIdent := by
  cases trait_ <;> simp [scopeItems, expandTop, ScopeItem.boundNames]

theorem C08_inherent_introduces_nothing (helpers helperImpls mainImpls : List T) :
    (scopeItems (expandTop none helpers helperImpls mainImpls)).flatMap ScopeItem.boundNames = [] := by
  rw [C08_introduced_names]; rfl

/-- one invocation: the trait (if any) and the three groups of generated items -/
structure Invocation where
  trait_ : Option T
  helpers : List T
  helperImpls : List T
  mainImpls : List T

def Invocation.scope (i : Invocation) : List ScopeItem := scopeItems (expandTop i.trait_ i.helpers i.helperImpls i.mainImpls)

theorem flatMap_toList_eq_filterMap {α β : Type} (f : α → Option β) : ∀ (l : List α),
    l.flatMap (fun a => (f a).toList) = l.filterMap f
  | [] => rfl
  | a :: l => by
      rw [List.flatMap_cons, List.filterMap_cons, flatMap_toList_eq_filterMap f l]
      cases f a <;> rfl

/-- side by side: invocations with pairwise distinct trait names bind no name twice in the enclosing scope
    (anonymous constants bind none, so any number of inherent-mode invocations may be added) -/
theorem C08_side_by_side (invs : List Invocation)
    (h : ((invs.filterMap (·.trait_)).map traitIdent).Nodup) :
    ((invs.flatMap Invocation.scope).flatMap ScopeItem.boundNames).Nodup := by
  have : (invs.flatMap Invocation.scope).flatMap ScopeItem.boundNames =
      (invs.filterMap (·.trait_)).map traitIdent := by
    rw [List.flatMap_assoc]
    have h1 : ∀ i : Invocation, (Invocation.scope i).flatMap ScopeItem.boundNames = (i.trait_.toList).map traitIdent :=
      fun i => C08_introduced_names i.trait_ i.helpers i.helperImpls i.mainImpls
    simp only [h1]
    rw [← flatMap_toList_eq_filterMap, List.map_flatMap]
  rw [this]; exact h

/-! ## Non-vacuity -/

example : genIdent "Kita" 0 = "_Kita0" ∧ genIdent "Kita" 12 = "_Kita12" := by
  decide +kernel

example :
    let tr (x : String) : T := .node "ItemTrait" [] [.node "L" [] [], .node "V" [] [], .node "None" [] [], .node "None" [] [],
      .node "None" [] [], .node "Ident" [x] [], .node "G" [] [], .node "None" [] [], .node "List" [] [], .node "List" [] []]
    let invs : List Invocation := [⟨some (tr "Kita"), [.node "H" [] []], [], []⟩, ⟨none, [], [], [.node "M" [] []]⟩,
      ⟨some (tr "Other"), [], [], []⟩]
    ((invs.filterMap (·.trait_)).map traitIdent) = ["Kita", "Other"] ∧
    (invs.flatMap Invocation.scope).flatMap ScopeItem.boundNames = ["Kita", "Other"] ∧
    (invs.flatMap Invocation.scope).length = 5 := by decide +kernel

/-! ## The assembly step tied to the generators of `Expand.lean`

`expandParts_em trait_ groups` (`Lemmas/ExpandEmit.lean`) runs, for every family `g` of `groups` with its index `idx`
(`enumerate()`, lib.rs:693-707), the three generators of the model — `helperTraitOfTrait` / `helperTraitOfInherent`
(with `idents().count()` key parameters), `helperImpls`, `mainImplOfTrait` / `mainImplInherent` — and is `none` if one of
them panics or leaves the modelled fragment. `expandAll` renders `expandTop` of the results as item trees: the trait (if
any) and ONE `const _: () = { helper traits; helper impls; main impls };` (`anonConst_em`). -/

/-- a scope item as an item tree -/
def renderScopeItem : ScopeItem → T
  | .named t => t
  | .anonymous items => anonConst_em items

/-- what `disjoint_impls!` expands to, as a list of top-level items (`none`: a generator fails) -/
def expandAll (trait_ : Option T) (groups : Groups) : Option (List T) :=
  (expandParts_em trait_ groups).map (fun ps =>
    (scopeItems (expandTop trait_ (partsHelpers_em ps) (partsHelperImpls_em ps) (partsMainImpls_em ps))).map renderScopeItem)

/-- **Top-level shape.** Whenever the expansion exists, its top-level items are exactly the trait the user wrote —
    the SAME tree, first — followed by one `const _: () = { … }` that contains one helper trait per family (in family
    order), then all helper impls, then the main impls; in inherent mode the `const _` is the only item. The only
    names bound in the enclosing scope are those of the user's trait (`itemBoundNames_em`: a trait binds its
    identifier, `const _` binds nothing). No side condition. -/
theorem C08_expandAll_top_level (trait_ : Option T) (groups : Groups) (items : List T)
    (h : expandAll trait_ groups = some items) :
    ∃ ps, expandParts_em trait_ groups = some ps ∧ ps.length = groups.length ∧
      (partsHelpers_em ps).length = groups.length ∧
      items = trait_.toList ++ [anonConst_em (partsHelpers_em ps ++ partsHelperImpls_em ps ++ partsMainImpls_em ps)] ∧
      items.flatMap itemBoundNames_em = trait_.toList.flatMap itemBoundNames_em := by
  unfold expandAll at h
  cases hp : expandParts_em trait_ groups with
  | none => rw [hp] at h; cases h
  | some ps =>
    rw [hp] at h
    simp only [Option.map_some, Option.some.injEq] at h
    subst h
    have hlen := expandParts_length_em hp
    refine ⟨ps, rfl, hlen, by simp [partsHelpers_em, hlen], ?_, ?_⟩
    · cases trait_ <;> simp [scopeItems, expandTop, renderScopeItem]
    · cases trait_ <;> simp [scopeItems, expandTop, renderScopeItem, itemBoundNames_anonConst_em]

/-- trait mode: two items, the user's trait verbatim and the anonymous constant; the scope gains the trait's name only
    (side condition, executable: the trait is an `ItemTrait` tree with an identifier, `isItemTrait_em`) -/
theorem C08_expandAll_trait_mode (t : T) (groups : Groups) (items : List T) (h : expandAll (some t) groups = some items) :
    ∃ inner, items = [t, anonConst_em inner] ∧
      (isItemTrait_em t = true → items.flatMap itemBoundNames_em = [traitIdent t]) := by
  obtain ⟨ps, _, _, _, hi, hn⟩ := C08_expandAll_top_level (some t) groups items h
  refine ⟨_, hi, fun ht => ?_⟩
  rw [hn]
  simp [itemBoundNames_of_isItemTrait_em ht]

/-- inherent mode: nothing at all is added to the enclosing scope except one anonymous constant -/
theorem C08_expandAll_inherent_mode (groups : Groups) (items : List T) (h : expandAll none groups = some items) :
    ∃ inner, items = [anonConst_em inner] ∧ items.flatMap itemBoundNames_em = [] := by
  obtain ⟨ps, _, _, _, hi, hn⟩ := C08_expandAll_top_level none groups items h
  exact ⟨_, hi, by rw [hn]; rfl⟩

/-- **Helper names.** The helper trait generated for family `idx` is named `genIdent n idx` = `_<n><idx>`, where `n`
    is the user's trait's identifier (trait mode) or the identifier of the self type of the family's first block
    (inherent mode; `helperBaseName_em`). No side condition beyond the existence of the expansion. -/
theorem C08_helper_names_in_const (trait_ : Option T) (groups : Groups) (ps : List (T × List T × Option T))
    (h : expandParts_em trait_ groups = some ps) :
    (partsHelpers_em ps).map traitIdent =
      (List.zip (List.range groups.length) groups).map (fun ig => genIdent (helperBaseName_em trait_ ig.2) ig.1) :=
  partsHelpers_names_em h

/-- trait mode: the helper traits are named `_<Trait>0, …, _<Trait>(n-1)`: pairwise different and different from the
    trait's own name -/
theorem C08_expandAll_helper_names_trait (t : T) (groups : Groups) (ps : List (T × List T × Option T))
    (h : expandParts_em (some t) groups = some ps) :
    (partsHelpers_em ps).map traitIdent = (List.range groups.length).map (genIdent (traitIdent t)) ∧
    ((partsHelpers_em ps).map traitIdent).Nodup ∧ traitIdent t ∉ (partsHelpers_em ps).map traitIdent := by
  have := partsHelpers_names_trait_em h
  rw [this]
  exact ⟨rfl, C08_helper_names_nodup _ _, C08_helper_names_avoid_trait _ _⟩

/-- inherent mode, PARTIAL: when all families are on the same self-type name `n` (executable side condition), the helper
    traits are named `_<n>0, …, _<n>(k-1)`: pairwise different and different from `n`. Without the side condition the
    names can clash: `C08_inherent_helper_names_clash_counterexample`. -/
theorem C08_expandAll_helper_names_inherent_partial (n : String) (groups : Groups) (ps : List (T × List T × Option T))
    (h : expandParts_em none groups = some ps) (hn : groups.all (fun g => selfName_em g == n) = true) :
    (partsHelpers_em ps).map traitIdent = (List.range groups.length).map (genIdent n) ∧
    ((partsHelpers_em ps).map traitIdent).Nodup ∧ n ∉ (partsHelpers_em ps).map traitIdent := by
  have := partsHelpers_names_inherent_em h hn
  rw [this]
  exact ⟨rfl, C08_helper_names_nodup _ _, C08_helper_names_avoid_trait _ _⟩

/-- both modes, PARTIAL in the other direction: with at most TEN families (executable side condition) all indices are
    single digits and the helper traits have pairwise different names whatever the self-type names are — so the clash of
    `C08_inherent_helper_names_clash_counterexample` needs at least eleven families -/
theorem C08_expandAll_helper_names_nodup_small (trait_ : Option T) (groups : Groups) (ps : List (T × List T × Option T))
    (h : expandParts_em trait_ groups = some ps) (hlen : groups.length ≤ 10) :
    ((partsHelpers_em ps).map traitIdent).Nodup :=
  partsHelpers_names_nodup_small_em h hlen

/-! ### Examples and counterexamples -/

namespace Ex08
open Ex11 ExInh
/-- `impl<T: Dispatch<Group = GroupA>> n<T> { pub fn name(&self) {} }` -/
def inhBlock (n : String) : T :=
  implInh [tyParam "T" [traitBound (dispatch "GroupA")]] (leaf "None") (adt n [tT]) [fnItem pubVis "name"]
/-- eleven inherent blocks on eleven self types, the first `A1<T>`, the eleventh `A<T>` -/
def clashItems : List T := ["A1", "B", "C", "D", "E", "F", "G", "H", "I", "J", "A"].map inhBlock
/-- run the front end and the whole expansion and apply a Boolean test -/
def checkAll (trait_ : Option T) (items : List T) (f : Groups → List (T × List T × Option T) → List T → Bool) : Bool :=
  match parseGroups items with
  | .ok groups =>
      (match expandParts_em trait_ groups, expandAll trait_ groups with
       | some ps, some top => f groups ps top
       | _, _ => false)
  | _ => false
/-- a trait path `_Kita0` as a bound: the user refers to an item of THEIR scope that happens to be called `_Kita0` -/
def userHelperNamedBound : T := traitBound (path [Ex11.seg "_Kita0"])
/-- `impl<T: Dispatch<Group = GroupA> + _Kita0> Kita for T {}` -/
def capturedBlock : T := implOf [tyParam "T" [traitBound (dispatch "GroupA"), userHelperNamedBound]] (Ex11.tyPath [Ex11.seg "T"])
end Ex08

section TopLevelExamples
open Ex08

/-- non-vacuity (trait mode): the README input expands; two top-level items, the trait — the tree the user wrote —
    and the anonymous constant; one family, its helper trait is named `_Kita0`; the scope gains the name `Kita` only -/
example : checkAll (some ExOK.kitaTrait) [Ex11.blockFor "GroupA", Ex11.blockFor "GroupB"] (fun groups ps top =>
    groups.length == 1 && top.length == 2 && top.head? == some ExOK.kitaTrait && isItemTrait_em ExOK.kitaTrait &&
    (partsHelpers_em ps).map traitIdent == ["_Kita0"] && top.flatMap itemBoundNames_em == ["Kita"] &&
    (partsHelperImpls_em ps).length == 2 && (partsMainImpls_em ps).length == 1) = true := by
  decide +kernel

/-- non-vacuity (inherent mode): two blocks on `Wrapper<T>` expand to one anonymous constant and nothing else; the
    helper trait is named `_Wrapper0`, the side condition of `C08_expandAll_helper_names_inherent_partial` holds -/
example : checkAll none [ExInh.blockW "GroupA", ExInh.blockW "GroupB"] (fun groups ps top =>
    groups.length == 1 && top.length == 1 && top.flatMap itemBoundNames_em == [] &&
    groups.all (fun g => selfName_em g == "Wrapper") &&
    (partsHelpers_em ps).map traitIdent == ["_Wrapper0"]) = true := by
  decide +kernel

/-- **Counterexample: helper names can clash in inherent mode.** Different families of an inherent-mode
    invocation may be on different self types, and `format_ident!("_{}{}", ident, idx)` is not injective in the pair
    (identifier, index): with eleven families, the first on `A1<T>` and the eleventh on `A<T>`, the helper traits of
    family 0 and of family 10 are both named `_A10`, inside the same `const _` (rustc: E0428). The input is accepted
    and every generator succeeds. -/
theorem C08_inherent_helper_names_clash_counterexample :
    checkAll none clashItems (fun groups ps _ =>
      groups.length == 11 &&
      ((partsHelpers_em ps).map traitIdent)[0]? == some "_A10" &&
      ((partsHelpers_em ps).map traitIdent)[10]? == some "_A10") = true := by
  decide +kernel

/-- the arithmetic behind it: `_` ++ `A1` ++ `0` = `_` ++ `A` ++ `10` -/
theorem C08_genIdent_not_injective_in_name : genIdent "A1" 0 = genIdent "A" 10 := by
  decide +kernel

/-- **Counterexample (finding D11): a user item named like a helper is shadowed inside the constant.** The block
    `impl<T: Dispatch<Group = GroupA> + _Kita0> Kita for T {}` refers to an item `_Kita0` of the user's scope. The
    invocation is accepted and expands; inside the anonymous constant a trait named `_Kita0` is defined (the helper
    trait of family 0), and the user's bound `_Kita0` is copied verbatim into the generics of the first helper impl —
    inside that constant, where the name now resolves to the generated helper trait, not to the user's item. -/
theorem C08_user_item_shadowed_counterexample :
    checkAll (some ExOK.kitaTrait) [capturedBlock, Ex11.blockFor "GroupB"] (fun groups ps top =>
      groups.length == 1 && top.length == 2 &&
      (partsHelpers_em ps).map traitIdent == ["_Kita0"] &&
      (identsOf_inh capturedBlock).contains "_Kita0" &&
      (match (partsHelperImpls_em ps)[0]? with
       | some h => (identsOf_inh (XOK.kid h 3)).contains "_Kita0"
       | none => false)) = true := by
  decide +kernel
end TopLevelExamples

/-! ## The helper impls never name the helper trait through the user's qualifiers
    (disjoint.rs, /repo commit ccb06e8 "fix: helper traits are named by the last path segment only")

The helper trait `_<Name><idx>` is declared INSIDE the anonymous constant, next to the helper impls; a qualifier the user
wrote on the trait path (`impl<T> self::Kita for T`, `impl<T> ::krate::Kita for T`) or on the self type of an inherent block
(`impl<T> meters::Wrapper<T>`) names a place where no `_<Name><idx>` exists (E0405 before the repair). Now the trait
reference of every helper impl is the single segment, with no leading `::`. -/

/-- **Helper path.** If `helperImpl idx ip idents row member = some h` (either mode: `ip = none` in trait mode,
    `ip = some p₀` the generated self-type path in inherent mode) then, with `p` the source path (`helperSourcePath_hp`: the
    member's trait path, resp. `p₀`) and `x<args>` its LAST segment, the trait path of `h` (`implTraitPath`, and the checker's
    `XOK.traitPathOf`) is EXACTLY `pathNode noLead [one segment]`: no leading `::`, one segment, whose identifier is
    `genIdentStr x idx` = `_<x><idx>` and whose arguments `na` are the printed row followed by `args`
    (`helperSegArgs_hp`). The leading segments and the leading `::` of `p` occur nowhere in it. The executable form of the
    statement, `helperPathUnqualified_hp idx ip member h` (reads the given trees only), holds. No side condition. -/
theorem C08_helper_path_unqualified (idx : Nat) (ip : Option T) (idents : List (BKey × String)) (row : List (Option T))
    (member h : T) (hh : helperImpl idx ip idents row member = some h) :
    ∃ p x args na, helperSourcePath_hp ip member = some p ∧
      lastSegOf p = some (.node "PathSegment" [] [.node "Ident" [x] [], args]) ∧
      helperSegArgs_hp (rowArgs idents row) args = some na ∧
      implTraitPath h = some (pathNode noLead [.node "PathSegment" [] [tIdent (genIdentStr x idx), na]]) ∧
      XOK.traitPathOf h = some (pathNode noLead [.node "PathSegment" [] [tIdent (genIdentStr x idx), na]]) ∧
      helperPathUnqualified_hp idx ip member h = true := by
  obtain ⟨p, x, args, na, h1, h2, h3, h4, h5⟩ := helperImpl_path_hp hh
  exact ⟨p, x, args, na, h1, h2, h3, h4, h5, (helperPathUnqualified_of_hp hh).1⟩

/-- **All helper impls of a family.** Every helper impl `helperImpls idx g` returns has a single-segment trait reference
    without a leading `::` (`pathUnqualified_hp`, executable, reads the helper impl only). No side condition. -/
theorem C08_helper_impls_unqualified (idx : Nat) (g : T × ABG × List Blk) (hs : List T)
    (hh : helperImpls idx g = some hs) : hs.all pathUnqualified_hp = true :=
  helperImpls_unqualified_hp hh

namespace Ex08
open Ex11
/-- `impl<T: Dispatch<Group = g>> [::]s₁::…::sₙ for T {}` (`lead` = `noLead` / `someLead`) -/
def qualBlock (lead : T) (segs : List T) (g : String) : T :=
  .node "ItemImpl" [] [attrs, leaf "None", leaf "None",
    .node "Generics" [] [leaf "Some", .node "List" [] [tyParam "T" [traitBound (dispatch g)]], leaf "Some", leaf "None"],
    .node "Some" [] [.node "Tuple" [] [leaf "None", .node "Path" [] [lead, .node "List" [] segs]]],
    Ex11.tyPath [Ex11.seg "T"], .node "List" [] []]
/-- `impl<T: Dispatch<Group = g>> self::Kita for T {}` -/
def selfKita (g : String) : T := qualBlock noLead [Ex11.seg "self", Ex11.seg "Kita"] g
/-- `impl<T: Dispatch<Group = g>> ::krate::Kita for T {}` -/
def absKita (g : String) : T := qualBlock someLead [Ex11.seg "krate", Ex11.seg "Kita"] g
/-- `_Kita0<g>` as a path -/
def kita0 (g : String) : T :=
  pathNode noLead [.node "PathSegment" [] [tIdent "_Kita0", DI.angle [gaType (Ex11.tyPath [Ex11.seg g])]]]
end Ex08

section UnqualifiedExamples
open Ex08

/-- non-vacuity, the input of the repaired E0405: the members `impl<T: Dispatch<Group = GroupA>> self::Kita for T {}` and the
    same with `GroupB` (trait path with TWO segments) form one family; the generators succeed; the two helper impls implement
    exactly `_Kita0<GroupA>` and `_Kita0<GroupB>` — one segment, no `self::` —; `helperPathUnqualified_hp` holds for every
    (member, helper impl) pair; the MAIN impl keeps the user's path `self::Kita`; `expandOKB` and the item-level checker
    `itemsOK_it` accept -/
example : ExOK.checkFirst [selfKita "GroupA", selfKita "GroupB"] (fun g hs m =>
    g.2.2.length == 2 && hs.length == 2 && expandWF g && wildcardsFixed g && expandOKB g (thetasOf g) hs m &&
    hs.all pathUnqualified_hp &&
    hs.map implTraitPath == [some (kita0 "GroupA"), some (kita0 "GroupB")] &&
    (List.zip (g.2.2.map (·.item)) hs).all (fun mh => helperPathUnqualified_hp 0 none mh.1 mh.2) &&
    g.2.2.map (fun b => (implTraitPath b.item).map (fun p => (pathSegments p).length)) == [some 2, some 2] &&
    itemsOK_it ExOK.kitaTrait 0 g ((helperTraitOfTrait ExOK.kitaTrait 0 1).getD (.node "?" [] [])) hs m &&
    implTraitPath m == some (.node "Path" [] [noLead, .node "List" [] [Ex11.seg "self", Ex11.seg "Kita"]])) = true := by
  decide +kernel

/-- the same with a leading `::`: `impl<T: Dispatch<Group = g>> ::krate::Kita for T {}`; the helper impls implement `_Kita0<g>`
    (no leading `::`, no `krate::`), the main impl `::krate::Kita` -/
example : ExOK.checkFirst [absKita "GroupA", absKita "GroupB"] (fun g hs m =>
    g.2.2.length == 2 && hs.length == 2 && expandWF g && wildcardsFixed g && expandOKB g (thetasOf g) hs m &&
    hs.all pathUnqualified_hp &&
    hs.map implTraitPath == [some (kita0 "GroupA"), some (kita0 "GroupB")] &&
    (List.zip (g.2.2.map (·.item)) hs).all (fun mh => helperPathUnqualified_hp 0 none mh.1 mh.2) &&
    g.2.2.map (fun b => (implTraitPath b.item).map pathLead) == [some someLead, some someLead] &&
    implTraitPath m == some (.node "Path" [] [someLead, .node "List" [] [Ex11.seg "krate", Ex11.seg "Kita"]])) = true := by
  decide +kernel

/-- `helperImpl` directly, on one member with a qualified path (no keys, empty row, family index 3): the hypothesis of
    `C08_helper_path_unqualified` is satisfiable and its conclusion is what it says -/
example :
    (helperImpl 3 none [] [] (absKita "GroupA")).map implTraitPath =
      some (some (pathNode noLead [.node "PathSegment" [] [tIdent "_Kita3", DI.angle []]])) ∧
    (helperImpl 3 none [] [] (absKita "GroupA")).map (helperPathUnqualified_hp 3 none (absKita "GroupA")) = some true := by
  decide +kernel

/-- the checker is not vacuous: it rejects the helper impl the generator produced BEFORE the repair
    (`impl<T: …> self::_Kita0<GroupA> for T`) -/
example :
    let old := qualBlock noLead [Ex11.seg "self",
      .node "PathSegment" [] [tIdent "_Kita0", DI.angle [gaType (Ex11.tyPath [Ex11.seg "GroupA"])]]] "GroupA"
    pathUnqualified_hp old = false ∧ helperPathUnqualified_hp 0 none (selfKita "GroupA") old = false := by
  decide +kernel

end UnqualifiedExamples

end DI

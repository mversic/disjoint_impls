/-
  C06 — independence from parameter names, declaration order and bound placement.
  At the semantic level a block is (header, set of clauses, Sized requirements): declaration order and inline /
  where-clause placement are not even representable, and the order of the clauses does not matter (`applies` quantifies
  over membership): `C06_clause_order_irrelevant`, `C06_same_blocks_same_dispatch`. What remains is renaming:
  the canonicalisation that makes renamed blocks syntactically equal is C13's subject and is compared with the real
  `resolve_non_predicate_params` on every generated variant.
  On the syntactic level (last section): blocks that differ by a consistent renaming of the generic parameters and a
  permutation of their declarations have the same canonical header and fall into one bucket of `mkBuckets`
  (`C06_renamed_permuted_same_header`, `C06_renamed_permuted_one_bucket`; proofs: C13's alpha-invariance and
  declaration-order theorems).
  Bound placement and bound order on the syntactic level (final sections; proofs: `Lemmas/FlatPlacement.lean`): for
  un-nested invocations, presentations whose blocks list the same bounds in a different order / position
  (`PlacedAs`) get the same verdict and corresponding families (`C06_flat_placement_acceptance`, `_families`, `_parse`,
  `_items`, `_checked`), under `noConflictingBindings` — needed, `C06_flat_placement_counterexample` — and implement the
  trait for the same queries (`C06_flat_placement_same_dispatch`); moving a bound into the where-clause is such a
  presentation (`C06_move_bound_to_where`).
-/
import DisjointImpls.Props.C05
import DisjointImpls.Props.C13
import DisjointImpls.Props.C02
import DisjointImpls.Lemmas.FlatPlacement
namespace DI

/-- the order in which a block's bounds are written (hence inline vs where-clause placement, which only moves a
    bound inside the list that `TraitBoundsVisitor` collects) is irrelevant to whether the block applies -/
theorem C06_clause_order_irrelevant (W : World) (b : Block) (cs : List Clause) (h : b.clauses.Perm cs) (q : T) :
    applies W b q ↔ applies W { b with clauses := cs } q := by
  constructor
  · rintro ⟨ρ, h0, h1, h2, h3⟩
    exact ⟨ρ, wkB_of_sub (b := b) (b' := { b with clauses := cs }) rfl (fun c hc => h.mem_iff.mpr hc) (fun _ hp => hp) h0, h1, fun c hc => h2 c (h.mem_iff.mpr hc), h3⟩
  · rintro ⟨ρ, h0, h1, h2, h3⟩
    exact ⟨ρ, wkB_of_sub (b := { b with clauses := cs }) (b' := b) rfl (fun c hc => h.mem_iff.mp hc) (fun _ hp => hp) h0, h1, fun c hc => h2 c (h.mem_iff.mp hc), h3⟩

/-- likewise for the order of the parameters that must be `Sized` (declaration order of `impl<..>`) -/
theorem C06_decl_order_irrelevant (W : World) (b : Block) (ps : List String) (h : b.sizedParams.Perm ps) (q : T) :
    applies W b q ↔ applies W { b with sizedParams := ps } q := by
  constructor
  · rintro ⟨ρ, h0, h1, h2, h3⟩
    exact ⟨ρ, wkB_of_sub (b := b) (b' := { b with sizedParams := ps }) rfl (fun _ hc => hc) (fun p hp => h.mem_iff.mpr hp) h0, h1, h2, fun p hp => h3 p (h.mem_iff.mpr hp)⟩
  · rintro ⟨ρ, h0, h1, h2, h3⟩
    exact ⟨ρ, wkB_of_sub (b := { b with sizedParams := ps }) (b' := b) rfl (fun _ hc => hc) (fun p hp => h.mem_iff.mp hp) h0, h1, h2, fun p hp => h3 p (h.mem_iff.mp hp)⟩

/-- two presentations of an invocation whose (canonicalised) blocks are the same up to order are implemented for
    exactly the same queries, whatever well-formed groupings the macro forms for them -/
theorem C06_same_blocks_same_dispatch (W : World) (G G' : List Family) (hG : GroupingWF W G) (hG' : GroupingWF W G')
    (h : (blocksOf G).Perm (blocksOf G')) (q : T) : implemented W G q ↔ implemented W G' q :=
  C05_dispatch_invariant W G G' hG hG' h q

/-! ## Renaming and declaration order on the syntactic level (proofs: C13, `Lemmas/CanonAlpha.lean`,
`Lemmas/CanonDeclOrder.lean`)

`alphaRename π item`: the generic parameters of the block consistently respelled by `π`; `setParams ps' item`: the block
with its list of declared generic parameters replaced by `ps'`; `mkBlk` (Group.lean) canonicalises a raw block, `groupIdOf`
is the header (trait path, self type) by which `mkBuckets` groups the blocks.
Side conditions (executable): `canonWF item` (the well-formedness condition of C13) and `alphaOK π item` (only declared
parameters are respelled, the new spellings are distinct per name space, parameters that occur nowhere keep their
spelling, no capture) — see `Props/C13.lean`, "Alpha-invariance", for the reason each one is there. -/

/-- **blocks that are equal up to a consistent renaming of the generic parameters and a permutation of their
    declarations have the same canonical header** -/
theorem C06_renamed_permuted_same_header (π : Renaming) (item : T) (ps' : List T) (hwf : canonWF item = true)
    (hal : alphaOK π item = true) (hp : ps'.Perm (implParams (alphaRename π item))) :
    groupIdOf (mkBlk (setParams ps' (alphaRename π item))).item = groupIdOf (mkBlk item).item := by
  have hdecl : implDeclsOK item = true := by
    simp only [canonWF, Bool.and_eq_true] at hwf
    exact hwf.1.1.1
  obtain ⟨h1, h2⟩ := C13_alpha_decls π item hdecl hal
  show groupIdOf (canon (setParams ps' (alphaRename π item))) = groupIdOf (canon item)
  rw [(C13_declOrder_header (alphaRename π item) ps' h1 h2 hp).1, (C13_alpha_header π item hwf hal).1]

/-- … also when parameters that occur nowhere are respelled (`alphaOKh`: `alphaOK` without `deadFixed`), provided the
    indexer visits the whole trait path and self type (`hdrVis`, executable: no nested `Generics` node) -/
theorem C06_renamed_permuted_same_header_any (π : Renaming) (item : T) (ps' : List T) (hwf : canonWF item = true)
    (hal : alphaOKh π item = true) (hv : hdrVis item = true) (hp : ps'.Perm (implParams (alphaRename π item))) :
    groupIdOf (mkBlk (setParams ps' (alphaRename π item))).item = groupIdOf (mkBlk item).item := by
  have hdecl : implDeclsOK item = true := by
    simp only [canonWF, Bool.and_eq_true] at hwf
    exact hwf.1.1.1
  obtain ⟨h1, h2⟩ := alpha_decls_h π item hdecl hal
  show groupIdOf (canon (setParams ps' (alphaRename π item))) = groupIdOf (canon item)
  rw [(C13_declOrder_header (alphaRename π item) ps' h1 h2 hp).1, C13_alpha_header_any π item hwf hal hv]

/-- … renaming alone: the canonical blocks are even identical (same header, same bounds) -/
theorem C06_renamed_same_block (π : Renaming) (item : T) (hwf : canonWF item = true) (hal : alphaOK π item = true) :
    mkBlk (alphaRename π item) = mkBlk item := by
  unfold mkBlk
  rw [C13_alpha_invariance π item hwf hal]

/-- … declaration order alone -/
theorem C06_permuted_same_header (item : T) (ps' : List T) (hdecl : implDeclsOK item = true)
    (hd : namesDistinct (canonCtx item) = true) (hp : ps'.Perm (implParams item)) :
    groupIdOf (mkBlk (setParams ps' item)).item = groupIdOf (mkBlk item).item :=
  (C13_declOrder_header item ps' hdecl hd hp).1

/-- two blocks with the same header fall into one bucket of `mkBuckets` -/
theorem C06_same_header_one_bucket (b1 b2 : Blk) (h : groupIdOf b2.item = groupIdOf b1.item) :
    (mkBuckets [b1, b2]).map Prod.fst = [groupIdOf b1.item] := by
  simp [mkBuckets, h]

/-- hence a block and its renamed and re-ordered presentation are grouped together -/
theorem C06_renamed_permuted_one_bucket (π : Renaming) (item : T) (ps' : List T) (hwf : canonWF item = true)
    (hal : alphaOK π item = true) (hp : ps'.Perm (implParams (alphaRename π item))) :
    (mkBuckets [mkBlk item, mkBlk (setParams ps' (alphaRename π item))]).map Prod.fst = [groupIdOf (mkBlk item).item] :=
  C06_same_header_one_bucket _ _ (C06_renamed_permuted_same_header π item ps' hwf hal hp)

section C06Examples
open Ex13

/-- `impl<A: Tr<B>, B> Kita for (A, A::Target) {}`: `named` respelled (`T ↦ A, U ↦ B`) and with its declarations swapped -/
def Ex13.namedABSwParams : List T := [tyParam "A" [traitBound (trWith "Tr" (tyPath [seg "B"]))], tyParam "B" []]

/-- non-vacuity: `impl<U, T: Tr<U>> Kita for (T, T::Target)` against `impl<A: Tr<B>, B> Kita for (A, A::Target)` -/
theorem C06_renamed_permuted_example :
    canonWF named = true ∧ alphaOK piNamed named = true ∧ namedABSwParams.Perm (implParams (alphaRename piNamed named)) ∧
    setParams namedABSwParams (alphaRename piNamed named) =
      implOf [tyParam "A" [traitBound (trWith "Tr" (tyPath [seg "B"]))], tyParam "B" []]
        (tuple [tyPath [seg "A"], tyPath [seg "A", seg "Target"]]) ∧
    (mkBuckets [mkBlk named, mkBlk (setParams namedABSwParams (alphaRename piNamed named))]).length = 1 := by
  have h : (canonWF named = true ∧ alphaOK piNamed named = true) ∧
      implParams (alphaRename piNamed named) = [tyParam "B" [], tyParam "A" [traitBound (trWith "Tr" (tyPath [seg "B"]))]] ∧
      setParams namedABSwParams (alphaRename piNamed named) =
        implOf [tyParam "A" [traitBound (trWith "Tr" (tyPath [seg "B"]))], tyParam "B" []]
          (tuple [tyPath [seg "A"], tyPath [seg "A", seg "Target"]]) ∧
      (mkBuckets [mkBlk named, mkBlk (setParams namedABSwParams (alphaRename piNamed named))]).length = 1 := by
    decide +kernel
  exact ⟨h.1.1, h.1.2, h.2.1 ▸ List.Perm.swap _ _ _, h.2.2⟩

/-- non-vacuity of `C06_renamed_permuted_same_header_any`: `impl<T, D> Kita for T` against `impl<E, T> Kita for T` -/
theorem C06_renamed_permuted_any_example :
    canonWF alphaDead = true ∧ alphaOKh piDead alphaDead = true ∧ hdrVis alphaDead = true ∧
    [tyParam "E" [], tyParam "T" []].Perm (implParams (alphaRename piDead alphaDead)) ∧
    (mkBuckets [mkBlk alphaDead, mkBlk (setParams [tyParam "E" [], tyParam "T" []] (alphaRename piDead alphaDead))]).length = 1 := by
  have h : (canonWF alphaDead = true ∧ alphaOKh piDead alphaDead = true ∧ hdrVis alphaDead = true) ∧
      implParams (alphaRename piDead alphaDead) = [tyParam "T" [], tyParam "E" []] ∧
      (mkBuckets [mkBlk alphaDead, mkBlk (setParams [tyParam "E" [], tyParam "T" []] (alphaRename piDead alphaDead))]).length = 1 := by
    decide +kernel
  exact ⟨h.1.1, h.1.2.1, h.1.2.2, h.2.1 ▸ List.Perm.swap _ _ _, h.2.2⟩
end C06Examples

/-! ## Bound placement and bound order on the syntactic level, un-nested invocations (proofs: `Lemmas/FlatPlacement.lean`)

Moving a trait bound between its inline position and the where-clause, or re-ordering bounds / predicates, PERMUTES the
list `Blk.raw` that `Bounds.findBounds` (model of `TraitBoundsVisitor::find`) extracts from a block. (For a bound-only
parameter it may also change the canonical numbering — finding D20; here the canonical header is assumed unchanged.)

* `PlacedAs b b'` (executable: `placedAsB`): the same canonical header `groupIdOf` and `b'.raw` is a permutation of `b.raw`.
* `BucketsPlaced l l'` (executable: `bucketsPlacedB`): two lists of buckets with, bucket by bucket, the same header and,
  block by block, `PlacedAs`. The theorems are stated for the bucket-by-bucket loop `goFlat` on explicit buckets — which
  is `parseGroups` for un-nested invocations (`C11_flat`) — and then for `parseGroups` itself.
* Side conditions (executable): `flatBucketsOK_pl l` — every header that matches itself does so with identity bindings
  only (`selfWeak`), no bucket is empty, every trait path of a bound can be compared by `TraitBound::eq` (`wfBlk`), the
  blocks of a bucket are pairwise different, and `noConflictingBindings b` for every block: the bounds of the block with
  one dispatch key (same bounded type, `TraitBound::eq` trait paths) that bind an associated type agree on what they
  bind it to (fails for `T: D<G = A>` and `T: D<G = B>` in one block). The last one is needed, and exactly so:
  `IndexMap::extend` lets the last binding win, so the order of such bounds changes the row
  (`C06_noConflictingBindings_necessary`) and even acceptance (`C06_flat_placement_counterexample`). `bucketsNodup_pl l'`: the blocks of every bucket of the second presentation
  are pairwise different (true of the buckets `mkBuckets` builds).
* `Verdict` / `ParseResult.verdict`: accepted, rejected with "Unable to form impl group" for a header, or a panic. -/

/-- **what a block binds an associated type to under a dispatch key** (`cell b (k, x)`, the payload the search compares):
    the LAST binding of `x` among the bounds of the block whose key is `TraitBound::eq` to `k`, in the order
    `TraitBoundsVisitor` lists them (inline bounds by parameter identifier, then the where-clause). Side conditions:
    the trait paths of the block and of `k` can be compared (`wfBlk`, `WfKey`). -/
theorem C06_cell_last_binding_wins (b : Blk) (hb : wfBlk b = true) (k : BKey) (hk : WfKey k) (x : String) :
    cell b (k, x) = b.raw.foldl (fun o rb =>
      if keyEq (rb.bounded, rb.tr) k then rb.binds.foldl (fun o e => if e.1 == x then some e.2 else o) o else o) none :=
  cell_eq_pl hb hk x

/-- … hence it does not depend on the placement / order of the bounds when the bounds with one key that bind an
    associated type agree on its binding (`noConflictingBindings`); and whether the block has a bound with that key never
    does -/
theorem C06_block_rows_placement (b b' : Blk) (hp : PlacedAs b b') (hb : wfBlk b = true)
    (hc : noConflictingBindings b = true) (k : BKey) (hk : WfKey k) :
    (rowOf b' k).isSome = (rowOf b k).isSome ∧ (∀ x, rowLookup (rowD b' k) x = rowLookup (rowD b k) x) ∧
    ∀ p, p ∈ b'.unsized ↔ p ∈ b.unsized := by
  have hs := blkSim_of_perm_pl hp.2 hb hc
  exact ⟨(hs.some k hk).symm, fun x => (hs.cell k hk x).symm, fun p => (hs.uns p).symm⟩

/-- **`noConflictingBindings` is necessary block by block**: a block (with comparable trait paths) that violates it has
    a presentation — the same item, its bounds in another order — that binds some associated type under some key to a
    different payload -/
theorem C06_noConflictingBindings_necessary (b : Blk) (hb : wfBlk b = true) (hc : noConflictingBindings b = false) :
    ∃ b', PlacedAs b b' ∧ ∃ k x, WfKey k ∧ cell b' (k, x) ≠ cell b (k, x) := by
  obtain ⟨b', h1, h2, h3⟩ := noConflict_necessary_pl hb hc
  exact ⟨b', ⟨by rw [h1], h2⟩, h3⟩

/-- **the candidate filter on a bucket does not depend on the placement / order of the bounds of its blocks**
    (`accOK`: what acceptance is bucket by bucket, `C05_flat_acceptance_characterised`; `separatedB`: its executable
    order-free form, `C03_flat_acceptance_exact`). Side conditions: the blocks of each presentation are pairwise
    different, `wfBlk` and `noConflictingBindings` for the blocks of the first one. -/
theorem C06_bucket_filter_placement (blks blks' : List Blk) (hp : Forall2 PlacedAs blks blks')
    (hok : ∀ b ∈ blks, wfBlk b = true ∧ noConflictingBindings b = true) (hnd : blks.Nodup) (hnd' : blks'.Nodup) :
    accOK blks = accOK blks' ∧ separatedB blks = separatedB blks' := by
  have hs : BlksSim_pl blks blks' := by
    have := bucketsSim_of_placed_pl (l := [(T.tparam "", blks)]) (l' := [(T.tparam "", blks')])
      (.cons ⟨rfl, hp⟩ .nil) (by
        intro bk hbk b hb
        simp only [List.mem_singleton] at hbk
        subst hbk
        exact hok b hb)
    cases this with | cons h _ => exact h.2
  have hacc := accOK_sim_pl hs hnd hnd'
  refine ⟨hacc, ?_⟩
  cases hs with
  | nil => rfl
  | @cons b b' t t' h1 ht =>
    have hall : BlksSim_pl (b :: t) (b' :: t') := .cons h1 ht
    rw [← accOK_eq_separatedB (by simp) (blksSim_wf_pl hall) hnd,
      ← accOK_eq_separatedB (by simp) (blksSim_wf_pl (blksSim_symm_pl hall)) hnd', hacc]

/-- **acceptance does not depend on the placement / order of the bounds** (the loop over flat buckets): the two
    presentations get the same verdict — both accepted, or both rejected with "Unable to form impl group" for the
    same header, or both panic in the same way -/
theorem C06_flat_placement_acceptance (l l' : List (T × List Blk)) (hpl : BucketsPlaced l l')
    (hok : flatBucketsOK_pl l = true) (hnd' : bucketsNodup_pl l' = true) :
    (goFlat l []).verdict = (goFlat l' []).verdict :=
  goFlat_placement_verdict_pl hpl hok hnd'

/-- … spelled out -/
theorem C06_flat_placement_acceptance_iff (l l' : List (T × List Blk)) (hpl : BucketsPlaced l l')
    (hok : flatBucketsOK_pl l = true) (hnd' : bucketsNodup_pl l' = true) :
    ((∃ g, goFlat l [] = .ok g) ↔ (∃ g', goFlat l' [] = .ok g')) ∧
    (∀ id, goFlat l [] = .unableToForm id ↔ goFlat l' [] = .unableToForm id) ∧
    (∀ e, goFlat l [] = .panic e ↔ goFlat l' [] = .panic e) := by
  have h := C06_flat_placement_acceptance l l' hpl hok hnd'
  refine ⟨?_, fun id => ?_, fun e => ?_⟩
  · rw [← ParseResult.verdict_accepted, ← ParseResult.verdict_accepted, h]
  · rw [← ParseResult.verdict_unable, ← ParseResult.verdict_unable, h]
  · rw [← ParseResult.verdict_panic, ← ParseResult.verdict_panic, h]

/-- **the families do not depend on the placement / order of the bounds**: when both presentations are accepted the
    families correspond one to one in the same order (`FamSim_pl`): the same header; the members position by position
    with the same rows as finite maps and the same `?Sized` types (`BlkSim_pl`); the same keys up to spelling and order
    (`nk`: bounded type and dispatch key of the trait path — the list of normal forms is a permutation); under
    `keyEq` keys every member has the same row up to the order of the associated-type identifiers (`RowEq_pl`:
    `rowLookup r a = rowLookup r' a` for every `a`), in both directions; the same `?Sized` set -/
theorem C06_flat_placement_families (l l' : List (T × List Blk)) (g g' : Groups) (hpl : BucketsPlaced l l')
    (hok : flatBucketsOK_pl l = true) (hg : goFlat l [] = .ok g) (hg' : goFlat l' [] = .ok g') :
    Forall2 FamSim_pl g g' :=
  goFlat_placement_families_pl hpl hok hg hg'

/-- … in particular the members of corresponding families are presentations of each other, in the same order -/
theorem C06_flat_placement_members (l l' : List (T × List Blk)) (g g' : Groups) (hpl : BucketsPlaced l l')
    (hok : flatBucketsOK_pl l = true) (hg : goFlat l [] = .ok g) (hg' : goFlat l' [] = .ok g') :
    Forall2 (fun e e' => e.1 = e'.1 ∧ Forall2 PlacedAs e.2.2 e'.2.2) g g' := by
  have hs := flatBucketsOK_spec_pl hok
  have hl : ∀ bk ∈ l, selfWeak bk.1 = true ∧ bk.2 ≠ [] := fun bk hbk => (hs bk hbk).1
  rw [goFlat_ok_groups_pl hl hg, goFlat_ok_groups_pl (buckets_hyps_pl hpl hl) hg']
  exact hpl.map grpOf_pl grpOf_pl (fun _ _ h => h)

/-- **acceptance and families on `parseGroups`**: two un-nested invocations whose buckets correspond up to the placement / order of the
    bounds get the same verdict, and when accepted corresponding families. Side conditions on the first invocation
    only: no header generalises a different one (`msPairs … = []`, i.e. `noNesting`), `flatWF0` (C05) and
    `noConflictingBindingsAll`. -/
theorem C06_flat_placement_parse (items items' : List T)
    (hpl : BucketsPlaced (mkBuckets (items.map mkBlk)) (mkBuckets (items'.map mkBlk)))
    (hms : msPairs ((mkBuckets (items.map mkBlk)).map (·.1)) = []) (hwf : flatWF0 items = true)
    (hc : noConflictingBindingsAll items = true) :
    (parseGroups items).verdict = (parseGroups items').verdict ∧
    ∀ g g', parseGroups items = .ok g → parseGroups items' = .ok g' → Forall2 FamSim_pl g g' :=
  ⟨parseGroups_placement_verdict_pl hpl hms hwf hc, fun _ _ hg hg' => parseGroups_placement_families_pl hpl hms hwf hc hg hg'⟩

/-- **the semantic level**: `PlacedItem it it'` (executable: `placedItemB`) — `PlacedAs` on the canonical blocks and
    the same declared type parameters. A block and its presentation apply to the same queries … -/
theorem C06_placed_block_applies (it it' : T) (h : PlacedItem it it') (W : World) (q : T) :
    applies W (mkBlock (canon it)) q ↔ applies W (mkBlock (canon it')) q :=
  applies_placed_pl h W q

/-- … so, with `C02_end_to_end_flat_coverage` for both presentations (its side conditions for both groupings), the two
    generated programs implement the trait for exactly the same queries -/
theorem C06_flat_placement_same_dispatch (items items' : List T) (groups groups' : Groups)
    (hpl : Forall2 PlacedItem items items')
    (h : parseGroups items = .ok groups) (h' : parseGroups items' = .ok groups')
    (hn : noNesting items = true) (hn' : noNesting items' = true) (sp sp' : List String)
    (hok : ∀ e ∈ groups, flatGroupOK e = true ∧ hdrCoversB (familyOfGroup sp e) = true)
    (hok' : ∀ e ∈ groups', flatGroupOK e = true ∧ hdrCoversB (familyOfGroup sp' e) = true)
    (W : World) (hw : ∀ e ∈ groups, WorldTotal W (familyOfGroup sp e)) (hw' : ∀ e ∈ groups', WorldTotal W (familyOfGroup sp' e))
    (hsz : ∀ e ∈ groups, ∀ m ∈ (familyOfGroup sp e).members, SizedCompat W (familyOfGroup sp e) m)
    (hsz' : ∀ e ∈ groups', ∀ m ∈ (familyOfGroup sp' e).members, SizedCompat W (familyOfGroup sp' e) m) (q : T) :
    (∃ e ∈ groups, ∃ m ∈ (familyOfGroup sp e).members, genSel W (familyOfGroup sp e) m q) ↔
    (∃ e ∈ groups', ∃ m ∈ (familyOfGroup sp' e).members, genSel W (familyOfGroup sp' e) m q) := by
  rw [C02_end_to_end_flat_coverage items groups h hn sp hok W hw hsz q,
    C02_end_to_end_flat_coverage items' groups' h' hn' sp' hok' W hw' hsz' q]
  exact exists_applies_placed_pl hpl W q

/-- … as an executable check on the two groupings (`famSimB_pl`: what the test harness evaluates on the families
    computed for two presentations): same header, members `placedAsB`, the normal forms of the keys a permutation
    (`isPerm`), rows equal as finite maps under `keyEq` keys in both directions (`rowEqB_pl`), the same `?Sized` set -/
theorem C06_flat_placement_families_check (l l' : List (T × List Blk)) (g g' : Groups) (hpl : BucketsPlaced l l')
    (hok : flatBucketsOK_pl l = true) (hg : goFlat l [] = .ok g) (hg' : goFlat l' [] = .ok g') :
    forall2B_pl famSimB_pl g g' = true := by
  have h1 := C06_flat_placement_families l l' g g' hpl hok hg hg'
  have h2 := C06_flat_placement_members l l' g g' hpl hok hg hg'
  rw [forall2B_iff_pl (R := fun e e' => famSimB_pl e e' = true) (fun _ _ => Iff.rfl)]
  exact (h1.and h2).imp (fun _ _ h => famSimB_of_pl h.1 h.2.2)

/-- **acceptance and families for two invocations that correspond block by block**: `items'` presents `items` with, block by block in
    input order, the same canonical header and the bounds placed / ordered differently (`PlacedAs` on `mkBlk`); the
    canonical block texts are pairwise different on both sides. Then the buckets correspond
    (`mkBuckets_placed_pl`), the verdicts agree and the families correspond. -/
theorem C06_flat_placement_items (items items' : List T)
    (hpl : Forall2 PlacedAs (items.map mkBlk) (items'.map mkBlk))
    (hnd : ((items.map mkBlk).map (·.item)).Nodup) (hnd' : ((items'.map mkBlk).map (·.item)).Nodup)
    (hn : noNesting items = true) (hwf : flatWF0 items = true) (hc : noConflictingBindingsAll items = true) :
    (parseGroups items).verdict = (parseGroups items').verdict ∧
    ∀ g g', parseGroups items = .ok g → parseGroups items' = .ok g' →
      Forall2 FamSim_pl g g' ∧ forall2B_pl famSimB_pl g g' = true := by
  have hb := mkBuckets_placed_pl hpl hnd hnd'
  have hms : msPairs ((mkBuckets (items.map mkBlk)).map (·.1)) = [] := noNesting_iff.1 hn
  obtain ⟨hv, hf⟩ := C06_flat_placement_parse items items' hb hms hwf hc
  refine ⟨hv, fun g g' hg hg' => ⟨hf g g' hg hg', ?_⟩⟩
  obtain ⟨e1, e2⟩ := parseGroups_placed_flat_pl hb hms
  exact C06_flat_placement_families_check _ _ g g' hb (buckets_ok_pl items hwf hc) (e1 ▸ hg) (e2 ▸ hg')

/-- … with all hypotheses in ONE executable check `placementPreB items items'` (what the harness evaluates) -/
theorem C06_flat_placement_checked (items items' : List T) (h : placementPreB items items' = true) :
    (parseGroups items).verdict = (parseGroups items').verdict ∧
    ∀ g g', parseGroups items = .ok g → parseGroups items' = .ok g' → forall2B_pl famSimB_pl g g' = true := by
  obtain ⟨hb, hms, hwf, hc⟩ := placementPreB_spec h
  obtain ⟨hv, _⟩ := C06_flat_placement_parse items items' hb hms hwf hc
  refine ⟨hv, fun g g' hg hg' => ?_⟩
  obtain ⟨e1, e2⟩ := parseGroups_placed_flat_pl hb hms
  exact C06_flat_placement_families_check _ _ g g' hb (buckets_ok_pl items hwf hc) (e1 ▸ hg) (e2 ▸ hg')

/-! ### which syntactic changes permute `Blk.raw`

`findBounds` lists the inline bounds of the parameters sorted by identifier, then the where-clause: up to a permutation
it is `unsortedBounds_pl` (declaration order, then the where-clause). Hence moving bounds of a parameter into a new
where-predicate, re-ordering the where-predicates and re-ordering bounds all permute it. The statements are about the
generics of the CANONICAL blocks (`genericsOf_pl (canon it)`), described through the accessors `genericsParams` /
`genericsWhere`; that the canonical header is unchanged is a hypothesis (finding D20: for a bound-only parameter the
canonical numbering may change). -/

/-- `TraitBoundsVisitor::find` is, up to a permutation, the bounds in declaration order followed by the where-clause -/
theorem C06_findBounds_perm_unsorted (g : T) : (findBounds g).Perm (unsortedBounds_pl g) :=
  findBounds_perm_unsorted_pl g

/-- **moving bounds `bs2` of the type parameter `x` from their inline position into a new predicate `x: bs2` at the end
    of the where-clause** (canonical header unchanged) yields a presentation of the same block in the sense of
    `PlacedAs`; `typeParam_pl a c e d x bs` is the parameter `x: bs` (other fields arbitrary), `wherePred_pl lts t bs`
    the predicate `t: bs` -/
theorem C06_move_bound_to_where (it it' : T) (pre post : List T) (a c e d lts : T) (x : String) (bs1 bs2 : List T)
    (hhdr : groupIdOf (canon it) = groupIdOf (canon it'))
    (hps : genericsParams (genericsOf_pl (canon it)) = pre ++ [typeParam_pl a c e d x (bs1 ++ bs2)] ++ post)
    (hps' : genericsParams (genericsOf_pl (canon it')) = pre ++ [typeParam_pl a c e d x bs1] ++ post)
    (hw : genericsWhere (genericsOf_pl (canon it')) =
      genericsWhere (genericsOf_pl (canon it)) ++ [wherePred_pl lts (mkTypeIdent x) bs2]) :
    PlacedAs (mkBlk it) (mkBlk it') :=
  ⟨hhdr, findBounds_move_pl _ _ pre post a c e d lts x bs1 bs2 hps hps' hw⟩

/-- re-ordering the where-predicates (canonical header and parameters unchanged) likewise -/
theorem C06_reorder_where (it it' : T) (hhdr : groupIdOf (canon it) = groupIdOf (canon it'))
    (hps : genericsParams (genericsOf_pl (canon it')) = genericsParams (genericsOf_pl (canon it)))
    (hw : (genericsWhere (genericsOf_pl (canon it'))).Perm (genericsWhere (genericsOf_pl (canon it)))) :
    PlacedAs (mkBlk it) (mkBlk it') :=
  ⟨hhdr, findBounds_where_perm_pl _ _ hps hw⟩

namespace Ex06
open Ex11
/-- `impl<T> Kita for T where T: Dispatch<Group = GroupB> {}` -/
def whereB : T := implW [tyParam "T" []] [pred tT [traitBound (dispatch "GroupB")]] tT
/-- the README pair, both dispatch bounds inline:
    `impl<T: Dispatch<Group = GroupA>> Kita for T {}`  +  `impl<T: Dispatch<Group = GroupB>> Kita for T {}` -/
def inlineItems : List T := [blockFor "GroupA", blockFor "GroupB"]
/-- … the second block with its dispatch bound in the where-clause:
    `impl<T: Dispatch<Group = GroupA>> Kita for T {}`  +  `impl<T> Kita for T where T: Dispatch<Group = GroupB> {}` -/
def whereItems : List T := [blockFor "GroupA", whereB]
/-- `impl<T: Other<Kind = X>> Kita for T where T: Dispatch<Group = GroupA> {}` -/
def movedAX : T := implW [tyParam "T" [traitBound (otherTr "X")]] [pred tT [traitBound (dispatch "GroupA")]] tT
/-- two keys per block: `impl<T: Dispatch<Group = GroupA> + Other<Kind = X>> Kita for T {}`  +
    `impl<T: Dispatch<Group = GroupB> + Other<Kind = Y>> Kita for T {}` -/
def twoKeys : List T := [block2 "GroupA" "X", block2 "GroupB" "Y"]
/-- … the first block with its two bounds in the other order (one of them moved to the where-clause):
    `impl<T: Other<Kind = X>> Kita for T where T: Dispatch<Group = GroupA> {}`  +  the second block unchanged -/
def twoKeysMoved : List T := [movedAX, block2 "GroupB" "Y"]
/-- `impl<T: Dispatch<Group = GroupA>> Kita for T where T: Dispatch<Group = GroupB> {}` -/
def conflictAB : T := implW [tyParam "T" [traitBound (dispatch "GroupA")]] [pred tT [traitBound (dispatch "GroupB")]] tT
/-- `impl<T> Kita for T where T: Dispatch<Group = GroupB>, T: Dispatch<Group = GroupA> {}`: the inline bound of
    `conflictAB` moved to the END of the where-clause -/
def conflictBA : T :=
  implW [tyParam "T" []] [pred tT [traitBound (dispatch "GroupB")], pred tT [traitBound (dispatch "GroupA")]] tT
/-- conflicting bindings: `conflictAB`  +  `impl<T: Dispatch<Group = GroupB>> Kita for T {}` -/
def conflictItems : List T := [conflictAB, blockFor "GroupB"]
/-- … `conflictBA`  +  the second block unchanged -/
def conflictMoved : List T := [conflictBA, blockFor "GroupB"]
/-- the buckets of an invocation -/
def bucketsOf (items : List T) : List (T × List Blk) := mkBuckets (items.map mkBlk)
/-- the canonical bound `T: Dispatch<Group = g>` as `TraitBoundsVisitor` lists it -/
def rbD (g : String) : RawBound := ⟨.tparam "_ŠČ0", dispatch g, [("Group", tyPath [seg g])], false⟩
/-- the canonical bound `T: Other<Kind = k>` -/
def rbO (k : String) : RawBound := ⟨.tparam "_ŠČ0", otherTr k, [("Kind", tyPath [seg k])], false⟩
end Ex06

section C06PlacementExamples
open Ex11 Ex06

theorem Ex06.placed_refl (it : T) : PlacedAs (mkBlk it) (mkBlk it) := ⟨rfl, List.Perm.refl _⟩

/-- what `C06_flat_placement_same_dispatch_readme` checks on an accepted grouping: every family passes `flatGroupOK`
    and `hdrCoversB`, and all its keys are for the associated type `Group` -/
def Ex06.groupsOK (gs : Groups) : Bool :=
  gs.all (fun e => flatGroupOK e && hdrCoversB (familyOfGroup ["_ŠČ0"] e) &&
    (familyOfGroup ["_ŠČ0"] e).keys.all (fun k => k.a == "Group"))

/-- an invocation whose grouping passes `groupsOK` satisfies the side conditions of `C06_flat_placement_same_dispatch`
    in the world `E2E.W` (total for `Dispatch`, every type `Sized`) -/
theorem Ex06.groupsOK_spec (items : List T)
    (h : ∃ gs, parseGroups items = .ok gs ∧ groupsOK gs = true) :
    ∃ gs, parseGroups items = .ok gs ∧
      (∀ e ∈ gs, flatGroupOK e = true ∧ hdrCoversB (familyOfGroup ["_ŠČ0"] e) = true) ∧
      (∀ e ∈ gs, WorldTotal E2E.W (familyOfGroup ["_ŠČ0"] e)) ∧
      (∀ e ∈ gs, ∀ m ∈ (familyOfGroup ["_ŠČ0"] e).members, SizedCompat E2E.W (familyOfGroup ["_ŠČ0"] e) m) := by
  obtain ⟨gs, hgs, hchk⟩ := h
  simp only [groupsOK, List.all_eq_true, Bool.and_eq_true, beq_iff_eq] at hchk
  refine ⟨gs, hgs, fun e he => (hchk e he).1, ?_, fun _ _ _ _ _ _ _ _ _ => rfl⟩
  exact fun e he => worldTotal_ite (fun k hk => ⟨_, by rw [(hchk e he).2 k hk]; rfl⟩)
    (worldTotal_ite (fun k hk => ⟨_, by rw [(hchk e he).2 k hk]; rfl⟩) worldTotal_none)

/-- the closed facts about the README pair, inline vs where-clause, that the examples below use (one evaluation) -/
theorem Ex06.readme_eval :
    (groupIdOf (canon (blockFor "GroupB")) = groupIdOf (canon whereB) ∧
      genericsParams (genericsOf_pl (canon (blockFor "GroupB"))) =
        [] ++ [typeParam_pl attrs (leaf "None") (leaf "None") (leaf "None") "_ŠČ0" ([] ++ [traitBound (dispatch "GroupB")])] ++ [] ∧
      genericsParams (genericsOf_pl (canon whereB)) =
        [] ++ [typeParam_pl attrs (leaf "None") (leaf "None") (leaf "None") "_ŠČ0" []] ++ [] ∧
      genericsWhere (genericsOf_pl (canon whereB)) = genericsWhere (genericsOf_pl (canon (blockFor "GroupB"))) ++
        [wherePred_pl (leaf "None") (mkTypeIdent "_ŠČ0") [traitBound (dispatch "GroupB")]]) ∧
    (((inlineItems.map mkBlk).map (·.item)).Nodup ∧ ((whereItems.map mkBlk).map (·.item)).Nodup ∧
      noNesting inlineItems = true ∧ flatWF0 inlineItems = true ∧ noConflictingBindingsAll inlineItems = true) ∧
    bucketsOf inlineItems ≠ bucketsOf whereItems ∧ noNesting whereItems = true ∧
    typeParamNames (genericsOf_pl (canon (blockFor "GroupB"))) = typeParamNames (genericsOf_pl (canon whereB)) ∧
    (∃ gs, parseGroups inlineItems = .ok gs ∧ groupsOK gs = true) ∧
    (∃ gs, parseGroups whereItems = .ok gs ∧ groupsOK gs = true) := by
  decide +kernel

/-- non-vacuity of `C06_move_bound_to_where`: `impl<T: Dispatch<Group = GroupB>> Kita for T {}` against
    `impl<T> Kita for T where T: Dispatch<Group = GroupB> {}` (`bs1 = []`, `bs2` = the dispatch bound; `_ŠČ0` is the
    canonical spelling of `T`) -/
theorem C06_move_bound_to_where_example : PlacedAs (mkBlk (blockFor "GroupB")) (mkBlk whereB) :=
  have h := Ex06.readme_eval.1
  C06_move_bound_to_where _ _ _ _ _ _ _ _ _ _ _ _ h.1 h.2.1 h.2.2.1 h.2.2.2

/-- non-vacuity of `C06_flat_placement_items`: the README pair inline vs where-clause, block by block -/
theorem C06_flat_placement_items_readme :
    Forall2 PlacedAs (inlineItems.map mkBlk) (whereItems.map mkBlk) ∧
    ((inlineItems.map mkBlk).map (·.item)).Nodup ∧ ((whereItems.map mkBlk).map (·.item)).Nodup ∧
    noNesting inlineItems = true ∧ flatWF0 inlineItems = true ∧ noConflictingBindingsAll inlineItems = true :=
  ⟨.cons (Ex06.placed_refl _) (.cons C06_move_bound_to_where_example .nil), Ex06.readme_eval.2.1⟩

/-- non-vacuity of `C06_flat_placement_acceptance` / `_families` / `_parse`: the README pair with the dispatch bound of
    the second block inline vs in the where-clause satisfies every hypothesis (the two presentations are different
    inputs with different canonical blocks) -/
theorem C06_flat_placement_readme_pre :
    BucketsPlaced (bucketsOf inlineItems) (bucketsOf whereItems) ∧
    flatBucketsOK_pl (bucketsOf inlineItems) = true ∧ bucketsNodup_pl (bucketsOf whereItems) = true ∧
    noNesting inlineItems = true ∧ flatWF0 inlineItems = true ∧ noConflictingBindingsAll inlineItems = true ∧
    bucketsOf inlineItems ≠ bucketsOf whereItems := by
  obtain ⟨hpl, hnd, hnd', hn, hwf, hc⟩ := C06_flat_placement_items_readme
  exact ⟨mkBuckets_placed_pl hpl hnd hnd', buckets_ok_pl _ hwf hc, buckets_nodup_pl _, hn, hwf, hc,
    Ex06.readme_eval.2.2.1⟩

/-- … and the theorems yield: the where-clause presentation is accepted (because the inline one is), with one family of
    two members whose keys and rows correspond -/
theorem C06_flat_placement_readme :
    ∃ g g', parseGroups inlineItems = .ok g ∧ parseGroups whereItems = .ok g' ∧ Forall2 FamSim_pl g g' := by
  obtain ⟨h1, _, _, h4, h5, h6, _⟩ := C06_flat_placement_readme_pre
  have hms : msPairs ((mkBuckets (inlineItems.map mkBlk)).map (·.1)) = [] := noNesting_iff.1 h4
  obtain ⟨hv, hf⟩ := C06_flat_placement_parse inlineItems whereItems h1 hms h5 h6
  obtain ⟨g, hg, _⟩ := Ex06.groupsOK_spec inlineItems Ex06.readme_eval.2.2.2.2.2.1
  obtain ⟨g', hg'⟩ := ParseResult.verdict_accepted.1 (hv.symm.trans (by rw [hg]; rfl))
  exact ⟨g, g', hg, hg', hf g g' hg hg'⟩

/-- the closed facts about `twoKeys` / `twoKeysMoved` (one evaluation) -/
theorem Ex06.twoKeys_eval :
    (groupIdOf (mkBlk (block2 "GroupA" "X")).item = groupIdOf (mkBlk movedAX).item ∧
      ((twoKeys.map mkBlk).map (·.item)).Nodup ∧ ((twoKeysMoved.map mkBlk).map (·.item)).Nodup) ∧
    (noNesting twoKeys = true ∧ flatWF0 twoKeys = true ∧ noConflictingBindingsAll twoKeys = true ∧
      (mkBlk (block2 "GroupA" "X")).raw = [rbD "GroupA", rbO "X"] ∧ (mkBlk movedAX).raw = [rbO "X", rbD "GroupA"]) ∧
    (goFlat (bucketsOf twoKeys) []).verdict = .accepted := by
  decide +kernel

/-- non-vacuity with two keys per block, the bounds of the first block in both orders: `TraitBoundsVisitor` lists
    `[Dispatch, Other]` for `block2 "GroupA" "X"` and `[Other, Dispatch]` for `movedAX` -/
theorem C06_flat_placement_two_keys_pre :
    BucketsPlaced (bucketsOf twoKeys) (bucketsOf twoKeysMoved) ∧
    flatBucketsOK_pl (bucketsOf twoKeys) = true ∧ bucketsNodup_pl (bucketsOf twoKeysMoved) = true ∧
    noNesting twoKeys = true ∧ flatWF0 twoKeys = true ∧ noConflictingBindingsAll twoKeys = true ∧
    (mkBlk (block2 "GroupA" "X")).raw = [rbD "GroupA", rbO "X"] ∧ (mkBlk movedAX).raw = [rbO "X", rbD "GroupA"] := by
  obtain ⟨⟨hid, hnd, hnd'⟩, h, _⟩ := Ex06.twoKeys_eval
  have hp : PlacedAs (mkBlk (block2 "GroupA" "X")) (mkBlk movedAX) :=
    ⟨hid, by rw [h.2.2.2.1, h.2.2.2.2]; exact List.Perm.swap _ _ _⟩
  exact ⟨mkBuckets_placed_pl (.cons hp (.cons (Ex06.placed_refl _) .nil)) hnd hnd',
    buckets_ok_pl _ h.2.1 h.2.2.1, buckets_nodup_pl _, h⟩

theorem C06_flat_placement_two_keys :
    (goFlat (bucketsOf twoKeys) []).verdict = .accepted ∧ (goFlat (bucketsOf twoKeysMoved) []).verdict = .accepted := by
  obtain ⟨h1, h2, h3, _⟩ := C06_flat_placement_two_keys_pre
  have hv := C06_flat_placement_acceptance _ _ h1 h2 h3
  exact ⟨Ex06.twoKeys_eval.2.2, hv ▸ Ex06.twoKeys_eval.2.2⟩

/-- the closed facts about `conflictItems` / `conflictMoved` (one evaluation) -/
theorem Ex06.conflict_eval :
    (wfBlk (mkBlk conflictAB) = true ∧ noConflictingBindings (mkBlk conflictAB) = false) ∧
    (groupIdOf (mkBlk conflictAB).item = groupIdOf (mkBlk conflictBA).item ∧
      (mkBlk conflictAB).raw = [rbD "GroupA", rbD "GroupB"] ∧ (mkBlk conflictBA).raw = [rbD "GroupB", rbD "GroupA"]) ∧
    (((conflictItems.map mkBlk).map (·.item)).Nodup ∧ ((conflictMoved.map mkBlk).map (·.item)).Nodup) ∧
    noNesting conflictItems = true ∧ flatWF0 conflictItems = true ∧
    noConflictingBindingsAll conflictItems = false ∧
    (match parseGroups conflictItems with | .unableToForm _ => true | _ => false) = true ∧
    (parseGroups conflictMoved).verdict = .accepted ∧
    (goFlat (bucketsOf conflictItems) []).verdict ≠ (goFlat (bucketsOf conflictMoved) []).verdict := by
  decide +kernel

/-- **the side condition `noConflictingBindings` cannot be dropped** (a genuine order dependence of the macro inside a
    block): with `T: Dispatch<Group = GroupA>` inline and `T: Dispatch<Group = GroupB>` in the where-clause the LAST
    binding wins (`IndexMap::extend`), the first block counts as `Group = GroupB`, collides with the second block and
    the invocation is rejected; with the inline bound moved to the end of the where-clause the first block counts as
    `Group = GroupA` and the invocation is accepted. Every other hypothesis of `C06_flat_placement_acceptance` /
    `C06_flat_placement_parse` holds. -/
theorem C06_flat_placement_counterexample :
    BucketsPlaced (bucketsOf conflictItems) (bucketsOf conflictMoved) ∧
    bucketsNodup_pl (bucketsOf conflictMoved) = true ∧ noNesting conflictItems = true ∧ flatWF0 conflictItems = true ∧
    noConflictingBindingsAll conflictItems = false ∧
    (match parseGroups conflictItems with | .unableToForm _ => true | _ => false) = true ∧
    (parseGroups conflictMoved).verdict = .accepted ∧
    (goFlat (bucketsOf conflictItems) []).verdict ≠ (goFlat (bucketsOf conflictMoved) []).verdict := by
  obtain ⟨_, h⟩ := Ex06.conflict_eval
  have hp : PlacedAs (mkBlk conflictAB) (mkBlk conflictBA) :=
    ⟨h.1.1, by rw [h.1.2.1, h.1.2.2]; exact List.Perm.swap _ _ _⟩
  exact ⟨mkBuckets_placed_pl (.cons hp (.cons (Ex06.placed_refl _) .nil)) h.2.1.1 h.2.1.2, buckets_nodup_pl _, h.2.2⟩

/-- hence the acceptance statement without `noConflictingBindings` is false -/
theorem C06_flat_placement_unconditional_false :
    ¬ ∀ (items items' : List T), BucketsPlaced (mkBuckets (items.map mkBlk)) (mkBuckets (items'.map mkBlk)) →
        noNesting items = true → flatWF0 items = true → (parseGroups items).verdict = (parseGroups items').verdict := by
  intro hall
  obtain ⟨h1, _, h3, h4, _, h6, h7, _⟩ := C06_flat_placement_counterexample
  obtain ⟨g, hg⟩ := ParseResult.verdict_accepted.1 ((hall conflictItems conflictMoved h1 h3 h4).trans h7)
  rw [hg] at h6
  cases h6

/-- non-vacuity of `C06_flat_placement_same_dispatch`, on the README pair inline vs where-clause and the world `E2E.W`
    (`u32: Dispatch<Group = GroupA>`, `i64: Dispatch<Group = GroupB>`): every hypothesis holds for both presentations,
    so both generated programs implement `Kita` for the same queries — the where-clause one does for `Kita for i64` -/
theorem C06_flat_placement_same_dispatch_readme :
    ∃ gs gs', parseGroups inlineItems = .ok gs ∧ parseGroups whereItems = .ok gs' ∧
      (∀ q, (∃ e ∈ gs, ∃ m ∈ (familyOfGroup ["_ŠČ0"] e).members, genSel E2E.W (familyOfGroup ["_ŠČ0"] e) m q) ↔
            (∃ e ∈ gs', ∃ m ∈ (familyOfGroup ["_ŠČ0"] e).members, genSel E2E.W (familyOfGroup ["_ŠČ0"] e) m q)) ∧
      (∃ e ∈ gs', ∃ m ∈ (familyOfGroup ["_ŠČ0"] e).members,
        genSel E2E.W (familyOfGroup ["_ŠČ0"] e) m (E2E.query E2E.i64T)) := by
  obtain ⟨_, ⟨_, _, hn, _⟩, _, hn', hnames, hchk, hchk'⟩ := Ex06.readme_eval
  have hpl : Forall2 PlacedItem inlineItems whereItems :=
    .cons ⟨Ex06.placed_refl _, fun _ => Iff.rfl⟩ (.cons ⟨C06_move_bound_to_where_example, fun x => by rw [hnames]⟩ .nil)
  obtain ⟨gs, hgs, hok, hw, hsz⟩ := Ex06.groupsOK_spec inlineItems hchk
  obtain ⟨gs', hgs', hok', hw', hsz'⟩ := Ex06.groupsOK_spec whereItems hchk'
  have hsame := C06_flat_placement_same_dispatch inlineItems whereItems gs gs' hpl hgs hgs' hn hn' ["_ŠČ0"] ["_ŠČ0"]
    hok hok' E2E.W hw hw' hsz hsz'
  refine ⟨gs, gs', hgs, hgs', hsame, (hsame _).1 ?_⟩
  -- the inline presentation is the input of `C02_end_to_end_readme`, which selects a member for `Kita for i64`
  obtain ⟨gs0, hgs0, _, _, _, _, _, hsel⟩ := C02_end_to_end_readme
  cases hgs0.symm.trans hgs
  exact hsel

/-- non-vacuity of `C06_flat_placement_checked`: the one-shot check holds on the README pair inline vs where-clause -/
theorem C06_flat_placement_checked_readme : placementPreB inlineItems whereItems = true := by
  obtain ⟨h1, h2, h3, h4, h5, h6⟩ := C06_flat_placement_items_readme
  simp only [placementPreB, Bool.and_eq_true, decide_eq_true_eq, List.isEmpty_iff]
  exact ⟨⟨⟨⟨⟨(forall2B_iff_pl (fun a b => placedAsB_iff (b := a) (b' := b)) _ _).2 h1, h2⟩, h3⟩,
    noNesting_iff.1 h4⟩, h5⟩, h6⟩

/-- non-vacuity of `C06_noConflictingBindings_necessary`: the block `conflictAB` -/
example : wfBlk (mkBlk conflictAB) = true ∧ noConflictingBindings (mkBlk conflictAB) = false :=
  Ex06.conflict_eval.1

end C06PlacementExamples

/-! ## Same bucket ⟺ headers equal up to renaming (proofs: `Lemmas/CanonHeaderConverse.lean`, C13)

`mkBuckets` puts two canonical blocks into one bucket exactly when their group ids (`groupIdOf` = trait path and self type
of the canonical block) are equal. The two directions hold under different executable conditions:
* IF (`C06_renamed_permuted_same_header`): a block and its consistently renamed and re-ordered presentation have the same
  group id — `canonWF item`, `alphaOK π item` (or `alphaOKh` + `hdrVis`, `…_same_header_any`);
* ONLY IF (`C13_same_header_only_if_renaming`): two blocks with the same group id have headers that are textual renamings
  of each other by the computed renaming `hdrRenamingBetween_hc item item'` — `hdrConverseOK_hc` for both blocks (it
  contains `canonWF`; the clause `strayFree_hc` is needed, `C13_same_header_stray_counterexamples`: a user type spelled
  `_ŠČ1` lands in the bucket of a type parameter). -/

/-- **two blocks land in the same bucket ONLY IF their headers are equal up to renaming** (`groupIdOf item` is the header —
    trait path and self type — of the raw block, `groupIdOf (mkBlk item).item` the group id by which `mkBuckets` groups) -/
theorem C06_same_bucket_only_if_headers_alpha_equivalent (item item' : T) (h : hdrConverseOK_hc item = true)
    (h' : hdrConverseOK_hc item' = true) (e : groupIdOf (mkBlk item).item = groupIdOf (mkBlk item').item) :
    acT_cr (hdrRenamingBetween_hc item item') (groupIdOf item) = groupIdOf item' :=
  C13_same_header_only_if_renaming item item' h h' e

/-- **same bucket iff headers alpha-equivalent**, both directions with the executable conditions under which each holds:
    for blocks `item`, `item'` satisfying `hdrConverseOK_hc`,
    (1) ONLY IF: if they have the same group id, the header of `item'` is the header of `item` renamed by the computed
        renaming of the two headers;
    (2) IF: if `item'` is `item` consistently renamed by some `π` with `alphaOK π item` (only declared parameters
        respelled, new spellings distinct per name space, unused parameters keep their spelling, no capture) and with its
        declarations permuted, they have the same group id — and then, by (1), the computed header renaming maps the one
        header to the other (it is `π` restricted to the parameters of the header).
    The IF direction for an arbitrary `item'` whose HEADER alone is a renaming of the header of `item` is not stated: the
    group id of `item'` is computed from the header's own numbering (`C13_header_resolved_locally`), but the existing
    alpha-invariance theorems are about renamings of whole blocks. -/
theorem C06_same_bucket_iff_headers_alpha_equivalent (item item' : T) (h : hdrConverseOK_hc item = true)
    (h' : hdrConverseOK_hc item' = true) :
    (groupIdOf (mkBlk item).item = groupIdOf (mkBlk item').item →
      acT_cr (hdrRenamingBetween_hc item item') (groupIdOf item) = groupIdOf item') ∧
    (∀ (π : Renaming) (ps' : List T), alphaOK π item = true → ps'.Perm (implParams (alphaRename π item)) →
      item' = setParams ps' (alphaRename π item) →
      groupIdOf (mkBlk item).item = groupIdOf (mkBlk item').item ∧
      acT_cr (hdrRenamingBetween_hc item item') (groupIdOf item) = groupIdOf item') := by
  refine ⟨C06_same_bucket_only_if_headers_alpha_equivalent item item' h h', ?_⟩
  intro π ps' hal hp e
  have hb : groupIdOf (mkBlk item).item = groupIdOf (mkBlk item').item := by
    rw [e]
    exact (C06_renamed_permuted_same_header π item ps' (hdrConverseOK_parts_hc h).1 hal hp).symm
  exact ⟨hb, C06_same_bucket_only_if_headers_alpha_equivalent item item' h h' hb⟩

/-- … as an equivalence, for a block and its renamed and re-ordered presentation: they are in one bucket, and (equivalently)
    the computed header renaming maps the one header to the other -/
theorem C06_renamed_permuted_bucket_iff (π : Renaming) (item : T) (ps' : List T) (hal : alphaOK π item = true)
    (hp : ps'.Perm (implParams (alphaRename π item))) (h : hdrConverseOK_hc item = true)
    (h' : hdrConverseOK_hc (setParams ps' (alphaRename π item)) = true) :
    groupIdOf (mkBlk item).item = groupIdOf (mkBlk (setParams ps' (alphaRename π item))).item ↔
      acT_cr (hdrRenamingBetween_hc item (setParams ps' (alphaRename π item))) (groupIdOf item) =
        groupIdOf (setParams ps' (alphaRename π item)) := by
  have := (C06_same_bucket_iff_headers_alpha_equivalent item _ h h').2 π ps' hal hp rfl
  exact ⟨fun _ => this.2, fun _ => this.1⟩

section C06HeaderConverseExamples
open Ex13

/-- non-vacuity of `C06_same_bucket_iff_headers_alpha_equivalent` / `C06_renamed_permuted_bucket_iff`:
    `impl<U, T: Tr<U>> Kita for (T, T::Target)` against `impl<A: Tr<B>, B> Kita for (A, A::Target)` (renamed `T ↦ A, U ↦ B`,
    declarations swapped): every hypothesis of both directions holds, the two blocks are in one bucket, the computed
    header renaming is `T ↦ A` (not the identity) and maps the one header to the other; and a pair in DIFFERENT buckets whose
    headers are not renamings of each other (`(T, T::Target)` against `(T, U)`) -/
theorem C06_same_bucket_iff_example :
    hdrConverseOK_hc named = true ∧ hdrConverseOK_hc (setParams namedABSwParams (alphaRename piNamed named)) = true ∧
    alphaOK piNamed named = true ∧
    groupIdOf (mkBlk named).item = groupIdOf (mkBlk (setParams namedABSwParams (alphaRename piNamed named))).item ∧
    hdrRenamingBetween_hc named (setParams namedABSwParams (alphaRename piNamed named)) = ⟨[], [("T", "A")], []⟩ ∧
    acT_cr (hdrRenamingBetween_hc named (setParams namedABSwParams (alphaRename piNamed named))) (groupIdOf named) =
      groupIdOf (setParams namedABSwParams (alphaRename piNamed named)) ∧
    (mkBuckets [mkBlk named, mkBlk (setParams namedABSwParams (alphaRename piNamed named))]).length = 1 ∧
    (hdrConverseOK_hc hcTwo = true ∧ groupIdOf (mkBlk named).item ≠ groupIdOf (mkBlk hcTwo).item ∧
      acT_cr (hdrRenamingBetween_hc named hcTwo) (groupIdOf named) ≠ groupIdOf hcTwo ∧
      (mkBuckets [mkBlk named, mkBlk hcTwo]).length = 2) := by
  decide +kernel

/-- the ONLY-IF direction needs `strayFree_hc`: `impl<T> Kita for (T, _ŠČ1)` and `impl<T, U> Kita for (T, U)` fall into ONE
    bucket although their headers are not renamings of each other (`C13_same_header_stray_counterexamples`) -/
theorem C06_same_bucket_stray_counterexample :
    canonWF hcStray = true ∧ strayFree_hc hcStray = false ∧ hdrConverseOK_hc hcTwo = true ∧
    (mkBuckets [mkBlk hcStray, mkBlk hcTwo]).length = 1 ∧
    acT_cr (hdrRenamingBetween_hc hcStray hcTwo) (groupIdOf hcStray) ≠ groupIdOf hcTwo := by
  decide +kernel
end C06HeaderConverseExamples

end DI

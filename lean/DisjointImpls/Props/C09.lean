/-
  C09 — header generalisation is exact first-order matching: property theorems over `sup` (Match.lean).
  The inductions over the matcher are in `Lemmas/MatchSound.lean` (soundness), `Lemmas/MatchComplete.lean`
  (completeness) and `Lemmas/MatchTrans.lean` (transitivity); the algebra of `merge`, the theorems about `supL`
  and the counterexamples are proved here.

  For *all* trees `a b : T`:

  * `C09_functional` and `C09_identity_ty` hold unconditionally.
  * The `eparam` half of identity is false (`C09_identity_unconditional_false`); it holds when `b` has no const
    generic argument that is a lone parameter (`noConstParam b`, `C09_identity_wf`).
  * "Every parameter is bound" is false (`C09_binds_all_unconditional_false`); it holds for well-formed `a`
    (`wf a`, `C09_binds_all_wf`).
  * Soundness is false (`C09_sound_unconditional_false`); it holds for well-formed `a`, `b` whose `Ign` children
    face each other (`wf a`, `wf b`, `ignFaces a (stripTop b)`, `C09_sound_wf`).

  `wf`, `ignFaces`, `noConstParam` are executable (`Bool`) predicates defined in `Lemmas/MatchSound.lean`;
  every clause of `wf` has a counterexample below showing that it cannot be dropped. Completeness
  (`C09_complete_partial`) and transitivity (`C09_trans`) hold on executable fragments described at their
  sections; each of their hypotheses has a counterexample too.
-/
import DisjointImpls.Lemmas.MatchSound
import DisjointImpls.Lemmas.MatchComplete
import DisjointImpls.MatchSchema
import DisjointImpls.Lemmas.MatchTrans
namespace DI

/-- the reported substitution is a function: no key occurs twice -/
theorem C09_functional (a b : T) (σ : Subst) (l : Bool) :
    sup a b = .yes σ l → (σ.map Prod.fst).Nodup :=
  fun h => (supS_light a (stripTop b) σ l h).1

/-- a type parameter matched against itself is reported as unchanged, never as a binding to itself -/
theorem C09_identity_ty (a b : T) (σ : Subst) (l : Bool) (n : String) :
    sup a b = .yes σ l → lookup σ n ≠ some (.ty (.tparam n)) := by
  intro h hl
  exact ((supS_light a (stripTop b) σ l h).2 (n, .ty (.tparam n)) (lookup_mem σ n _ hl)).1 rfl

/-- a parameter matched against itself is reported as unchanged, never as a binding to itself
    (`b` without a const generic argument that is a lone parameter) -/
theorem C09_identity_wf (a b : T) (σ : Subst) (l : Bool) (n : String) (hb : noConstParam b = true) :
    sup a b = .yes σ l →
      lookup σ n ≠ some (.ty (.tparam n)) ∧ lookup σ n ≠ some (.ex (.eparam n)) := by
  intro h
  refine ⟨C09_identity_ty a b σ l n h, fun hl => ?_⟩
  exact ((supS_light a (stripTop b) σ l h).2 (n, .ex (.eparam n)) (lookup_mem σ n _ hl)).2
    (noConstParam_stripTop b hb) rfl

/-- every parameter of a well-formed `a` (that the matcher can see) is bound -/
theorem C09_binds_all_wf (a b : T) (σ : Subst) (ha : wf a = true) :
    sup a b = .yes σ false → ∀ n ∈ params a, (lookup σ n).isSome = true :=
  fun h => (supS_good a (stripTop b) σ ha h).1

/-- soundness: when no lenient arm fired, the reported substitution turns `a` into `b` (modulo presentation),
    for well-formed trees whose ignored children face each other -/
theorem C09_sound_wf (a b : T) (σ : Subst) (ha : wf a = true) (hb : wf b = true)
    (hf : ignFaces a (stripTop b) = true) :
    sup a b = .yes σ false → erase (inst σ a) = erase b := by
  intro h
  rw [(supS_good a (stripTop b) σ ha h).2 (wf_stripTop b hb) hf, erase_stripTop]

/-! ## Completeness

The full statement
`∀ a b θ, <side conditions> → erase (inst θ a) = erase b → ∃ σ l, sup a b = .yes σ l`
is proved for the side conditions `frag θ a`, `coherent θ a`, `plain b` (all executable). -/

/-- completeness on the fragment: whenever a coherent θ with `erase (inst θ a) = erase b` exists, the matcher
    answers yes, and every entry it reports is a value induced by θ at some parameter occurrence of `a` -/
theorem C09_complete_partial (a b : T) (θ : Subst) (hf : frag θ a = true) (hc : coherent θ a = true)
    (hb : plain b = true) :
    erase (inst θ a) = erase b → ∃ σ l, sup a b = .yes σ l ∧ ∀ p ∈ σ, p ∈ occVals θ a := by
  intro he
  rw [plain_erase b hb] at he
  unfold sup
  rw [plain_stripTop hb]
  exact supS_complete θ a hf (· ∈ occVals θ a) (functional_of_functionalB hc) (fun _ h => h) b hb he

/-- the same for an arbitrary target, normalised with `erase` first -/
theorem C09_complete_normalised (a b : T) (θ : Subst) (hf : frag θ a = true) (hc : coherent θ a = true) :
    erase (inst θ a) = erase b → ∃ σ l, sup a (erase b) = .yes σ l ∧ ∀ p ∈ σ, p ∈ occVals θ a := by
  intro he
  exact C09_complete_partial a (erase b) θ hf hc (plain_erase_self b) (by rw [erase_erase]; exact he)

/-- on the fragment the matcher answers yes, with distinct keys -/
theorem C09_complete_exact (a b : T) (θ : Subst) (hf : frag θ a = true) (hc : coherent θ a = true)
    (hb : plain b = true) (he : erase (inst θ a) = erase b) :
    ∃ σ l, sup a b = .yes σ l ∧ (σ.map Prod.fst).Nodup :=
  let ⟨σ, l, h, _⟩ := C09_complete_partial a b θ hf hc hb he
  ⟨σ, l, h, C09_functional a b σ l h⟩

/-! ## Counterexamples to the unconditional statements

Each is a closed instance evaluated by the kernel (`decide`). -/

section Counterexamples

private def leaf (s : String) : T := .node s [] []

/-- `C09_identity_wf` without `noConstParam`: a type parameter in generic-argument position facing the const argument
    `_ŠČ0` is reported as the binding `_ŠČ0 ↦ ex _ŠČ0`. -/
theorem C09_identity_counterexample :
    sup (.node "GenericArgument::Type" [] [.tparam "_ŠČ0"]) (.node "GenericArgument::Const" [] [.eparam "_ŠČ0"])
        = .yes [("_ŠČ0", .ex (.eparam "_ŠČ0"))] false ∧
    lookup [("_ŠČ0", Val.ex (.eparam "_ŠČ0"))] "_ŠČ0" = some (.ex (.eparam "_ŠČ0")) := by decide +kernel

theorem C09_identity_unconditional_false :
    ¬ ∀ (a b : T) (σ : Subst) (l : Bool) (n : String), sup a b = .yes σ l →
      lookup σ n ≠ some (.ty (.tparam n)) ∧ lookup σ n ≠ some (.ex (.eparam n)) := fun h =>
  (h _ _ _ _ "_ŠČ0" C09_identity_counterexample.1).2 C09_identity_counterexample.2

/-- `C09_binds_all_wf`, wrapper clause of `wf`: only the last child of a transparent wrapper is matched, `params`
    counts all of them. -/
theorem C09_binds_all_counterexample_wrapper :
    sup (.node "Type::Paren" [] [.tparam "y", .tparam "x"]) (leaf "Foo") = .yes [("x", .ty (leaf "Foo"))] false ∧
    "y" ∈ params (.node "Type::Paren" [] [.tparam "y", .tparam "x"]) ∧
    (lookup [("x", Val.ty (leaf "Foo"))] "y").isSome = false := by decide +kernel

/-- `C09_binds_all_wf`, `QSelf` clause of `wf`: children after the type are compared by equality, not matched. -/
theorem C09_binds_all_counterexample_qself :
    sup (.node "QSelf" [] [.tparam "x", .tparam "y"]) (.node "QSelf" [] [.tparam "x", .tparam "y"])
      = .yes [("x", .identity)] false ∧
    "y" ∈ params (.node "QSelf" [] [.tparam "x", .tparam "y"]) ∧
    (lookup [("x", Val.identity)] "y").isSome = false := by decide +kernel

/-- `C09_binds_all_wf`, `Expr::Binary` clause of `wf`: the operator is compared by equality, not matched. -/
theorem C09_binds_all_counterexample_binary :
    sup (.node "Expr::Binary" [] [.eparam "o", leaf "L", leaf "R", leaf "A"])
        (.node "Expr::Binary" [] [.eparam "o", leaf "L", leaf "R", leaf "A"]) = .yes [] false ∧
    "o" ∈ params (.node "Expr::Binary" [] [.eparam "o", leaf "L", leaf "R", leaf "A"]) := by decide +kernel

theorem C09_binds_all_unconditional_false :
    ¬ ∀ (a b : T) (σ : Subst), sup a b = .yes σ false → ∀ n ∈ params a, (lookup σ n).isSome = true :=
  fun h => by
    have := h _ _ _ C09_binds_all_counterexample_wrapper.1 "y" C09_binds_all_counterexample_wrapper.2.1
    rw [C09_binds_all_counterexample_wrapper.2.2] at this
    cases this

/-- `C09_sound_wf`, hypothesis `ignFaces`: an `Ign` child on the left matches anything. -/
theorem C09_sound_counterexample_ign :
    sup (leaf "Ign") (.tparam "x") = .yes [] false ∧
    erase (inst [] (leaf "Ign")) ≠ erase (.tparam "x") := by decide +kernel

/-- `C09_sound_wf`, `IgnL` clause of `wf`: a parameter beneath an `IgnL` child is compared, not instantiated. -/
theorem C09_sound_counterexample_ignL :
    sup (.node "X" [] [.tparam "x", .node "IgnL" [] [.tparam "x"]])
        (.node "X" [] [leaf "Foo", .node "IgnL" [] [.tparam "x"]]) = .yes [("x", .ty (leaf "Foo"))] false ∧
    erase (inst [("x", .ty (leaf "Foo"))] (.node "X" [] [.tparam "x", .node "IgnL" [] [.tparam "x"]]))
      ≠ erase (.node "X" [] [leaf "Foo", .node "IgnL" [] [.tparam "x"]]) := by decide +kernel

/-- `C09_sound_wf`, atom clause of `wf`: the `Pat::Wild` arm (likewise `QSelf`, `Expr::Binary`, `OptWild`) does
    not compare atoms. -/
theorem C09_sound_counterexample_atoms :
    sup (.node "Pat::Wild" ["x"] []) (.node "Pat::Wild" ["y"] []) = .yes [] false ∧
    erase (inst [] (.node "Pat::Wild" ["x"] [])) ≠ erase (.node "Pat::Wild" ["y"] []) := by decide +kernel

theorem C09_sound_counterexample_atoms_qself :
    sup (.node "QSelf" ["x"] [leaf "A"]) (.node "QSelf" ["y"] [leaf "A"]) = .yes [] false ∧
    erase (inst [] (.node "QSelf" ["x"] [leaf "A"])) ≠ erase (.node "QSelf" ["y"] [leaf "A"]) := by decide +kernel

theorem C09_sound_counterexample_atoms_binary :
    sup (.node "Expr::Binary" ["x"] [leaf "O", leaf "L", leaf "R", leaf "A"])
        (.node "Expr::Binary" ["y"] [leaf "O", leaf "L", leaf "R", leaf "A"]) = .yes [] false ∧
    erase (inst [] (.node "Expr::Binary" ["x"] [leaf "O", leaf "L", leaf "R", leaf "A"]))
      ≠ erase (.node "Expr::Binary" ["y"] [leaf "O", leaf "L", leaf "R", leaf "A"]) := by decide +kernel

theorem C09_sound_counterexample_atoms_optwild :
    sup (.node "OptWild" ["x"] [leaf "A"]) (.node "OptWild" ["y"] [leaf "A"]) = .yes [] false ∧
    erase (inst [] (.node "OptWild" ["x"] [leaf "A"])) ≠ erase (.node "OptWild" ["y"] [leaf "A"]) := by decide +kernel

/-- `C09_sound_wf`, `QSelf` clause of `wf`: a parameter after the type of a `QSelf` is bound by a later sibling. -/
theorem C09_sound_counterexample_qself :
    sup (.node "X" [] [.node "QSelf" [] [.tparam "x", .tparam "y"], .tparam "y"])
        (.node "X" [] [.node "QSelf" [] [.tparam "x", .tparam "y"], leaf "Foo"])
      = .yes [("x", .identity), ("y", .ty (leaf "Foo"))] false ∧
    erase (inst [("x", .identity), ("y", .ty (leaf "Foo"))]
        (.node "X" [] [.node "QSelf" [] [.tparam "x", .tparam "y"], .tparam "y"]))
      ≠ erase (.node "X" [] [.node "QSelf" [] [.tparam "x", .tparam "y"], leaf "Foo"]) := by decide +kernel

/-- `C09_sound_wf`, `Expr::Binary` clause of `wf`: a parameter as operator is bound by a later sibling. -/
theorem C09_sound_counterexample_binary_op :
    sup (.node "X" [] [.node "Expr::Binary" [] [.eparam "o", leaf "L", leaf "R", leaf "A"], .eparam "o"])
        (.node "X" [] [.node "Expr::Binary" [] [.eparam "o", leaf "L", leaf "R", leaf "A"], leaf "Foo"])
      = .yes [("o", .ex (leaf "Foo"))] false ∧
    erase (inst [("o", .ex (leaf "Foo"))]
        (.node "X" [] [.node "Expr::Binary" [] [.eparam "o", leaf "L", leaf "R", leaf "A"], .eparam "o"]))
      ≠ erase (.node "X" [] [.node "Expr::Binary" [] [.eparam "o", leaf "L", leaf "R", leaf "A"], leaf "Foo"]) := by
  decide +kernel

theorem C09_sound_unconditional_false :
    ¬ ∀ (a b : T) (σ : Subst), sup a b = .yes σ false → erase (inst σ a) = erase b := fun h =>
  C09_sound_counterexample_ign.2 (h _ _ _ C09_sound_counterexample_ign.1)

/-- the side conditions are not vacuous: `(_ŠČ0, Vec<_ŠČ0>)`-like shapes with an `Ign` child and a wrapper -/
example :
    let a : T := .node "Type::Tuple" [] [.node "Ign" [] [leaf "A1"], .tparam "_ŠČ0",
      .node "Type::Paren" [] [.node "Type::Ref" ["mut"] [.tparam "_ŠČ0"]]]
    let b : T := .node "Type::Paren" [] [.node "Type::Tuple" [] [.node "Ign" [] [leaf "A2"], leaf "u8",
      .node "Type::Ref" ["mut"] [.node "Type::Group" [] [leaf "u8"]]]]
    wf a = true ∧ wf b = true ∧ ignFaces a (stripTop b) = true ∧ noConstParam b = true ∧
    sup a b = .yes [("_ŠČ0", .ty (leaf "u8"))] false := by decide +kernel

/-! ### Completeness: every hypothesis of `C09_complete_partial` is needed -/

/-- `coherent`: one name used for a type parameter left in place and for a const argument -/
theorem C09_complete_counterexample_coherent :
    let a : T := .node "X" [] [.tparam "n", .node "GenericArgument::Type" [] [.tparam "n"]]
    let b : T := .node "X" [] [.tparam "n", .node "GenericArgument::Const" [] [leaf "E"]]
    let θ : Subst := [("n", .ex (leaf "E"))]
    frag θ a = true ∧ plain b = true ∧ erase (inst θ a) = erase b ∧ coherent θ a = false ∧ sup a b = .no := by
  decide +kernel

/-- `coherent`: a parameter that also occurs as a trait path (non-type position) must not be moved -/
theorem C09_complete_counterexample_coherent_path :
    let pth : T := .node "Path" [] [.node "IgnL" [] [leaf "None"],
      .node "List" [] [.node "PathSegment" [] [.node "Ident" ["_ŠČ0"] [], leaf "PathArguments::None"]]]
    let a : T := .node "X" [] [pth, .tparam "_ŠČ0"]
    let b : T := .node "X" [] [pth, leaf "u8"]
    let θ : Subst := [("_ŠČ0", .ty (leaf "u8"))]
    frag θ a = true ∧ plain b = true ∧ erase (inst θ a) = erase b ∧ coherent θ a = false ∧ sup a b = .no := by
  decide +kernel

/-- `plain b`: two occurrences of a parameter facing sub-terms equal only modulo presentation (`(u8)` / `u8`) -/
theorem C09_complete_counterexample_plain :
    let a : T := .node "X" [] [.tparam "n", .tparam "n"]
    let b : T := .node "X" [] [.node "Tup" [] [.node "Type::Paren" [] [leaf "u8"]], .node "Tup" [] [leaf "u8"]]
    let θ : Subst := [("n", .ty (.node "Tup" [] [leaf "u8"]))]
    frag θ a = true ∧ coherent θ a = true ∧ plain b = false ∧ erase (inst θ a) = erase b ∧ sup a b = .no ∧
    (∃ σ l, sup a (erase b) = .yes σ l) := by
  intro a b θ
  have h : frag θ a = true ∧ coherent θ a = true ∧ plain b = false ∧ erase (inst θ a) = erase b ∧ sup a b = .no ∧
      sup a (erase b) = .yes [("n", .ty (.node "Tup" [] [leaf "u8"]))] false := by decide +kernel
  exact ⟨h.1, h.2.1, h.2.2.1, h.2.2.2.1, h.2.2.2.2.1, _, _, h.2.2.2.2.2⟩

/-- `frag`: a kind whose arm is `unimplemented!()` -/
theorem C09_complete_counterexample_panic :
    frag [] (leaf "Constraint") = false ∧ erase (inst [] (leaf "Constraint")) = erase (leaf "Constraint") ∧
    sup (leaf "Constraint") (leaf "Constraint") = .panic := by decide +kernel

/-- `frag`: θ moves a parameter beneath a `QSelf` -/
theorem C09_complete_counterexample_qself :
    let a : T := .node "QSelf" [] [.tparam "n"]
    let θ : Subst := [("n", .ty (leaf "u8"))]
    frag θ a = false ∧ coherent θ a = true ∧ erase (inst θ a) = erase (.node "QSelf" [] [leaf "u8"]) ∧
    sup a (.node "QSelf" [] [leaf "u8"]) = .no := by decide +kernel

/-- `frag`: an empty transparent wrapper, a misshaped `Lifetime`, `OptWild` and `Expr::Binary` are rejected
    even against themselves -/
theorem C09_complete_counterexample_shapes :
    (frag [] (leaf "Type::Paren") = false ∧ erase (leaf "Type::Paren") = erase (leaf "Ign") ∧
      sup (leaf "Type::Paren") (leaf "Ign") = .no) ∧
    (frag [] (.node "Lifetime" ["a"] []) = false ∧ sup (.node "Lifetime" ["a"] []) (.node "Lifetime" ["a"] []) = .no) ∧
    (frag [] (leaf "OptWild") = false ∧ sup (leaf "OptWild") (leaf "OptWild") = .no) ∧
    (frag [] (leaf "Expr::Binary") = false ∧ sup (leaf "Expr::Binary") (leaf "Expr::Binary") = .no) := by decide +kernel

/-- non-vacuity of `C09_complete_partial`: `(_ŠČ0, &mut (_ŠČ0), <_ŠČ1 as Tr>::A)`-like pattern with an ignored
    child, a wrapper, a `QSelf` whose parameter stays, and a repeated parameter -/
example :
    let a : T := .node "Type::Tuple" [] [.node "Ign" [] [leaf "A1"], .tparam "_ŠČ0",
      .node "Type::Paren" [] [.node "Type::Ref" ["mut"] [.tparam "_ŠČ0"]],
      .node "Type::Path" [] [.node "QSelf" [] [.tparam "_ŠČ1", leaf "1"], leaf "P"]]
    let b : T := .node "Type::Tuple" [] [leaf "Ign", leaf "u8", .node "Type::Ref" ["mut"] [leaf "u8"],
      .node "Type::Path" [] [.node "QSelf" [] [.tparam "_ŠČ1", leaf "1"], leaf "P"]]
    let θ : Subst := [("_ŠČ0", .ty (leaf "u8"))]
    frag θ a = true ∧ coherent θ a = true ∧ plain b = true ∧ erase (inst θ a) = erase b ∧
    sup a b = .yes [("_ŠČ0", .ty (leaf "u8")), ("_ŠČ1", .identity)] false := by decide +kernel

end Counterexamples


/-! ## The source's field schema (regenerated facts)

`MatchFacts.lean` is regenerated from /repo/src/superset.rs, /repo/src/superset/*.rs and the pinned syn sources on every run of
the check; `MatchSchema.lean` is the schema the model (and the decoder) assume. -/

/-- every non-punctuation field of every syn struct with an `impl Superset` is mentioned by its `is_superset`, except exactly
    the fields the model treats as ignored (`MatchSchema.supersetIgnored`: presentation, the two lenient findings, `unimplemented!()` arms) -/
theorem C09_every_field_examined :
    MatchSchema.unexamined MatchFacts.supersetMentions = MatchSchema.supersetIgnored := by decide +kernel

/-- the set of types with an `impl Superset` is the one the model covers -/
theorem C09_superset_impls : MatchFacts.supersetMentions.map Prod.fst = MatchSchema.supersetImpls := by decide +kernel

/-! ## Transitivity (`Lemmas/MatchTrans.lean`)

The unconditional statement — `sup a b = .yes σ l₁ → sup b c = .yes τ l₂ → ∃ ρ l, sup a c = .yes ρ l` for all trees — is
FALSE (`C09_trans_counterexample_*` below, some of them with ordinary Rust types). It is proved under executable side
conditions:

* `okT_tr t` (on `a`, `b`, `c`): outside ignored children, `t` has no node of a kind whose arm is lenient,
  order-dependent or `unimplemented!()` (`Pat::Wild`, `Stmt::Item`, `Constraint`, `Pat::Struct`, `Pat::TupleStruct`,
  `Expr::Binary`, `OptWild`), no anonymous lifetime `'_`, no `Path` node that is a lone parameter identifier
  (the decoder turns those into parameters), a `QSelf` node has no atoms, and its generic arguments have the shapes the
  matcher inspects literally: `GenericArgument::Const [] [e]` with `e` a proper node (no wrapper, no ignored child),
  `GenericArgument::Type [] [x]` with `x` a type parameter or a proper node. Transparent wrappers (elsewhere),
  `Ign` / `IgnL` children, lifetimes, qualified paths `<T as Tr>::A` are allowed.
* `faces_tr b (stripTop c)`: along the common shape of `b` and `c`, every `Ign` child of `b` faces an `Ign` child of `c`
  and every `IgnL` child of `b` (leading `::`) faces an identical node.
* `presInj_tr c`: any two sub-trees of the target `c` (not beneath ignored children) that are equal modulo presentation
  (`erase`) are equal up to wrappers at their root — `c` does not spell one type in two ways (`Vec<X>` / `Vec::<X>`,
  `Vec<(X)>` / `Vec<X>`). This is what `Substitutions::merge` needs: it compares bound sub-trees with `==`. -/

/-- transitivity of header generalisation on the fragment: if `a` generalises `b` and `b` generalises `c` (whatever
    the lossy flags), `a` generalises `c`.
    Side conditions (all executable): `okT_tr` for the three trees, `faces_tr b (stripTop c)`, `presInj_tr c`. -/
theorem C09_trans (a b c : T) (σ τ : Subst) (l₁ l₂ : Bool) (ha : okT_tr a = true) (hb : okT_tr b = true)
    (hc : okT_tr c = true) (hf : faces_tr b (stripTop c) = true) (hi : presInj_tr c = true) :
    sup a b = .yes σ l₁ → sup b c = .yes τ l₂ → ∃ ρ l, sup a c = .yes ρ l :=
  fun h1 h2 => sup_trans_tr a b c σ τ l₁ l₂ ha hb hc hf hi h1 h2

/-- what the answer of `a → c` is made of: every entry `(n, w)` of it belongs to a parameter `n` that `a → b` bound,
    say to `v`, and `w` is the image of `v` under the match `b → c` (`Img_tr`): for `v = identity` the entry of `τ`
    for `n`; for `v = ty t` / `ex t` the sub-tree `c₁` of `c` that `t` was matched against (`identity` if `c₁` is the
    parameter `n` itself), or the const argument `τ` binds `t = tparam m` to -/
theorem C09_trans_answer (a b c : T) (σ τ : Subst) (l₁ l₂ : Bool) (ha : okT_tr a = true) (hb : okT_tr b = true)
    (hc : okT_tr c = true) (hf : faces_tr b (stripTop c) = true) (hi : presInj_tr c = true)
    (h1 : sup a b = .yes σ l₁) (h2 : sup b c = .yes τ l₂) :
    ∃ ρ l, sup a c = .yes ρ l ∧
      ∀ p ∈ ρ, ∃ v, lookup σ p.1 = some v ∧ Img_tr (· ∈ subs_tr c) τ p.1 v p.2 :=
  sup_trans_answer_tr a b c σ τ l₁ l₂ ha hb hc hf hi h1 h2

section TransExamples

private def lf (s : String) : T := .node s [] []
private def lt' (x : String) : T := .node "Lifetime" [] [.node "Ident" [x] []]
/-- `Vec<x>` as the decoder produces it (with the ignored `::` before `<` and the `IgnL` leading colon) -/
private def vecT (colon2 : T) (x : T) : T :=
  .node "Type::Path" [] [lf "None", .node "Path" [] [.node "IgnL" [] [lf "None"], .node "List" []
    [.node "PathSegment" [] [.node "Ident" ["Vec"] [], .node "PathArguments::AngleBracketed" []
      [.node "Ign" [] [colon2], .node "List" [] [.node "GenericArgument::Type" [] [x]]]]]]]
private def tup2 (x y : T) : T := .node "Type::Tuple" [] [.node "List" [] [x, y]]
private def u8 : T := .node "Type::Path" [] [lf "None", .node "Path" [] [.node "IgnL" [] [lf "None"], .node "List" []
    [.node "PathSegment" [] [.node "Ident" ["u8"] [], lf "PathArguments::None"]]]]

/-- anonymous lifetime: `&'a T ⊒ &'_ T ⊒ &'b T` but `&'a T ⋣ &'b T` -/
theorem C09_trans_counterexample_lifetime :
    let a : T := .node "Type::Reference" [] [lt' "a", .tparam "_ŠČ0"]
    let b : T := .node "Type::Reference" [] [lt' "_", .tparam "_ŠČ0"]
    let c : T := .node "Type::Reference" [] [lt' "b", .tparam "_ŠČ0"]
    sup a b = .yes [("_ŠČ0", .identity)] true ∧ sup b c = .yes [("_ŠČ0", .identity)] true ∧ sup a c = .no ∧
    okT_tr a = true ∧ okT_tr b = false ∧ okT_tr c = true ∧ faces_tr b (stripTop c) = true ∧ presInj_tr c = true := by
  decide +kernel

/-- `_` pattern: anything ⊒ `_` ⊒ anything -/
theorem C09_trans_counterexample_wild :
    sup (lf "A") (lf "Pat::Wild") = .yes [] true ∧ sup (lf "Pat::Wild") (lf "B") = .yes [] true ∧
    sup (lf "A") (lf "B") = .no ∧ okT_tr (lf "Pat::Wild") = false := by decide +kernel

/-- swapped operands are tried only when the left operands do not match: `[_; N + 1] ⊒ [_; 2 + 1] ⊒ [_; 1 + 2]` but
    `[_; N + 1] ⋣ [_; 1 + 2]` (`N ↦ 1` succeeds on the left, then `1` against `2` fails and no swap is tried) -/
theorem C09_trans_counterexample_binary :
    let bin (l r : T) : T := .node "Expr::Binary" [] [lf "BinOp::Add", l, r, .node "Ign" [] [lf "List"]]
    let lit (s : String) : T := .node "Lit" [s] []
    sup (bin (.eparam "_ŠČ0") (lit "1")) (bin (lit "2") (lit "1")) = .yes [("_ŠČ0", .ex (lit "2"))] false ∧
    sup (bin (lit "2") (lit "1")) (bin (lit "1") (lit "2")) = .yes [] true ∧
    sup (bin (.eparam "_ŠČ0") (lit "1")) (bin (lit "1") (lit "2")) = .no ∧
    okT_tr (bin (lit "2") (lit "1")) = false := by decide +kernel

/-- missing turbofish: `x.f::<A>() ⊒ x.f() ⊒ x.f::<B>()` -/
theorem C09_trans_counterexample_optWild :
    sup (.node "OptWild" [] [lf "A"]) (.node "OptWild" [] [lf "None"]) = .yes [] true ∧
    sup (.node "OptWild" [] [lf "None"]) (.node "OptWild" [] [lf "B"]) = .yes [] true ∧
    sup (.node "OptWild" [] [lf "A"]) (.node "OptWild" [] [lf "B"]) = .no ∧
    okT_tr (.node "OptWild" [] [lf "None"]) = false := by decide +kernel

/-- generic-argument clause of `okT_tr`: the const-argument deviation (path.rs:173-179) looks at the literal shape
    `GenericArgument::Type [tparam]`: `Foo<(T)> ⊒ Foo<N> ⊒ Foo<3>` but `Foo<(T)> ⋣ Foo<3>` -/
theorem C09_trans_counterexample_gaWrapper :
    let a : T := .node "GenericArgument::Type" [] [.node "Type::Paren" [] [.tparam "_ŠČ0"]]
    let b : T := .node "GenericArgument::Type" [] [.tparam "_ŠČ1"]
    let c : T := .node "GenericArgument::Const" [] [.node "Expr::Lit" [] [lf "3"]]
    sup a b = .yes [("_ŠČ0", .ty (.tparam "_ŠČ1"))] false ∧
    sup b c = .yes [("_ŠČ1", .ex (.node "Expr::Lit" [] [lf "3"]))] false ∧ sup a c = .no ∧
    okT_tr a = false ∧ okT_tr b = true ∧ okT_tr c = true ∧ faces_tr b (stripTop c) = true ∧ presInj_tr c = true := by
  decide +kernel

/-- `presInj_tr c` (ignored children): `(T, T) ⊒ (Vec<U>, Vec<U>) ⊒ (Vec<u8>, Vec::<u8>)` but
    `(T, T) ⋣ (Vec<u8>, Vec::<u8>)` — the two bound sub-trees differ in the ignored `::` -/
theorem C09_trans_counterexample_presInj_ign :
    let a : T := tup2 (.tparam "_ŠČ0") (.tparam "_ŠČ0")
    let b : T := tup2 (vecT (lf "None") (.tparam "_ŠČ1")) (vecT (lf "None") (.tparam "_ŠČ1"))
    let c : T := tup2 (vecT (lf "None") u8) (vecT (lf "Some") u8)
    sup a b = .yes [("_ŠČ0", .ty (vecT (lf "None") (.tparam "_ŠČ1")))] false ∧
    sup b c = .yes [("_ŠČ1", .ty u8)] false ∧ sup a c = .no ∧
    okT_tr a = true ∧ okT_tr b = true ∧ okT_tr c = true ∧ faces_tr b (stripTop c) = true ∧ presInj_tr c = false := by
  decide +kernel

/-- `presInj_tr c` (wrappers): `(T, T) ⊒ ((U, U), (U, U)) ⊒ (((u8), u8), (u8, u8))` but
    `(T, T) ⋣ (((u8), u8), (u8, u8))` -/
theorem C09_trans_counterexample_presInj_paren :
    let a : T := tup2 (.tparam "_ŠČ0") (.tparam "_ŠČ0")
    let b : T := tup2 (tup2 (.tparam "_ŠČ1") (.tparam "_ŠČ1")) (tup2 (.tparam "_ŠČ1") (.tparam "_ŠČ1"))
    let c : T := tup2 (tup2 (.node "Type::Paren" [] [u8]) u8) (tup2 u8 u8)
    sup a b = .yes [("_ŠČ0", .ty (tup2 (.tparam "_ŠČ1") (.tparam "_ŠČ1")))] false ∧
    sup b c = .yes [("_ŠČ1", .ty u8)] false ∧ sup a c = .no ∧
    okT_tr a = true ∧ okT_tr b = true ∧ okT_tr c = true ∧ faces_tr b (stripTop c) = true ∧ presInj_tr c = false := by
  decide +kernel

/-- `faces_tr` (an `Ign` child of `b` facing something else) -/
theorem C09_trans_counterexample_faces_ign :
    let a : T := tup2 (.tparam "_ŠČ0") (.tparam "_ŠČ0")
    let b : T := tup2 (.node "V" [] [lf "Ign"]) (.node "V" [] [lf "Ign"])
    let c : T := tup2 (.node "V" [] [lf "A"]) (.node "V" [] [lf "B"])
    sup a b = .yes [("_ŠČ0", .ty (.node "V" [] [lf "Ign"]))] false ∧ sup b c = .yes [] false ∧ sup a c = .no ∧
    okT_tr a = true ∧ okT_tr b = true ∧ okT_tr c = true ∧ faces_tr b (stripTop c) = false ∧ presInj_tr c = true := by
  decide +kernel

/-- `faces_tr` (an `IgnL` child — the leading `::` of a path — facing a different one):
    `(T, T) ⊒ (X, X) ⊒ (::X, X)` but `(T, T) ⋣ (::X, X)` -/
theorem C09_trans_counterexample_faces_ignL :
    let pth (lc : T) : T := .node "Path" [] [.node "IgnL" [] [lc], .node "List" [] [lf "X"]]
    let a : T := tup2 (.tparam "_ŠČ0") (.tparam "_ŠČ0")
    let b : T := tup2 (pth (lf "None")) (pth (lf "None"))
    let c : T := tup2 (pth (lf "Some")) (pth (lf "None"))
    sup a b = .yes [("_ŠČ0", .ty (pth (lf "None")))] false ∧ sup b c = .yes [] true ∧ sup a c = .no ∧
    okT_tr a = true ∧ okT_tr b = true ∧ okT_tr c = true ∧ faces_tr b (stripTop c) = false ∧ presInj_tr c = true := by
  decide +kernel

theorem C09_trans_unconditional_false :
    ¬ ∀ (a b c : T) (σ τ : Subst) (l₁ l₂ : Bool), sup a b = .yes σ l₁ → sup b c = .yes τ l₂ →
      ∃ ρ l, sup a c = .yes ρ l := fun h => by
  obtain ⟨ρ, l, hρ⟩ := h _ _ _ _ _ _ _ C09_trans_counterexample_wild.1 C09_trans_counterexample_wild.2.1
  rw [C09_trans_counterexample_wild.2.2.1] at hρ
  cases hρ

/-- non-vacuity of `C09_trans`: `(T, T) ⊒ (Vec<U>, Vec<U>) ⊒ (Vec<Vec<u8>>, (Vec<Vec<u8>>))` — a repeated parameter,
    ignored children, a wrapper in the target; all hypotheses hold and the three answers are as stated -/
example :
    let a : T := tup2 (.tparam "_ŠČ0") (.tparam "_ŠČ0")
    let b : T := tup2 (vecT (lf "None") (.tparam "_ŠČ1")) (vecT (lf "None") (.tparam "_ŠČ1"))
    let vv : T := vecT (lf "None") (vecT (lf "None") u8)
    let c : T := tup2 vv (.node "Type::Paren" [] [vv])
    okT_tr a = true ∧ okT_tr b = true ∧ okT_tr c = true ∧ faces_tr b (stripTop c) = true ∧ presInj_tr c = true ∧
    sup a b = .yes [("_ŠČ0", .ty (vecT (lf "None") (.tparam "_ŠČ1")))] false ∧
    sup b c = .yes [("_ŠČ1", .ty (vecT (lf "None") u8))] false ∧
    sup a c = .yes [("_ŠČ0", .ty vv)] false := by
  decide +kernel

/-- non-vacuity with the const-argument deviation and a lifetime: `&'a Foo<N> ⊒ &'a Foo<M> ⊒ &'a Foo<3>` -/
example :
    let foo (arg : T) : T := .node "Type::Reference" [] [lt' "a", .node "Foo" [] [arg]]
    let a : T := foo (.node "GenericArgument::Type" [] [.tparam "_ŠČ0"])
    let b : T := foo (.node "GenericArgument::Type" [] [.tparam "_ŠČ1"])
    let c : T := foo (.node "GenericArgument::Const" [] [.node "Expr::Lit" [] [lf "3"]])
    okT_tr a = true ∧ okT_tr b = true ∧ okT_tr c = true ∧ faces_tr b (stripTop c) = true ∧ presInj_tr c = true ∧
    sup a b = .yes [("_ŠČ0", .ty (.tparam "_ŠČ1"))] false ∧
    sup b c = .yes [("_ŠČ1", .ex (.node "Expr::Lit" [] [lf "3"]))] false ∧
    sup a c = .yes [("_ŠČ0", .ex (.node "Expr::Lit" [] [lf "3"]))] false := by
  decide +kernel

/-- non-vacuity with a qualified path, whose type must stay put: `(<T as Tr>::A, U) ⊒ (<T as Tr>::A, Vec<V>) ⊒
    (<T as Tr>::A, Vec<u8>)` -/
example :
    let q (x : T) : T := .node "Type::Path" [] [.node "Some" [] [.node "QSelf" [] [x, .node "Atom" ["1"] []]], lf "P"]
    let a : T := tup2 (q (.tparam "_ŠČ0")) (.tparam "_ŠČ1")
    let b : T := tup2 (q (.tparam "_ŠČ0")) (vecT (lf "None") (.tparam "_ŠČ2"))
    let c : T := tup2 (q (.tparam "_ŠČ0")) (vecT (lf "None") u8)
    okT_tr a = true ∧ okT_tr b = true ∧ okT_tr c = true ∧ faces_tr b (stripTop c) = true ∧ presInj_tr c = true ∧
    sup a b = .yes [("_ŠČ0", .identity), ("_ŠČ1", .ty (vecT (lf "None") (.tparam "_ŠČ2")))] false ∧
    sup b c = .yes [("_ŠČ0", .identity), ("_ŠČ2", .ty u8)] false ∧
    sup a c = .yes [("_ŠČ0", .identity), ("_ŠČ1", .ty (vecT (lf "None") u8))] false := by
  decide +kernel

end TransExamples

/-! ### `merge` computes the LEAST common extension ("most general": nothing is bound beyond what the children bound) -/

/-- `Substitutions::merge` answers an upper bound of both arguments (restated from `merge_ext`) that lies below EVERY common
    upper bound: the substitution the matcher assembles for a node with several children binds exactly what the children
    bound — no parameter more, no other value.  This is the "most general" half of first-order matching at the level of the
    substitution algebra, for all substitutions (duplicate keys included). -/
theorem C09_merge_is_least_upper_bound (σ τ ρ : Subst) (h : merge σ τ = some ρ) :
    Ext σ ρ ∧ Ext τ ρ ∧ ∀ ρ', Ext σ ρ' → Ext τ ρ' → Ext ρ ρ' := by
  obtain ⟨h1, h2⟩ := merge_ext τ σ ρ h
  refine ⟨h1, h2, fun ρ' e1 e2 n v hv => ?_⟩
  rw [lookup_merge h] at hv
  cases hs : lookup σ n with
  | some w => rw [hs] at hv; exact e1 n v (hs.trans hv)
  | none => rw [hs] at hv; exact e2 n v hv

/-- mutual extension is equality as finite maps -/
theorem C09_ext_antisymm {a b : Subst} (e1 : Ext a b) (e2 : Ext b a) : ∀ n, lookup a n = lookup b n := by
  intro n
  cases hl : lookup a n with
  | some v => exact (e1 n v hl).symm
  | none =>
    cases hr : lookup b n with
    | some w => have := e2 n w hr; rw [hl] at this; cases this
    | none => rfl

/-- consequently two answers of `merge` for the same pair of finite maps agree as finite maps, whatever the order of the
    arguments: the order of the children of a node cannot change WHAT is bound, only the order of the entries -/
theorem C09_merge_comm_as_maps (σ τ ρ ρ' : Subst) (h : merge σ τ = some ρ) (h' : merge τ σ = some ρ') :
    ∀ n, lookup ρ n = lookup ρ' n := by
  obtain ⟨a1, a2, a3⟩ := C09_merge_is_least_upper_bound σ τ ρ h
  obtain ⟨b1, b2, b3⟩ := C09_merge_is_least_upper_bound τ σ ρ' h'
  exact C09_ext_antisymm (a3 ρ' b2 b1) (b3 ρ a2 a1)

/-- non-vacuity: a concrete merge of overlapping, consistent substitutions succeeds in both orders (entries in different
    order, equal as maps); an inconsistent pair is refused -/
example :
    merge [("_ŠČ0", Val.ty (.node "u8" [] []))] [("_ŠČ1", Val.identity), ("_ŠČ0", Val.ty (.node "u8" [] []))]
      = some [("_ŠČ0", Val.ty (.node "u8" [] [])), ("_ŠČ1", Val.identity)] ∧
    merge [("_ŠČ1", Val.identity), ("_ŠČ0", Val.ty (.node "u8" [] []))] [("_ŠČ0", Val.ty (.node "u8" [] []))]
      = some [("_ŠČ1", Val.identity), ("_ŠČ0", Val.ty (.node "u8" [] []))] ∧
    merge [("_ŠČ0", Val.ty (.node "u8" [] []))] [("_ŠČ0", Val.identity)] = none := by decide +kernel

/-- `merge` is associative as a finite map: the substitution of a node does not depend on how the matcher brackets the
    folds over its children (`fold` over fields, then over the elements of a punctuated field) -/
theorem C09_merge_assoc_as_maps (σ τ υ a b c d : Subst)
    (h1 : merge σ τ = some a) (h2 : merge a υ = some b) (h3 : merge τ υ = some c) (h4 : merge σ c = some d) :
    ∀ n, lookup b n = lookup d n := by
  obtain ⟨a1, a2, a3⟩ := C09_merge_is_least_upper_bound σ τ a h1
  obtain ⟨b1, b2, b3⟩ := C09_merge_is_least_upper_bound a υ b h2
  obtain ⟨c1, c2, c3⟩ := C09_merge_is_least_upper_bound τ υ c h3
  obtain ⟨d1, d2, d3⟩ := C09_merge_is_least_upper_bound σ c d h4
  apply C09_ext_antisymm
  · exact b3 d (a3 d d1 (Ext.trans c1 d2)) (Ext.trans c2 d2)
  · exact d3 b (Ext.trans a1 b1) (c3 b (Ext.trans a2 b1) b2)

/-- `merge` is idempotent as a finite map: matching the same parameter occurrence twice adds nothing -/
theorem C09_merge_idem_as_maps (σ ρ : Subst) (h : merge σ σ = some ρ) : ∀ n, lookup ρ n = lookup σ n := by
  obtain ⟨a1, _, a3⟩ := C09_merge_is_least_upper_bound σ σ ρ h
  exact C09_ext_antisymm (a3 σ (Ext.refl σ) (Ext.refl σ)) a1

/-- `merge` refuses conflicting bindings AND ONLY those: for a right argument without repeated keys it succeeds exactly when
    every parameter bound on both sides is bound to the same value ("every parameter is bound to one value consistently
    across all of its occurrences" — and no consistent pair is ever refused) -/
theorem C09_merge_succeeds_iff : ∀ (τ σ : Subst), (τ.map Prod.fst).Nodup →
    ((∃ ρ, merge σ τ = some ρ) ↔ ∀ n v w, (n, v) ∈ τ → lookup σ n = some w → v = w)
  | [], σ, _ => by simp [merge]
  | (n, v) :: rest, σ, hn => by
      simp only [List.map_cons, List.nodup_cons] at hn
      obtain ⟨hnot, hrest⟩ := hn
      simp only [merge]
      cases hl : lookup σ n with
      | some v' =>
        by_cases hv : v = v'
        · simp only [hv, if_true]
          rw [C09_merge_succeeds_iff rest σ hrest]
          constructor
          · intro h m u w hm hw
            rcases List.mem_cons.1 hm with hm | hm
            · cases hm; rw [hl] at hw; cases hw; rfl
            · exact h m u w hm hw
          · intro h m u w hm hw
            exact h m u w (List.mem_cons_of_mem _ hm) hw
        · simp only [hv, if_false]
          constructor
          · rintro ⟨_, h⟩; cases h
          · intro h; exact absurd (h n v v' (by simp) hl) hv
      | none =>
        simp only
        rw [C09_merge_succeeds_iff rest (σ ++ [(n, v)]) hrest]
        have key : ∀ m, m ∈ rest.map Prod.fst → lookup (σ ++ [(n, v)]) m = lookup σ m := by
          intro m hm
          have hne : n ≠ m := fun e => hnot (e ▸ hm)
          rw [lookup_append]
          simp [lookup, hne]
        constructor
        · intro h m u w hm hw
          rcases List.mem_cons.1 hm with hm | hm
          · cases hm; rw [hl] at hw; cases hw
          · have hk := key m (List.mem_map.2 ⟨(m, u), hm, rfl⟩)
            exact h m u w hm (hk ▸ hw)
        · intro h m u w hm hw
          have hk := key m (List.mem_map.2 ⟨(m, u), hm, rfl⟩)
          exact h m u w (List.mem_cons_of_mem _ hm) (hk ▸ hw)

/-- the side condition is needed: a right argument that repeats a key with two values is refused even by the empty
    substitution (the matcher never produces one: `merge_nodup`) -/
theorem C09_merge_succeeds_iff_counterexample :
    merge [] [("_ŠČ0", Val.identity), ("_ŠČ0", Val.ty (.node "u8" [] []))] = none ∧
    (∀ n v w, (n, v) ∈ [("_ŠČ0", Val.identity), ("_ŠČ0", Val.ty (.node "u8" [] []))] → lookup [] n = some w → v = w) := by
  refine ⟨by decide +kernel, ?_⟩
  intro n v w _ h; simp [lookup] at h

/-- the entries of a successful `merge` are EXACTLY the entries of its arguments (as sets of pairs): nothing invented, nothing lost -/
theorem C09_merge_entries : ∀ (τ σ ρ : Subst), merge σ τ = some ρ → ∀ p, p ∈ ρ ↔ (p ∈ σ ∨ p ∈ τ) :=
  mem_merge

/-- hence a merged substitution is the identity (`Substitutions::is_eq`, the test behind "qualified-self types only match under
    the identity substitution") exactly when both parts are -/
theorem C09_merge_allIdentity (σ τ ρ : Subst) (h : merge σ τ = some ρ) :
    allIdentity ρ = (allIdentity σ && allIdentity τ) := by
  have he := C09_merge_entries τ σ ρ h
  rw [Bool.eq_iff_iff]
  simp only [allIdentity, Bool.and_eq_true, List.all_eq_true]
  constructor
  · intro hr
    exact ⟨fun p hp => hr p ((he p).2 (Or.inl hp)), fun p hp => hr p ((he p).2 (Or.inr hp))⟩
  · rintro ⟨h1, h2⟩ p hp
    rcases (he p).1 hp with hp | hp
    · exact h1 p hp
    · exact h2 p hp

/-- the default rule of the matcher (children pairwise, merged left to right): a `yes` answer is the LEAST substitution that
    extends the accumulator and every child's own answer — every child was matched, each answer is contained in the node's,
    and nothing else is.  Unconditional (all trees, no well-formedness), so this part of "exact first-order matching" holds
    also where `C09_sound_wf`'s side conditions do not. -/
theorem C09_children_answer_is_least : ∀ (as bs : List T) (acc : Subst) (fl : Bool) (ρ : Subst) (l : Bool),
    supL as bs acc fl = .yes ρ l →
    as.length = bs.length ∧ Ext acc ρ ∧
    (∀ p ∈ as.zip bs, ∃ σ f, supS p.1 (stripTop p.2) = .yes σ f ∧ Ext σ ρ) ∧
    (∀ ρ', Ext acc ρ' → (∀ p ∈ as.zip bs, ∀ σ f, supS p.1 (stripTop p.2) = .yes σ f → Ext σ ρ') → Ext ρ ρ')
  | [], bs, acc, fl, ρ, l, h => by
      obtain ⟨rfl, rfl, _⟩ := supL_nil_inv h
      exact ⟨rfl, Ext.refl _, by simp, fun ρ' h1 _ => h1⟩
  | a :: as, bs, acc, fl, ρ, l, h => by
      obtain ⟨b, bs, σ1, f, acc', rfl, h1, hm, h⟩ := supL_cons_inv h
      obtain ⟨hlen, hext, hkids, hleast⟩ := C09_children_answer_is_least as bs acc' (fl || f) ρ l h
      obtain ⟨m1, m2, m3⟩ := C09_merge_is_least_upper_bound acc σ1 acc' hm
      refine ⟨by simp [hlen], Ext.trans m1 hext, ?_, ?_⟩
      · intro p hp
        simp only [List.zip_cons_cons, List.mem_cons] at hp
        rcases hp with hp | hp
        · subst hp; exact ⟨σ1, f, h1, Ext.trans m2 hext⟩
        · exact hkids p hp
      · intro ρ' hacc hall
        apply hleast ρ'
        · exact m3 ρ' hacc (hall (a, b) (by simp) σ1 f h1)
        · intro p hp σ f' hs
          exact hall p (by simp only [List.zip_cons_cons, List.mem_cons]; exact Or.inr hp) σ f' hs

/-- "mismatching arity is never glossed over" at the default rule: child lists of different lengths never match, whatever the
    accumulated substitution (tuples, generic-argument lists, fn-pointer inputs, bound lists … all go through `supL`) -/
theorem C09_arity_mismatch_never_matches (as bs : List T) (acc : Subst) (fl : Bool) (hne : as.length ≠ bs.length) :
    ∀ ρ l, supL as bs acc fl ≠ .yes ρ l :=
  fun ρ l h => hne (C09_children_answer_is_least as bs acc fl ρ l h).1

/-- and a child that does not match (or panics) makes the whole node not match: no child is skipped -/
theorem C09_failing_child_fails_node (as bs : List T) (acc : Subst) (fl : Bool) (p : T × T) (hp : p ∈ as.zip bs)
    (hfail : ∀ σ f, supS p.1 (stripTop p.2) ≠ .yes σ f) : ∀ ρ l, supL as bs acc fl ≠ .yes ρ l := by
  intro ρ l h
  obtain ⟨σ, f, hs, _⟩ := (C09_children_answer_is_least as bs acc fl ρ l h).2.2.1 p hp
  exact hfail σ f hs

end DI

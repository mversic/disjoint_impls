/-
  C07 — deterministic expansion. Property theorems only.
  `Facts.lean` is regenerated from /repo/src on every run of the check, so the first three theorems are
  re-decided against the current source: introducing a hashed container or a read of ambient state breaks them.
-/
import DisjointImpls.Facts
import DisjointImpls.Lemmas.DetBasics
namespace DI

/-- every map/set type the crate's source mentions iterates in insertion (or key) order -/
theorem C07_all_containers_ordered :
    (Facts.containerKinds.all (fun p => kindOf p.1 == .ordered)) = true := by decide +kernel

/-- the crate's source reads no ambient state (environment, clocks, threads, randomness, addresses, files, globals) -/
theorem C07_no_ambient_reads : Facts.ambientReads = [] := by decide

/-- the crate's source calls no API that returns a per-process-seeded hash container without naming its type
    (itertools' `into_group_map`/`counts`/grouping maps, `hash_map::`/`hash_set::` paths, address-derived orderings) -/
theorem C07_no_hidden_hashed_containers : Facts.hashedApiCalls = [] := by decide

/-- iterating an ordered container does not depend on the process' hasher seed -/
theorem C07_iteration_seed_independent {α : Type} (perm : Nat → List α → List α) (k : ContainerKind)
    (hk : k = .ordered) (s₁ s₂ : Nat) (xs : List α) : iterate perm k s₁ xs = iterate perm k s₂ xs := by
  subst hk; rfl

/-- hence any computation that only iterates ordered containers is a function of its inputs alone:
    two processes (seeds) produce the same result -/
theorem C07_expansion_is_function_of_tokens {α β : Type} (perm : Nat → List α → List α) (step : β → List α → β)
    (cs : List (ContainerKind × List α)) (h : ∀ c ∈ cs, c.1 = .ordered) (s₁ s₂ : Nat) (init : β) :
    runWith perm s₁ step cs init = runWith perm s₂ step cs init :=
  runWith_congr perm step s₁ s₂ cs (fun c hc _ => by rw [C07_iteration_seed_independent perm c.1 (h c hc)]) init

/-- the hypothesis is needed: with a hashed container two seeds may disagree -/
theorem C07_hashed_counterexample :
    ∃ (perm : Nat → List Nat → List Nat) (s₁ s₂ : Nat) (xs : List Nat),
      iterate perm .hashed s₁ xs ≠ iterate perm .hashed s₂ xs :=
  ⟨fun s xs => if s = 0 then xs else xs.reverse, 0, 1, [1, 2], by decide⟩

/-- a container need not be ordered as long as every use of its iteration is insensitive to the
    order — the precise condition under which a `HashSet` used for membership tests, counting or an order-free fold leaves the
    expansion a function of the tokens.  Each iterated container is either ordered, or the consumer `step` gives the same
    result on every rearrangement of its contents (and the hasher only ever rearranges: `hperm`). -/
theorem C07_expansion_function_of_tokens_general {α β : Type} (perm : Nat → List α → List α)
    (hperm : ∀ s xs, (perm s xs).Perm xs) (step : β → List α → β)
    (cs : List (ContainerKind × List α))
    (h : ∀ c ∈ cs, c.1 = .ordered ∨ (∀ acc ys, ys.Perm c.2 → step acc ys = step acc c.2))
    (s₁ s₂ : Nat) (init : β) :
    runWith perm s₁ step cs init = runWith perm s₂ step cs init := by
  refine runWith_congr perm step s₁ s₂ cs (fun c hc acc => ?_) init
  obtain ⟨k, xs⟩ := c
  cases k with
  | ordered => rfl
  | hashed =>
    -- both seeds rearrange `xs`, and the consumer gives `step acc xs` on every rearrangement
    have hins := (h (.hashed, xs) hc).resolve_left nofun
    exact (hins acc _ (hperm s₁ xs)).trans (hins acc _ (hperm s₂ xs)).symm

/-- the ordered-only theorem is the special case in which no container is hashed -/
theorem C07_expansion_is_function_of_tokens_of_general {α β : Type} (perm : Nat → List α → List α)
    (hperm : ∀ s xs, (perm s xs).Perm xs) (step : β → List α → β)
    (cs : List (ContainerKind × List α)) (h : ∀ c ∈ cs, c.1 = .ordered) (s₁ s₂ : Nat) (init : β) :
    runWith perm s₁ step cs init = runWith perm s₂ step cs init :=
  C07_expansion_function_of_tokens_general perm hperm step cs (fun c hc => Or.inl (h c hc)) s₁ s₂ init

/-- order-insensitive consumers alone suffice, whatever the container kinds (membership tests, `len`, commutative folds) -/
theorem C07_order_insensitive_uses_are_deterministic {α β : Type} (perm : Nat → List α → List α)
    (hperm : ∀ s xs, (perm s xs).Perm xs) (step : β → List α → β)
    (hstep : ∀ acc xs ys, xs.Perm ys → step acc xs = step acc ys)
    (cs : List (ContainerKind × List α)) (s₁ s₂ : Nat) (init : β) :
    runWith perm s₁ step cs init = runWith perm s₂ step cs init :=
  C07_expansion_function_of_tokens_general perm hperm step cs
    (fun c _ => Or.inr (fun acc ys hys => hstep acc ys c.2 hys)) s₁ s₂ init

/-- membership is such a consumer: a set consulted only through `contains` never leaks its iteration order -/
theorem C07_membership_is_order_insensitive (a : Nat) (xs ys : List Nat) (h : xs.Perm ys) :
    xs.contains a = ys.contains a := by
  simp only [List.contains_eq_mem, h.mem_iff]

/-- the disjunction is exact: a hasher that only rearranges (a genuine permutation) still changes the result of an
    order-SENSITIVE consumer of a hashed container — e.g. emitting one generated item per element -/
theorem C07_order_sensitive_consumer_counterexample :
    ∃ (perm : Nat → List Nat → List Nat), (∀ s xs, (perm s xs).Perm xs) ∧
      ∃ (s₁ s₂ : Nat) (xs : List Nat),
        runWith perm s₁ (fun acc ys => acc ++ ys) [(.hashed, xs)] [] ≠
        runWith perm s₂ (fun acc ys => acc ++ ys) [(.hashed, xs)] [] := by
  refine ⟨fun s xs => if s = 0 then xs else xs.reverse, ?_, 0, 1, [1, 2], by decide⟩
  intro s xs
  by_cases hs : s = 0
  · simp [hs]
  · simp only [hs, if_false]; exact List.reverse_perm xs

/-- non-vacuity of the general theorem: one hashed set read only through `contains 2` meets its hypothesis on the
    containers -/
example :
    let step : List Nat → List Nat → List Nat := fun acc ys => if ys.contains 2 then acc ++ [2] else acc
    ∀ c ∈ [(ContainerKind.hashed, [1, 2, 3])],
      c.1 = .ordered ∨ (∀ acc ys, ys.Perm c.2 → step acc ys = step acc c.2) := by
  intro step c hc
  simp only [List.mem_singleton] at hc
  subst hc
  refine Or.inr (fun acc ys hys => ?_)
  simp only [step, C07_membership_is_order_insensitive 2 ys [1, 2, 3] hys]

end DI

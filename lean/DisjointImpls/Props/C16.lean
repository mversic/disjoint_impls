/-
  C16 — trait-argument fidelity: corollaries of the refinement theorems. The header tree `hdr` of a block / family
  is `ImplGroupId [trait path with its arguments, self type]`; a query is a ground header.
-/
import DisjointImpls.Lemmas.Refine
import DisjointImpls.Lemmas.ExpandItems
import DisjointImpls.Lemmas.HelperAlign
import DisjointImpls.Props.C01
namespace DI

/-- instantiation acts component-wise on a header -/
theorem inst_groupId (ρ : Subst) (tr s tr' s' : T)
    (h : inst ρ (.node "ImplGroupId" [] [tr, s]) = .node "ImplGroupId" [] [tr', s']) :
    inst ρ tr = tr' ∧ inst ρ s = s' := by
  rw [inst_other ρ (by rfl)] at h
  simp only [instL] at h
  injection h with _ _ h3
  injection h3 with h4 h5
  injection h5 with h6 _
  exact ⟨h4, h6⟩

/-- a selected member's header instantiates exactly to the query -/
theorem C16_exact_instantiation (W : World) (F : Family) (m : Member) (q : T) :
    genSel W F m q → ∃ ρ, wkB ρ m.blk = true ∧ inst ρ m.blk.hdr = q := by
  intro h
  obtain ⟨ρ, h0, h1, _⟩ := gen_sub_spec W F m q h
  exact ⟨ρ, h0, h1⟩

/-- trait arguments are matched exactly: a member `impl Tr<args> for S` selected for the query `Tr<args'> for S'`
    has `args` instantiating to `args'` and `S` to `S'` under one substitution -/
theorem C16_trait_args_exact (W : World) (F : Family) (m : Member) (tr s tr' s' : T)
    (hh : m.blk.hdr = .node "ImplGroupId" [] [tr, s]) :
    genSel W F m (.node "ImplGroupId" [] [tr', s']) → ∃ ρ, wkB ρ m.blk = true ∧ inst ρ tr = tr' ∧ inst ρ s = s' := by
  intro h
  obtain ⟨ρ, h0, h1⟩ := C16_exact_instantiation W F m _ h
  rw [hh] at h1
  exact ⟨ρ, h0, inst_groupId ρ tr s tr' s' h1⟩

/-- a query whose trait-argument part is the instance of the member's trait path under no substitution well-kinded for the
    block (`wkB`) is not selected, whatever its self type -/
theorem C16_other_trait_args_not_selected (W : World) (F : Family) (m : Member) (tr s tr' s' : T)
    (hh : m.blk.hdr = .node "ImplGroupId" [] [tr, s]) (hne : ∀ ρ, wkB ρ m.blk = true → inst ρ tr ≠ tr') :
    ¬ genSel W F m (.node "ImplGroupId" [] [tr', s']) := by
  intro h
  obtain ⟨ρ, h0, h1, _⟩ := C16_trait_args_exact W F m tr s tr' s' hh h
  exact hne ρ h0 h1

/-- independent instantiations: two families whose headers have no common instance never both answer a query -/
theorem C16_independent_instantiations (W : World) (F1 F2 : Family) (m1 m2 : Member) (q : T)
    (hd : ¬ ∃ τ1 τ2, wkF τ1 F1 = true ∧ wkF τ2 F2 = true ∧ inst τ1 F1.hdr = inst τ2 F2.hdr) :
    genSel W F1 m1 q → ¬ genSel W F2 m2 q := by
  rintro ⟨τ1, _, n1, e1, _⟩ ⟨τ2, _, n2, e2, _⟩
  exact hd ⟨τ1, τ2, n1, n2, e1.trans e2.symm⟩

/-- instantiation does not touch a leaf -/
theorem inst_leaf (σ : Subst) (k : String) (as : List String) : inst σ (.node k as []) = .node k as [] := by
  rw [inst_other σ (by unfold isGA; split <;> simp_all)]; simp [instL]

/-- non-vacuity: `impl Tr<u8> for T` and `impl Tr<u16> for T` — the headers have no common instance (under any two
    substitutions), so the two families are never selected for the same query; and a member for `Tr<u8>` is not
    selected for `Tr<u16>` -/
example :
    let tru8 : T := .node "Tr" [] [.node "u8" [] []]
    let tru16 : T := .node "Tr" [] [.node "u16" [] []]
    (¬ ∃ τ1 τ2 : Subst,
      inst τ1 (.node "ImplGroupId" [] [tru8, .tparam "_ŠČ0"]) = inst τ2 (.node "ImplGroupId" [] [tru16, .tparam "_ŠČ0"])) ∧
    (∀ ρ : Subst, inst ρ tru8 ≠ tru16) := by
  refine ⟨?_, ?_⟩
  · rintro ⟨τ1, τ2, h⟩
    rw [inst_other τ1 (by rfl), inst_other τ2 (by rfl)] at h
    simp only [instL, inst_other τ1 (k := "Tr") (by rfl), inst_other τ2 (k := "Tr") (by rfl), inst_leaf] at h
    simp at h
  · intro ρ h
    simp only [inst_other ρ (k := "Tr") (by rfl), instL, inst_leaf] at h
    simp at h

/-! ## The generators: trait arguments of the main impl and the replacement of the trait's parameters
  (`Lemmas/ExpandItems.lean`; model: `mainImplOfTrait`, `resolveMainTrait`, `zipTraitArgs`, `sbT` of `Expand.lean`) -/

/-- THE MAIN IMPL IMPLEMENTS THE TRAIT AT THE FAMILY'S ARGUMENTS. If `mainImplOfTrait tr idx g = .ok m` then the trait path of
    `m` is, node for node, the trait path `tp` of the family's first block — `Trait<args>` with its lifetime, type and const
    arguments unchanged — which for a well-formed family (`expandWF`, executable) is the trait path of the group id; and the
    helper reference `href` that the where-clause bounds `Self` by passes exactly: the lifetime arguments of `tp` (unchanged,
    in order), then one projection `<bounded as Trait>::Assoc` per dispatch key, then the remaining arguments of `tp`
    (unchanged, in order). -/
theorem C16_main_impl_trait_args (tr : T) (idx : Nat) (g : T × ABG × List Blk) (m : T)
    (hm : mainImplOfTrait tr idx g = .ok m) :
    ∃ tp href, implTraitPath (firstItem_inh g) = some tp ∧ XOK.traitPathOf m = some tp ∧ implTraitPath m = some tp ∧
      (expandWF g = true → XOK.kid g.1 0 = .node "Some" [] [tp]) ∧
      mainHref_inh m = some href ∧
      XOK.segArgs (XOK.lastSeg href) =
        (traitArgsOf_it tp).filter isLifetimeArg ++
        g.2.1.idents.map (fun kx => gaType (projection kx.1.1 kx.1.2 kx.2)) ++
        (traitArgsOf_it tp).filter (fun a => !isLifetimeArg a) := by
  obtain ⟨first, rest, tp, st, unsafety, lt, gt, wc, x0, params, items, tname, targs, finals, hg, hp, hs, hres, hlast, hf, rfl⟩ :=
    mainImplOfTrait_items_inv_it hm
  have hfirst := firstItem_cons_inh hg
  refine ⟨tp, _, by rw [hfirst]; exact hp, traitPathOf_impl_inh _ _ _ _ _ _ _, rfl, ?_,
    mainHref_main_it _ _ _ _ _ _ _ _ _ _ _ _, ?_⟩
  · intro hwf
    simp only [expandWF, Bool.and_eq_true, hg, beq_iff_eq] at hwf
    rw [hwf.1.2]
    simp [mkHdr, hp, hs, XOK.kid, XOK.kids]
  · exact helperRef_args_ha _ _ _

/-- WHAT `resolve_main_trait_params` DOES TO THE TRAIT'S ITEMS: `sbT am`, where the argument map `am` (`mainArgMap_it`,
    `zipTraitArgs`) pairs the trait's parameters with the family's trait arguments position by position. For every map `am`:
    (a) a lifetime that names a lifetime parameter becomes the argument lifetime, any other lifetime is kept;
    (b) a type parameter in type position becomes its argument;
    (c) a path starting with a type parameter, `U::Assoc…`, becomes `<arg>::Assoc…`, when the remaining segments mention no
        parameter of the map (`sbFreeL_it`);
    (d) a const parameter as a bare identifier in expression position becomes the WHOLE argument expression (fix 1001a0e),
        parenthesised unless it is a path, a literal, a block or a parenthesised expression;
    (e) every node that is not a lifetime, a type path or an expression path (and not an ignored child) is rebuilt around
        its rewritten children — nothing else happens anywhere;
    (f) NOTHING ELSE CHANGES: a tree that mentions no parameter of the map (`sbFree_it`, executable) is returned unchanged;
    (g) the map has exactly one entry per zipped (parameter, argument) pair — `min(#parameters, #arguments)` entries: a
        parameter beyond the last argument (an omitted default, finding D17) has no entry, so by (f) its occurrences stay;
    (h) a const parameter facing a type argument (a bare identifier `N` is a type to `syn`, finding D24) has no map at all
        (`unreachable!()`). -/
theorem C16_trait_param_replacement (am : ArgMap) :
    (∀ (as : List String) (x : String), sbT am (.node "Lifetime" as [.node "Ident" [x] []]) =
        some ((alookup am.lt x).getD (.node "Lifetime" as [.node "Ident" [x] []]))) ∧
    (∀ (x : String) (r : T), alookup am.ty x = some r → sbT am (mkTypeIdent x) = some r) ∧
    (∀ (as : List String) (x : String) (r s1 : T) (rest : List T), alookup am.ty x = some r →
        sbFreeL_it am (s1 :: rest) = true →
        sbT am (.node "Type::Path" as [tNone, pathNode noLead (seg x :: s1 :: rest)]) =
          some (.node "Type::Path" as [tSome (.node "QSelf" [] [r, .node "Atom" ["0"] [], tNone]), pathNode someLead (s1 :: rest)])) ∧
    (∀ (x : String) (e : T), alookup am.ty x = none → alookup am.co x = some e → sbT am (identExpr x) = some (exprOperand e)) ∧
    (∀ (k : String) (as : List String) (ks : List T), NodeOther k ks → sbT am (.node k as ks) = (sbL am ks).map (.node k as)) ∧
    (∀ t : T, sbFree_it am t = true → sbT am t = some t) ∧
    (∀ ps args : List T, zipTraitArgs ps args = some am →
        am.lt.length + am.ty.length + am.co.length = min ps.length args.length) ∧
    (∀ cp ta ps args : List T,
        zipTraitArgs (.node "GenericParam::Const" [] cp :: ps) (.node "GenericArgument::Type" [] ta :: args) = none) :=
  ⟨sbT_lifetime_it am, sbT_type_occurrence_it am, sbT_type_projection_it am, sbT_const_occurrence_it am,
   fun _ as _ h => sbT_of_other_it am as h, sbT_free_it am, fun ps args h => zipTraitArgs_size_it ps args am h,
   zipTraitArgs_const_vs_type_it⟩

/-- finding D17 in general: a parameter of the trait beyond the last argument of the family's trait path (an omitted
    default) whose name no parameter that does have an argument carries is not in the argument map, and its occurrences
    in type position are left as they are — the main impl then mentions a name it does not declare
    (`C16_omitted_default_counterexample`). The side condition is executable. -/
theorem C16_omitted_parameter_unresolved (ps args : List T) (am : ArgMap) (h : zipTraitArgs ps args = some am) (x : String)
    (hx : ((ps.take args.length).map paramIdent).contains (some x) = false) :
    am.has_it x = false ∧ sbT am (mkTypeIdent x) = some (mkTypeIdent x) := by
  have hno : am.has_it x = false := by
    cases hh : am.has_it x with
    | false => rfl
    | true =>
      have := zipTraitArgs_keys_it ps args am h x hh
      rw [← List.contains_iff_mem, hx] at this
      cases this
  refine ⟨hno, sbT_unmapped_type_it am x ?_⟩
  simp only [ArgMap.has_it, Bool.or_eq_false_iff] at hno
  cases hl : alookup am.ty x with
  | none => rfl
  | some r => rw [hl] at hno; simp at hno

section ParamExamples
open ExIt

/-- the argument map of the example `trait Kita<'a, U, const N: usize>` at `Kita<'_ŠČ0, Vec<_ŠČ1>, { 2 }>` -/
def exArgMap : ArgMap := ⟨[("a", ltNode "_ŠČ0")], [("U", Ex11.vecOf (.tparam "_ŠČ1"))], [("N", blockExpr "2")]⟩

/-- non-vacuity of `C16_main_impl_trait_args` and `C16_trait_param_replacement` on the example of `C01_items_example`
    (`trait Kita<'a, U, const N: usize>` implemented as `Kita<'x, Vec<T>, { 2 }>`): the generators succeed and the family is
    well-formed; the argument map of the family is `'a ↦ '_ŠČ0, U ↦ Vec<_ŠČ1>, N ↦ { 2 }`; the three items are resolved; the
    helper reference passes `'_ŠČ0` first, then one projection, then `Vec<_ŠČ1>` and `{ 2 }`; the hypotheses of (b), (d), (f)
    hold for `U`, `N` and the type `usize`, and `sbFree_it` is not vacuous (it rejects the trait's function item) -/
theorem C16_param_example : ExIt.run traitDef [memberA, memberB] (fun g _ _ m =>
    expandWF g &&
    (match implTraitPath (firstItem_inh g) with
     | some tp =>
        (match mainArgMap_it traitDef tp with
         | some am => am.lt == exArgMap.lt && am.ty == exArgMap.ty && am.co == exArgMap.co &&
             (sbL am (traitItemsOf_it traitDef)).isSome
         | none => false) &&
        (traitArgsOf_it tp).map isLifetimeArg == [true, false, false] &&
        ((mainHref_inh m).map (fun h => (XOK.segArgs (XOK.lastSeg h)).map isLifetimeArg)) == some [true, false, false, false] &&
        XOK.traitPathOf m == some tp
     | none => false) &&
    alookup exArgMap.ty "U" == some (Ex11.vecOf (.tparam "_ŠČ1")) && alookup exArgMap.ty "N" == none &&
    alookup exArgMap.co "N" == some (blockExpr "2") && sbFree_it exArgMap (tyS "usize") &&
    (traitItemsOf_it traitDef).map (sbFree_it exArgMap) == [true, true, false]) = true := by
  decide +kernel

/-- finding D17 (main_trait.rs `resolve_main_trait_params`, `zip` of parameters and arguments): a defaulted trait
    parameter whose argument is omitted stays unresolved. Witness: `trait Kita<U, V = u32> { fn f(&self, x: V); }` with the
    blocks `impl<T: Dispatch<Group = g>> Kita<T> for T { fn f(&self, x: u32) {} }` — the family is well-formed and the
    generators succeed; the argument map has one entry (`U`) and the side condition of
    `C16_omitted_parameter_unresolved` holds for `V`; the main impl implements `Kita<_ŠČ0>` and declares only `_ŠČ0`,
    but its function is `fn f(&self, x: V)`: the parameter type is still the trait's parameter `V`, which names nothing in
    the impl (rustc: cannot find type `V`). So "every occurrence of a trait parameter is replaced" holds only for
    parameters that have an argument (`C16_trait_param_replacement` (g)). -/
theorem C16_omitted_default_counterexample : ExIt.run d17Trait [d17Member "GroupA", d17Member "GroupB"] (fun g _ _ m =>
    g.2.2.length == 2 && expandWF g &&
    (match implTraitPath (firstItem_inh g) with
     | some tp => (match mainArgMap_it d17Trait tp with
         | some am => am.lt.isEmpty && am.ty.map (fun p => p.1) == ["U"] && am.co.isEmpty
         | none => false)
     | none => false) &&
    (traitParams_inh d17Trait).map pname_inh == ["U", "V"] &&
    (match implTraitPath (firstItem_inh g) with
     | some tp => !(((traitParamsOf_it d17Trait).take (traitArgsOf_it tp).length).map paramIdent).contains (some "V")
     | none => false) &&
    (genericsParams (XOK.kid m 3)).map pname_inh == ["_ŠČ0"] &&
    (implItems m).map (fun it => XOK.kid (XOK.kid it 3) 6) == [.node "List" [] [recv, typedArg "x" (tyS "V")]]) = true := by
  decide +kernel

/-- finding D24: a const trait parameter instantiated with a BARE const identifier. Witness:
    `trait Kita<const N: usize> { fn f(&self) -> [u8; N]; }` with the blocks
    `impl<T: Dispatch<Group = g>, const M: usize> Kita<M> for T { … }` — the front end forms the family (two members), the
    argument `M` is a type argument to `syn`, there is no argument map and `main_trait::generate` reaches `unreachable!()`:
    the model's main impl is `panic`. With the braced spelling `Kita<{ M }>` the same invocation expands, and the return
    type of `f` is `[u8; { _ŠČ0 }]` (the whole argument expression). -/
theorem C16_bare_const_argument_counterexample :
    (match parseGroups [d24Member "GroupA", d24Member "GroupB"] with
     | .ok (g :: _) => g.2.2.length == 2 && expandWF g &&
         (match implTraitPath (firstItem_inh g) with
          | some tp => (mainArgMap_it d24Trait tp).isNone
          | none => false) &&
         (match mainImplOfTrait d24Trait 0 g with | .panic => true | _ => false)
     | _ => false) = true ∧
    ExIt.run d24Trait [d24MemberBraced "GroupA", d24MemberBraced "GroupB"] (fun g _ _ m =>
      g.2.2.length == 2 && expandWF g &&
      (implItems m).map (fun it => XOK.kid (XOK.kid it 3) 8) ==
        [retTy (arrTy (tyS "u8") (.node "Expr::Block" [] [Ex11.attrs, Ex11.leaf "None", blockOf [stmtExpr (.eparam "_ŠČ0")]]))]) = true := by
  decide +kernel

end ParamExamples

/-! ## The helper trait's parameters and every use of the helper trait agree position by position and kind by kind
  (`Lemmas/HelperAlign.lean`; model: `helperGenerics`, `helperTraitOfTrait`, `helperImpl`, `helperImpls`, `helperRef`).

  Executable side conditions: `kindsMatch_ha ps args` (the arguments match the parameters kind by kind, position by
  position; arguments may be missing only for trailing parameters that have a default), `familyKindsMatch_ha tr g` (that, for
  the trait arguments of every member of the family), `keyNamesFresh_ha ps nkeys`, `genericsShaped_it`.
  `printedArgs_inh` is `syn`'s printer of an angle-bracketed argument list: lifetime arguments first, whatever their
  position in the tree. -/

/-- THE SHAPE OF THE HELPER TRAIT'S GENERICS (helper_trait.rs:61-92). For the definition's generics `<ps> where wc` and `nkeys`
    dispatch keys the helper trait's generics are `<lifetimes(ps), keys, others(ps)> where wc` with the `<`, `>` tokens and the
    where-clause kept, where
    * `keys` are exactly `nkeys` parameters, the `i`-th being `_ŠČ<len ps + i>: ?Sized` (a type parameter without default),
      pairwise differently named;
    * every parameter of `ps` occurs UNCHANGED (the same node: attributes, bounds, default) exactly once
      (`lifetimes(ps) ++ others(ps)` is a permutation of `ps`), and inside each of the two groups the order is the
      definition's (each group is a sublist of `ps`);
    * the key names clash with no type/const parameter of the definition IF AND ONLY IF `keyNamesFresh_ha ps nkeys`
      (no type/const parameter is spelled `_ŠČ<m>` with `len ps ≤ m < len ps + nkeys`); the clash is possible:
      `C16_key_name_clash_counterexample`. -/
theorem C16_helper_generics_shape (lt gt wc : T) (ps : List T) (nkeys : Nat) :
    helperGenerics (.node "Generics" [] [lt, .node "List" [] ps, gt, wc]) nkeys =
      .node "Generics" [] [lt, .node "List" [] (ps.filter isLifetimeParam ++ inhKeyParams_inh ps.length nkeys ++
        ps.filter (fun p => !isLifetimeParam p)), gt, wc] ∧
    (inhKeyParams_inh ps.length nkeys).length = nkeys ∧
    (∀ i, i < nkeys →
      (inhKeyParams_inh ps.length nkeys)[i]? = some (keyParam ("_ŠČ" ++ toString (ps.length + i)))) ∧
    (∀ k ∈ inhKeyParams_inh ps.length nkeys, paramKind_ha k = some .type ∧ paramDefault_ha k = none) ∧
    ((inhKeyParams_inh ps.length nkeys).map paramIdent).Nodup ∧
    (ps.filter isLifetimeParam).Sublist ps ∧ (ps.filter (fun p => !isLifetimeParam p)).Sublist ps ∧
    (ps.filter isLifetimeParam ++ ps.filter (fun p => !isLifetimeParam p)).Perm ps ∧
    (keyNamesFresh_ha ps nkeys = true ↔
      ∀ k ∈ inhKeyParams_inh ps.length nkeys, ∀ p ∈ ps.filter (fun p => !isLifetimeParam p), paramIdent k ≠ paramIdent p) :=
  ⟨rfl, keyParams_length_ha _ _, fun i hi => keyParams_get_ha _ _ i hi,
   fun _ hk => by
     obtain ⟨i, _, rfl⟩ := keyParams_mem_ha hk
     exact ⟨(keyParam_facts_ha _).1, (keyParam_facts_ha _).2.1⟩,
   keyParams_nodup_ha _ _, List.filter_sublist, List.filter_sublist, List.filter_append_perm _ _,
   keyNamesFresh_iff_ha ps nkeys⟩

/-- A HELPER IMPL MATCHES THE HELPER TRAIT'S PARAMETERS — AS PRINTED. For a helper impl `h` produced by `helperImpl` (trait
    mode) from a member whose trait path is `mp`, with `ua` the member's own trait arguments and `row.length = idents.length`
    (true for every row of a family, `payloads_row_length`):
    * IN THE TREE the helper impl's trait arguments are `row' ++ ua` (disjoint.rs:53-80 chains the row in front of ALL of the
      block's arguments, lifetimes included) — type arguments BEFORE lifetime arguments, which rustc would reject and which
      does NOT match the helper trait's parameter list (`C16_helper_impl_tree_order_counterexample`);
    * AS PRINTED by `syn` (`printedArgs_inh`: lifetimes first) they are `lifetimes(ua) ++ row' ++ others(ua)`; nothing in
      the macro re-orders them, the expansion is correct only through `syn`'s printer;
    * if `ua` matches the definition's parameters `ps` (`kindsMatch_ha ps ua`), the printed list matches the helper trait's
      parameter list `helperParams_it ps nkeys` kind by kind and position by position; the (parameter, argument) pairs are
      exactly the user's pairs with a lifetime parameter, then (`i`-th key parameter, `i`-th row entry), then the user's
      other pairs — every user argument meets the SAME parameter as in the definition; the `i`-th key parameter and the
      `i`-th row entry both sit at position `#lifetimes + i`; and the parameters left without an argument are exactly the
      definition's parameters the block left without an argument. -/
theorem C16_kinds_align_helper_impl {idx : Nat} {idents : List (BKey × String)} {row : List (Option T)} {member h : T}
    (ps : List T) (hh : helperImpl idx none idents row member = some h) (hrow : row.length = idents.length) :
    ∃ mp hp, implTraitPath member = some mp ∧ XOK.traitPathOf h = some hp ∧
      XOK.segArgs (XOK.lastSeg hp) = rowArgs idents row ++ traitArgsOf_it mp ∧
      printedArgs_inh (XOK.segArgs (XOK.lastSeg hp)) =
        (traitArgsOf_it mp).filter isLifetimeArg ++ rowArgs idents row ++ (traitArgsOf_it mp).filter (fun a => !isLifetimeArg a) ∧
      (kindsMatch_ha ps (traitArgsOf_it mp) = true →
        kindsMatch_ha (helperParams_it ps idents.length) (printedArgs_inh (XOK.segArgs (XOK.lastSeg hp))) = true ∧
        List.zip (helperParams_it ps idents.length) (printedArgs_inh (XOK.segArgs (XOK.lastSeg hp))) =
          (List.zip ps (traitArgsOf_it mp)).filter (fun pa => isLifetimeParam pa.1) ++
          List.zip (inhKeyParams_inh ps.length idents.length) (rowArgs idents row) ++
          (List.zip ps (traitArgsOf_it mp)).filter (fun pa => !isLifetimeParam pa.1) ∧
        (helperParams_it ps idents.length).drop (printedArgs_inh (XOK.segArgs (XOK.lastSeg hp))).length =
          ps.drop (traitArgsOf_it mp).length ∧
        (∀ i, i < idents.length →
          (helperParams_it ps idents.length)[(ps.filter isLifetimeParam).length + i]? =
            some (keyParam (genIndexedIdent (ps.length + i))) ∧
          (printedArgs_inh (XOK.segArgs (XOK.lastSeg hp)))[(ps.filter isLifetimeParam).length + i]? =
            (rowArgs idents row)[i]?)) :=
  helperImpl_aligned_ha ps hh hrow

/-- the `i`-th entry of the printed row is made from the `i`-th key and the `i`-th column of the member's row (the payload as
    written, or for a wildcard the projection of the `i`-th key): columns are not permuted -/
theorem C16_row_columns_in_key_order (idents : List (BKey × String)) (row : List (Option T)) (i : Nat)
    (h1 : i < idents.length) (h2 : i < row.length) :
    (rowArgs idents row)[i]? = some (match row[i] with
      | some p => gaType p
      | none => gaType (projection idents[i].1.1 idents[i].1.2 idents[i].2)) :=
  rowArgs_get_ha idents row i h1 h2

/-- THE MAIN IMPL'S HELPER REFERENCE MATCHES THE HELPER TRAIT'S PARAMETERS (main_trait.rs:184-209). If the block's trait
    arguments `ua` match the definition's parameters `ps`, the arguments of `helperRef name idents ua` — the lifetime arguments
    of `ua`, one projection per key, the other arguments of `ua`; already in printed order — match
    `helperParams_it ps nkeys` kind by kind and position by position, with the same pairs as for a helper impl (projections in
    place of the row); the `i`-th projection `<bounded_i as Trait_i>::Assoc_i` sits at the position of the `i`-th key parameter
    `_ŠČ<len ps + i>`; the parameters left without an argument are the definition's parameters the block left without one. -/
theorem C16_kinds_align_main_ref (name : String) (idents : List (BKey × String)) (ps ua : List T)
    (hk : kindsMatch_ha ps ua = true) :
    XOK.segArgs (XOK.lastSeg (helperRef name idents ua)) =
      ua.filter isLifetimeArg ++ idents.map (fun kx => gaType (projection kx.1.1 kx.1.2 kx.2)) ++
      ua.filter (fun a => !isLifetimeArg a) ∧
    printedArgs_inh (XOK.segArgs (XOK.lastSeg (helperRef name idents ua))) =
      XOK.segArgs (XOK.lastSeg (helperRef name idents ua)) ∧
    kindsMatch_ha (helperParams_it ps idents.length) (XOK.segArgs (XOK.lastSeg (helperRef name idents ua))) = true ∧
    List.zip (helperParams_it ps idents.length) (XOK.segArgs (XOK.lastSeg (helperRef name idents ua))) =
      (List.zip ps ua).filter (fun pa => isLifetimeParam pa.1) ++
      List.zip (inhKeyParams_inh ps.length idents.length) (idents.map (fun kx => gaType (projection kx.1.1 kx.1.2 kx.2))) ++
      (List.zip ps ua).filter (fun pa => !isLifetimeParam pa.1) ∧
    (helperParams_it ps idents.length).drop (XOK.segArgs (XOK.lastSeg (helperRef name idents ua))).length =
      ps.drop ua.length ∧
    (∀ (i : Nat) (hi : i < idents.length),
      (helperParams_it ps idents.length)[(ps.filter isLifetimeParam).length + i]? =
        some (keyParam (genIndexedIdent (ps.length + i))) ∧
      (XOK.segArgs (XOK.lastSeg (helperRef name idents ua)))[(ps.filter isLifetimeParam).length + i]? =
        some (gaType (projection idents[i].1.1 idents[i].1.2 idents[i].2))) := by
  obtain ⟨a1, a2, a3, a4⟩ := helperRef_aligned_ha name idents ps ua hk
  exact ⟨helperRef_args_ha name idents ua, by rw [helperRef_args_ha, printed_ref_ha], a1, a2, a3, a4⟩

/-- DEFAULTS ARE KEPT, OMITTED TRAILING ARGUMENTS STAY LEGAL. (a) every parameter of the definition is a parameter of the
    helper trait — the same node, hence with the same default; (b) the defaults of the helper trait are the defaults of the
    definition, in order; the key parameters have none; (c) the key parameters are inserted BEFORE the definition's type/const
    parameters, so "defaults are trailing" holds for the helper trait iff it holds for the definition; (d) arity: for
    arguments `ua` matching `ps` and any `nkeys` key arguments `R` (a row, the projections), the use
    `lifetimes(ua) ++ R ++ others(ua)` supplies exactly as many lifetimes as the helper trait declares, at most as many other
    arguments as it declares other parameters, and the parameters it omits are exactly the parameters of the definition that
    `ua` omits — each of which has a default. -/
theorem C16_helper_defaults_kept (ps : List T) (nkeys : Nat) :
    (∀ p ∈ ps, p ∈ helperParams_it ps nkeys) ∧
    (helperParams_it ps nkeys).filterMap paramDefault_ha = ps.filterMap paramDefault_ha ∧
    (∀ k ∈ inhKeyParams_inh ps.length nkeys, paramDefault_ha k = none) ∧
    defaultsTrailing_ha (helperParams_it ps nkeys) = defaultsTrailing_ha ps ∧
    (∀ (ua R : List T), kindsMatch_ha ps ua = true → R.length = nkeys → (∀ a ∈ R, argKind_ha a = some .type) →
      (ua.filter isLifetimeArg ++ R ++ ua.filter (fun a => !isLifetimeArg a)).length ≤ (helperParams_it ps nkeys).length ∧
      ((ua.filter isLifetimeArg ++ R ++ ua.filter (fun a => !isLifetimeArg a)).filter isLifetimeArg).length =
        ((helperParams_it ps nkeys).filter isLifetimeParam).length ∧
      ((ua.filter isLifetimeArg ++ R ++ ua.filter (fun a => !isLifetimeArg a)).filter (fun a => !isLifetimeArg a)).length ≤
        ((helperParams_it ps nkeys).filter (fun p => !isLifetimeParam p)).length ∧
      (helperParams_it ps nkeys).drop (ua.filter isLifetimeArg ++ R ++ ua.filter (fun a => !isLifetimeArg a)).length =
        ps.drop ua.length ∧
      ∀ p ∈ ps.drop ua.length, hasDefault_ha p = true) := by
  refine ⟨?_, helperParams_defaults_ha ps nkeys, ?_, defaultsTrailing_helper_ha ps nkeys, ?_⟩
  · intro p hp
    unfold helperParams_it
    cases hl : isLifetimeParam p with
    | true => simp [List.mem_filter, hp, hl]
    | false => simp [List.mem_filter, hp, hl]
  · intro k hk
    obtain ⟨i, _, rfl⟩ := keyParams_mem_ha hk
    exact (keyParam_facts_ha _).2.1
  · intro ua R hk hR hRk
    obtain ⟨a1, _, a3, _⟩ := align_helperParams_ha ps ua R nkeys hk hR hRk
    obtain ⟨b1, _, _⟩ := kindsMatch_spec_ha _ _ a1
    obtain ⟨_, c2, c3, _, _, _⟩ := kindsMatch_filter_ha _ _ a1
    obtain ⟨d1, _, _⟩ := kindsMatch_spec_ha _ _ c3
    exact ⟨b1, c2.symm, d1, a3, (kindsMatch_spec_ha _ _ hk).2.2⟩

/-- THE WHOLE FAMILY (trait mode). If the three generators succeed on a family `g` of the trait definition `tr` (whose
    generics have the shape `syn` produces) and every member's trait arguments match the definition's parameters
    (`familyKindsMatch_ha tr g`, executable), then the helper trait declares `helperParams_it (params of tr) nkeys`, every
    helper impl's trait arguments AS PRINTED match that declaration kind by kind and position by position, and so do the
    arguments of the main impl's helper reference (which are in printed order already). -/
theorem C16_kinds_align_family (tr : T) (idx : Nat) (g : T × ABG × List Blk) (ht : T) (hs : List T) (m : T)
    (hht : helperTraitOfTrait tr idx g.2.1.idents.length = some ht)
    (hhs : helperImpls idx g = some hs) (hm : mainImplOfTrait tr idx g = .ok m)
    (hgs : genericsShaped_it (XOK.kid tr 6) = true) (hk : familyKindsMatch_ha tr g = true) :
    traitParams_inh ht = helperParams_it (traitParamsOf_it tr) g.2.1.idents.length ∧
    (∀ h ∈ hs, ∃ hp, XOK.traitPathOf h = some hp ∧
      kindsMatch_ha (traitParams_inh ht) (printedArgs_inh (XOK.segArgs (XOK.lastSeg hp))) = true) ∧
    (∃ href, mainHref_inh m = some href ∧
      printedArgs_inh (XOK.segArgs (XOK.lastSeg href)) = XOK.segArgs (XOK.lastSeg href) ∧
      kindsMatch_ha (traitParams_inh ht) (XOK.segArgs (XOK.lastSeg href)) = true) :=
  family_aligned_ha hht hhs hm hgs hk

/-- `kindsMatch_ha` against the generator's own zip: whenever `zipTraitArgs` succeeds (it does whenever the main impl is
    generated), `kindsMatch_ha` only adds the arity conditions — no more arguments than parameters, a default for every
    parameter beyond the last argument -/
theorem C16_kindsMatch_of_zip (ps args : List T) (am : ArgMap) (hz : zipTraitArgs ps args = some am)
    (hle : args.length ≤ ps.length) (hd : (ps.drop args.length).all hasDefault_ha = true) : kindsMatch_ha ps args = true :=
  kindsMatch_of_zip_ha ps args am hz hle hd

/-- what `kindsMatch_ha` says, in plain terms (both directions) -/
theorem C16_kindsMatch_iff (ps args : List T) :
    kindsMatch_ha ps args = true ↔
      args.length ≤ ps.length ∧
      (∀ (i : Nat) (h1 : i < ps.length) (h2 : i < args.length),
          (paramKind_ha ps[i]).isSome = true ∧ paramKind_ha ps[i] = argKind_ha args[i]) ∧
      (∀ p ∈ ps.drop args.length, hasDefault_ha p = true) :=
  ⟨kindsMatch_spec_ha ps args, fun h => kindsMatch_of_spec_ha ps args h.1 h.2.1 h.2.2⟩

namespace ExAl
open Ex11 ExIt
/-! trees for the closed examples of the alignment theorems -/
def tyParamD (x : String) (bounds : List T) (d : T) : T :=
  .node "GenericParam::Type" [] [.node "TypeParam" [] [attrs, .node "Ident" [x] [], .node "Some" ["Colon"] [],
    .node "List" [] bounds, .node "Some" ["Eq"] [], .node "Some" [] [d]]]
def constParamD (x : String) (ty d : T) : T :=
  .node "GenericParam::Const" [] [.node "ConstParam" [] [attrs, .node "Ident" [x] [], ty, .node "Some" ["Eq"] [], .node "Some" [] [d]]]
/-- `'a, U: Clone = u32, const N: usize = 3` -/
def kitaPs : List T :=
  [ltParam "a", tyParamD "U" [traitBound (Ex11.path [Ex11.seg "Clone"])] (tyS "u32"), constParamD "N" (tyS "usize") (lit "3")]
def traitWith (ps : List T) : T :=
  .node "ItemTrait" [] [attrs, inh, leaf "None", leaf "None", leaf "None", .node "Ident" ["Kita"] [],
    .node "Generics" [] [leaf "Some", .node "List" [] ps, leaf "Some", leaf "None"],
    leaf "None", .node "List" [] [], .node "List" [] [tConst "C" (tyS "usize") (leaf "None")]]
/-- `trait Kita<'a, U: Clone = u32, const N: usize = 3> { const C: usize; }` -/
def kitaD : T := traitWith kitaPs
/-- `Other<Kind = k>` -/
def other (k : String) : T :=
  Ex11.path [.node "PathSegment" [] [.node "Ident" ["Other"] [], .node "PathArguments::AngleBracketed" [] [.node "Ign" [] [leaf "None"],
    .node "List" [] [.node "GenericArgument::AssocType" [] [.node "AssocType" [] [.node "Ident" ["Kind"] [], leaf "None", Ex11.tyPath [Ex11.seg k]]]]]]]
/-- `impl<'x, T: Dispatch<Group = g>, V: Other<Kind = k>> Kita<args> for T { const C: usize = 1; }` (two dispatch keys) -/
def mem (g k : String) (args : List T) : T :=
  memberOf [ltParam "x", tyParam "T" [traitBound (dispatch g)], tyParam "V" [traitBound (other k)]] args
    [iConst "C" (tyS "usize") (lit "1")]
/-- `'x, V` -/
def args2 : List T := [ltArg "x", tyArg (tyS "V")]
/-- `'x, V, 2` -/
def args3 : List T := [ltArg "x", tyArg (tyS "V"), constArg (lit "2")]
/-- the checks of the family example: hypotheses of `C16_kinds_align_family` and its conclusions, the kinds the helper
    trait declares, the TREE order of a helper impl's arguments, the omitted parameters -/
def familyCheck (ps : List T) (nArgs : Nat) (g : T × ABG × List Blk) (ht : T) (hs : List T) (m : T) : Bool :=
  g.2.1.idents.length == 2 && g.2.2.length == 2 && hs.length == 2 &&
  genericsShaped_it (XOK.kid (traitWith ps) 6) && familyKindsMatch_ha (traitWith ps) g && keyNamesFresh_ha ps 2 &&
  (traitParams_inh ht).map pname_inh == ["a", "_ŠČ3", "_ŠČ4", "U", "N"] &&
  (traitParams_inh ht).map paramKind_ha == [some .lifetime, some .type, some .type, some .type, some .const] &&
  (traitParams_inh ht).filterMap paramDefault_ha == [tyS "u32", lit "3"] && defaultsTrailing_ha (traitParams_inh ht) &&
  hs.all (fun h => match XOK.traitPathOf h with
    | some hp =>
        -- in the tree: the row first, then the block's arguments — type arguments before the lifetime
        ((XOK.segArgs (XOK.lastSeg hp)).map argKind_ha).take 3 == [some .type, some .type, some .lifetime] &&
        !kindsMatch_ha (traitParams_inh ht) (XOK.segArgs (XOK.lastSeg hp)) &&
        -- as printed: aligned
        ((printedArgs_inh (XOK.segArgs (XOK.lastSeg hp))).map argKind_ha).take 4 ==
          [some .lifetime, some .type, some .type, some .type] &&
        kindsMatch_ha (traitParams_inh ht) (printedArgs_inh (XOK.segArgs (XOK.lastSeg hp))) &&
        (printedArgs_inh (XOK.segArgs (XOK.lastSeg hp))).length == 2 + nArgs &&
        (traitParams_inh ht).drop (2 + nArgs) == ps.drop nArgs
    | none => false) &&
  (match mainHref_inh m with
   | some href => kindsMatch_ha (traitParams_inh ht) (XOK.segArgs (XOK.lastSeg href)) &&
       (XOK.segArgs (XOK.lastSeg href)).length == 2 + nArgs
   | none => false)
end ExAl

section AlignExamples
open Ex11 ExIt ExAl

/-- NON-VACUITY of `C16_kinds_align_family` / `C16_kinds_align_helper_impl` / `C16_kinds_align_main_ref` /
    `C16_helper_defaults_kept` / `C16_helper_generics_shape`, and the decided counterexample for the TREE order:
    `trait Kita<'a, U: Clone = u32, const N: usize = 3> { const C: usize; }` with two blocks
    `impl<'x, T: Dispatch<Group = g>, V: Other<Kind = k>> Kita<'x, V> for T` (two dispatch keys; `N` omitted): the three
    generators succeed, all hypotheses hold; the helper trait declares `<'a, _ŠČ3: ?Sized, _ŠČ4: ?Sized, U: Clone = u32,
    const N: usize = 3>` (kinds lifetime, type, type, type, const; defaults `u32`, `3` kept and trailing); each helper impl's
    arguments are `<P1, P2, 'x, V>` IN THE TREE — which does NOT match the declaration — and `<'x, P1, P2, V>` AS PRINTED,
    which does; the omitted parameter is the definition's `N`; the main reference `<'x, proj1, proj2, V>` matches.
    Replayed on the real macro: the expansion prints `_Kita0<'_ŠČ0, KA, GroupA, _ŠČ1>` and compiles. -/
theorem C16_align_example_omitted_default :
    ExIt.run kitaD [mem "GroupA" "KA" args2, mem "GroupB" "KB" args2] (familyCheck kitaPs 2) = true := by
  decide +kernel

/-- the same with all three arguments written, `Kita<'x, V, 2>`: nothing is omitted -/
theorem C16_align_example_all_arguments :
    ExIt.run kitaD [mem "GroupA" "KA" args3, mem "GroupB" "KB" args3] (familyCheck kitaPs 3) = true := by
  decide +kernel

/-- THE TREE ORDER IS NOT THE DECLARATION ORDER (why `printedArgs_inh` is in the statements): for the definition's parameters
    `'a, U = u32, N = 3`, one key and the block arguments `'x, V`, the helper impl's argument list as `helperImpl` builds it
    (`row' ++ ua` = `P, 'x, V`) does not match `helperParams_it` (`'a, _ŠČ3, U, N`), the printed list `'x, P, V` does. Not a
    defect of the expansion (rustc only sees the printed tokens), but the macro relies on `syn`'s printer for it. -/
theorem C16_helper_impl_tree_order_counterexample :
    kindsMatch_ha kitaPs args2 = true ∧
    kindsMatch_ha (helperParams_it kitaPs 1) ([tyArg (tyS "P")] ++ args2) = false ∧
    kindsMatch_ha (helperParams_it kitaPs 1) (printedArgs_inh ([tyArg (tyS "P")] ++ args2)) = true := by
  decide +kernel

/-- FINDING (reserved key-parameter name): `keyNamesFresh_ha` can fail. `trait Kita<_ŠČ1> { const C: usize; }` with the blocks
    `impl<T: Dispatch<Group = g>, X> Kita<X> for T` (one key, one parameter: the key parameter is `_ŠČ<1 + 0>`): the generators
    succeed and the arguments match the parameters, but the helper trait declares `<_ŠČ1: ?Sized, _ŠČ1>` — two parameters of
    one name (rustc: E0403, replayed on the real macro; with the parameter spelled `_ŠČ0` the invocation compiles). Only
    reachable when the user spells a trait parameter with the reserved prefix and the colliding number. -/
theorem C16_key_name_clash_counterexample :
    ExIt.run (traitWith [tyParam "_ŠČ1" []])
      [memberOf [tyParam "T" [traitBound (dispatch "GroupA")], tyParam "X" []] [tyArg (tyS "X")] [iConst "C" (tyS "usize") (lit "1")],
       memberOf [tyParam "T" [traitBound (dispatch "GroupB")], tyParam "X" []] [tyArg (tyS "X")] [iConst "C" (tyS "usize") (lit "1")]]
      (fun g ht _ _ => g.2.1.idents.length == 1 && familyKindsMatch_ha (traitWith [tyParam "_ŠČ1" []]) g &&
        !keyNamesFresh_ha [tyParam "_ŠČ1" []] 1 && keyNamesFresh_ha [tyParam "_ŠČ0" []] 1 &&
        (traitParams_inh ht).map paramIdent == [some "_ŠČ1", some "_ŠČ1"]) = true := by
  decide +kernel

/-- non-vacuity of `C16_kindsMatch_of_zip` and of the negative side of `kindsMatch_ha`: the zip succeeds and the arity
    conditions hold for `'x, V` against `'a, U = u32, N = 3`; a type argument in a lifetime position, a missing argument for a
    parameter without default and a surplus argument are rejected -/
example :
    (zipTraitArgs kitaPs args2).isSome = true ∧ args2.length ≤ kitaPs.length ∧
    (kitaPs.drop args2.length).all hasDefault_ha = true ∧
    kindsMatch_ha kitaPs [tyArg (tyS "V"), ltArg "x"] = false ∧
    kindsMatch_ha [ltParam "a", tyParam "U" []] [ltArg "x"] = false ∧
    kindsMatch_ha [ltParam "a"] [ltArg "x", tyArg (tyS "V")] = false := by
  decide +kernel

/-- a block that writes its trait arguments in the wrong order, `Kita<X, 'x>` for `trait Kita<'a, U>` (not legal Rust, but
    `syn` parses it): `kindsMatch_ha` fails and so does the generator's own zip — `main_trait::generate` reaches
    `unreachable!()` (replayed on the real macro: "proc macro panicked … internal error: entered unreachable code" instead of a
    diagnostic) -/
example :
    kindsMatch_ha [ltParam "a", tyParam "U" []] [tyArg (tyS "X"), ltArg "x"] = false ∧
    (zipTraitArgs [ltParam "a", tyParam "U" []] [tyArg (tyS "X"), ltArg "x"]).isNone = true := by
  decide +kernel

end AlignExamples

end DI

/-
  C11 — the grouping front end (`ImplGroups::parse`, model `Group.lean`): property theorems about an accepted
  grouping `parseGroups items = .ok groups`. Proofs are in `Lemmas/GroupLemmas.lean`, `Lemmas/RowsOwn.lean`,
  `Lemmas/EndToEndNested.lean` and `Lemmas/Acyclic.lean`.

  A group is `(id, abg, members)`: the family header, the dispatch keys with one row of bindings per member,
  and the member blocks. `parseEnv items` is the environment the search runs in (buckets by header and the
  generalisation pairs of `make_sets`).
-/
import DisjointImpls.Lemmas.GroupLemmas
import DisjointImpls.Lemmas.RowsOwn
import DisjointImpls.Lemmas.EndToEndNested
import DisjointImpls.Lemmas.Acyclic
namespace DI

/-! ## Part 1 — the candidate filter -/

/-- every family has at least one dispatch key -/
theorem C11_keys_nonempty (items : List T) (groups : Groups) (h : parseGroups items = .ok groups) :
    ∀ e ∈ groups, e.2.1.bounds ≠ [] := by
  intro e he
  obtain ⟨_, _, _, h1, _⟩ := parseGroups_group' h he (rowsAligned_inv _)
  exact h1

/-- the rows of a family are pairwise distinguishable: no member's row of payloads generalises another's -/
theorem C11_rows_distinguishable (items : List T) (groups : Groups) (h : parseGroups items = .ok groups) :
    ∀ e ∈ groups, e.2.1.isOverlapping = false ∧
      ∀ (i j : Nat) (a b : List (Option T)), i ≠ j → e.2.1.payloads[i]? = some a → e.2.1.payloads[j]? = some b →
        rowGeneralises a b = false := by
  intro e he
  obtain ⟨_, _, _, _, h2⟩ := parseGroups_group' h he (rowsAligned_inv _)
  exact ⟨h2, isOverlapping_false h2⟩

/-- every key that is kept has a binding in some member's row (`prune_non_assoc`) -/
theorem C11_every_key_has_a_binding (items : List T) (groups : Groups) (h : parseGroups items = .ok groups) :
    ∀ e ∈ groups, ∀ kr ∈ e.2.1.bounds, ∃ r ∈ kr.2, r ≠ [] := by
  intro e he kr hkr
  obtain ⟨e0, _, rfl, _, _⟩ := parseGroups_group' h he (rowsAligned_inv _)
  simp only [ABG.prune, List.mem_filter, List.any_eq_true, Bool.not_eq_true', List.isEmpty_eq_false_iff] at hkr
  exact hkr.2

/-! ## Part 2 — invariants of the search -/

/-- rows are aligned with members: every key of a family has exactly one row per member (row `i` belongs to
    member `i`) -/
theorem C11_rows_aligned (items : List T) (groups : Groups) (h : parseGroups items = .ok groups) :
    ∀ e ∈ groups, ∀ kr ∈ e.2.1.bounds, kr.2.length = e.2.2.length := by
  intro e he kr hkr
  obtain ⟨e0, h0, rfl, _, _⟩ := parseGroups_group' h he (rowsAligned_inv _)
  simp only [ABG.prune, List.mem_filter] at hkr
  exact h0 kr hkr.1

/-- every member's header is the family's header or one that `make_sets` recorded as generalised by it -/
theorem C11_members_generalised (items : List T) (groups : Groups) (h : parseGroups items = .ok groups) :
    ∀ e ∈ groups, ∀ b ∈ e.2.2,
      groupIdOf b.item = e.1 ∨ ∃ σ, (groupIdOf b.item, σ) ∈ (parseEnv items).subsets.get e.1 := by
  intro e he b hb
  obtain ⟨e0, h0, rfl, _, _⟩ :=
    parseGroups_group' h he (membersGeneralised_inv (parseEnv items) (mkBuckets_wf _))
  exact h0 b hb

/-- … hence the matcher answered yes: the member's header is an instance of the family's header
    (`C09_sound_wf` turns the answer into `erase (inst σ id) = erase (member header)`) -/
theorem C11_members_matched (items : List T) (groups : Groups) (h : parseGroups items = .ok groups) :
    ∀ e ∈ groups, ∀ b ∈ e.2.2, groupIdOf b.item = e.1 ∨ ∃ σ l, sup e.1 (groupIdOf b.item) = .yes σ l := by
  intro e he b hb
  rcases C11_members_generalised items groups h e he b hb with h1 | ⟨σ, hσ⟩
  · exact Or.inl h1
  · obtain ⟨_, l, hl⟩ := makeSets_subsets hσ
    exact Or.inr ⟨σ, l, hl⟩

/-- every member of every family is one of the input blocks (a block of some bucket) -/
theorem C11_members_from_buckets (items : List T) (groups : Groups) (h : parseGroups items = .ok groups) :
    ∀ e ∈ groups, ∀ b ∈ e.2.2, ∃ bk ∈ mkBuckets (items.map mkBlk), b ∈ bk.2 := by
  intro e he b hb
  obtain ⟨e0, h0, rfl, _, _⟩ := parseGroups_group' h he (membersFromBuckets_inv (parseEnv items))
  exact h0 b hb

/-- and sits in the bucket of its own header -/
theorem C11_buckets_by_header (items : List T) : ∀ bk ∈ mkBuckets (items.map mkBlk), ∀ b ∈ bk.2, groupIdOf b.item = bk.1 :=
  mkBuckets_wf _

/-- the general form: any per-group property established by `ABG.new` and preserved by `intersection` holds for
    every candidate the search returns from a root -/
theorem C11_search_invariant (env : Env) (GP : T × ABG × List Blk → Prop) (BP : T → Blk → Prop)
    (H : SearchInv env GP BP) (fuel : Nat) (r : T) (sup : Supersets) (cands : List Groups) (sup' : Supersets)
    (h : searchRec env fuel r (env.impls r) sup [] = .ok (cands, sup')) : ∀ g ∈ cands, ∀ e ∈ g, GP e :=
  search_root_inv H h

/-! ## Part 3 — partition -/

/-- executable form of "no header generalises another one": `make_sets` finds no pair -/
def noNesting (items : List T) : Bool := (msPairs ((mkBuckets (items.map mkBlk)).map (·.1))).isEmpty

theorem noNesting_iff {items : List T} :
    noNesting items = true ↔ msPairs ((mkBuckets (items.map mkBlk)).map (·.1)) = [] := List.isEmpty_iff

theorem noNesting_spec (items : List T) (h : noNesting items = true) : ∀ id, (parseEnv items).subsets.get id = [] :=
  no_subsets_of_msPairs_nil (noNesting_iff.1 h)

/-- every block is placed exactly once — proved for inputs without nested headers (no header generalises another
    one, so `unlock_subset_impl_groups` has nothing to unlock and every bucket is a root):
    the members of all families are a rearrangement of the blocks of all buckets.

    With nested headers the conclusion needs the counter discipline of `searchUnlock` — that across the
    backtracking alternatives every header is unlocked exactly once, when its superset counter reaches 0: Parts 4,
    4b and 8 (`C11_partition_of_trace`, `C11_partition_acyclic`, `C11_partition`). -/
theorem C11_partition_partial (items : List T) (groups : Groups) (h : parseGroups items = .ok groups)
    (hn : noNesting items = true) :
    (groups.flatMap (fun e => e.2.2)).Perm ((mkBuckets (items.map mkBlk)).flatMap (fun bk => bk.2)) :=
  parseGroups_partition_partial h (noNesting_spec items hn)

/-- the buckets hold the input blocks: for pairwise different block texts, every input block is in the bucket of
    its header and nothing else is -/
theorem C11_buckets_hold_blocks (items : List T) (hnd : ((items.map mkBlk).map (·.item)).Nodup) :
    ∀ bk ∈ mkBuckets (items.map mkBlk), bk.2 = (items.map mkBlk).filter (fun b => groupIdOf b.item == bk.1) :=
  (mkBuckets_char _ hnd).1

/-! ### Trees for the closed examples -/

namespace Ex11
def leaf (s : String) : T := .node s [] []
def attrs : T := .node "Ign" [] [.node "List" [] []]
def seg (x : String) : T := .node "PathSegment" [] [.node "Ident" [x] [], leaf "PathArguments::None"]
def path (segs : List T) : T := .node "Path" [] [.node "IgnL" [] [leaf "None"], .node "List" [] segs]
def tyPath (segs : List T) : T := .node "Type::Path" [] [leaf "None", path segs]
def tyParam (x : String) (bounds : List T) : T :=
  .node "GenericParam::Type" [] [.node "TypeParam" [] [attrs, .node "Ident" [x] [], leaf "None",
    .node "List" [] bounds, leaf "None", leaf "None"]]
def traitBound (p : T) : T :=
  .node "TypeParamBound::Trait" [] [.node "TraitBound" [] [leaf "None", leaf "TraitBoundModifier::None", leaf "None", p]]
/-- `Dispatch<Group = g>` -/
def dispatch (g : String) : T :=
  path [.node "PathSegment" [] [.node "Ident" ["Dispatch"] [], .node "PathArguments::AngleBracketed" [] [.node "Ign" [] [leaf "None"],
    .node "List" [] [.node "GenericArgument::AssocType" [] [.node "AssocType" [] [.node "Ident" ["Group"] [], leaf "None", tyPath [seg g]]]]]]]
def implOf (params : List T) (self : T) : T :=
  .node "ItemImpl" [] [attrs, leaf "None", leaf "None",
    .node "Generics" [] [leaf "Some", .node "List" [] params, leaf "Some", leaf "None"],
    .node "Some" [] [.node "Tuple" [] [leaf "None", path [seg "Kita"]]], self, .node "List" [] []]
/-- `impl<T: Dispatch<Group = g>> Kita for T {}` -/
def blockFor (g : String) : T := implOf [tyParam "T" [traitBound (dispatch g)]] (tyPath [seg "T"])
end Ex11



/-! ## Part 4 — partition with nested headers: reduced to the counters -/

/-- every block of every header the search processes is placed exactly once, in every accepted grouping:
    the members are a rearrangement of the blocks of the processed headers, `parseTrace items` — a function of
    the superset counters alone (`traceRec` / `traceUnlock` / `traceGo` mirror the search but only follow the
    counters). In particular the counters returned by all backtracking alternatives agree (`search_trace`), so
    taking those of the last successful alternative is harmless. -/
theorem C11_members_are_trace_blocks (items : List T) (groups : Groups) (h : parseGroups items = .ok groups) :
    ∃ tr, parseTrace items = some tr ∧
      (groups.flatMap (fun e => e.2.2)).Perm (tr.flatMap (parseEnv items).impls) :=
  parseGroups_trace h

/-- partition for inputs with nested headers, under the executable condition `traceCovers items`: the counters
    unlock every header exactly once (`parseTrace items` is a rearrangement of the bucket headers) -/
theorem C11_partition_of_trace (items : List T) (groups : Groups) (h : parseGroups items = .ok groups)
    (hc : traceCovers items = true) :
    (groups.flatMap (fun e => e.2.2)).Perm ((mkBuckets (items.map mkBlk)).flatMap (fun bk => bk.2)) :=
  parseGroups_partition_of_trace h hc

namespace Ex11
/-- `impl<T: Dispatch<Group = g>> Kita for self {}` -/
def blockSelf (g : String) (self : T) : T := implOf [tyParam "T" [traitBound (dispatch g)]] self
def paren (t : T) : T := .node "Type::Paren" [] [t]
/-- `Vec<x>` -/
def vecOf (x : T) : T := tyPath [.node "PathSegment" [] [.node "Ident" ["Vec"] [],
  .node "PathArguments::AngleBracketed" [] [.node "Ign" [] [leaf "None"], .node "List" [] [.node "GenericArgument::Type" [] [x]]]]]
def tT : T := tyPath [seg "T"]
end Ex11

section Defect
open Ex11

/-- regression witness for /repo commit 3e16a6b ("fix: impl group ids that generalise each other no longer wait on
    each other"): of two headers that generalise each other — they differ only by parentheses — the earlier one is
    the root, both blocks are placed in one family and the counters cover every header (before that commit each had a
    non-zero superset counter, neither was a root and the accepted grouping was EMPTY).
    `impl<T: Dispatch<Group = GroupA>> Kita for (T) {}`  +  `impl<T: Dispatch<Group = GroupB>> Kita for T {}` -/
theorem C11_partition_mutual_headers_pair :
    ∃ gs, parseGroups [blockSelf "GroupA" (paren tT), blockSelf "GroupB" tT] = .ok gs ∧
      (gs.map (fun (e : T × ABG × List Blk) => e.2.2.length) == [2] &&
       traceCovers [blockSelf "GroupA" (paren tT), blockSelf "GroupB" tT]) = true :=
  by decide +kernel

/-- regression witness for the same commit: two mutually generalising headers below a common generaliser; all three
    blocks are placed in one family (before it the two never reached counter 0 and two of three blocks were dropped).
    `… Kita for T {}`  +  `… Kita for Vec<T> {}`  +  `… Kita for (Vec<T>) {}` (three different `Group`s) -/
theorem C11_partition_mutual_headers_nested :
    ∃ gs, parseGroups [blockSelf "GroupA" tT, blockSelf "GroupB" (vecOf tT), blockSelf "GroupC" (paren (vecOf tT))] = .ok gs ∧
      (gs.map (fun (e : T × ABG × List Blk) => e.2.2.length) == [3] &&
       traceCovers [blockSelf "GroupA" tT, blockSelf "GroupB" (vecOf tT), blockSelf "GroupC" (paren (vecOf tT))]) = true :=
  by decide +kernel

/-- `traceCovers` holds on nested inputs without mutual generalisation: a chain `T ⊐ Vec<T>`, accepted with both
    blocks placed -/
example : traceCovers [blockSelf "GroupA" tT, blockSelf "GroupB" (vecOf tT)] = true ∧
    noNesting [blockSelf "GroupA" tT, blockSelf "GroupB" (vecOf tT)] = false := by decide +kernel
end Defect

/-! ## Part 4b — partition for nested headers, under executable acyclicity (Kahn's argument) -/

/-- if the generalisation relation recorded by `make_sets` between the bucket headers is acyclic (`acyclicB`:
    peeling off the headers without a remaining recorded generaliser `|headers|` times leaves nothing), the
    counters unlock every header exactly once -/
theorem C11_traceCovers_of_acyclic (items : List T) (groups : Groups) (h : parseGroups items = .ok groups)
    (ha : acyclicB items = true) : traceCovers items = true := by
  obtain ⟨tr, ht, _⟩ := parseGroups_trace h
  exact traceCovers_of_acyclic items tr ht ha

/-- the full partition statement for inputs with nested headers (chains, diamonds, …): every block is placed
    exactly once in every accepted grouping, provided the recorded header relation is acyclic -/
theorem C11_partition_acyclic (items : List T) (groups : Groups) (h : parseGroups items = .ok groups)
    (ha : acyclicB items = true) :
    (groups.flatMap (fun e => e.2.2)).Perm ((mkBuckets (items.map mkBlk)).flatMap (fun bk => bk.2)) :=
  parseGroups_partition_acyclic h ha

namespace Ex11
/-- `impl<T: Dispatch<Group = g>, U> Kita for self {}` -/
def blockSelf2 (g : String) (self : T) : T := implOf [tyParam "T" [traitBound (dispatch g)], tyParam "U" []] self
def tU : T := tyPath [seg "U"]
def tup (xs : List T) : T := .node "Type::Tuple" [] [.node "List" [] xs]
end Ex11

section Acyclic
open Ex11

/-- `acyclicB` holds on: a chain `T ⊐ Vec<T> ⊐ Vec<Vec<T>>`; the diamond
    `(T,U) ⊐ (Vec<T>,U), (T,Vec<U>) ⊐ (Vec<T>,Vec<U>)` in both input orders; a V-shape `(Vec<T>,U), (T,Vec<U>) ⊐
    (Vec<T>,Vec<U>)` with two roots; and the two mutual-header inputs of the repaired defect -/
theorem C11_acyclic_examples :
    acyclicB [blockSelf "GroupA" tT, blockSelf "GroupB" (vecOf tT), blockSelf "GroupC" (vecOf (vecOf tT))] = true ∧
    acyclicB [blockSelf2 "GroupA" (tup [tT, tU]), blockSelf2 "GroupB" (tup [vecOf tT, tU]),
      blockSelf2 "GroupC" (tup [tT, vecOf tU]), blockSelf2 "GroupD" (tup [vecOf tT, vecOf tU])] = true ∧
    acyclicB [blockSelf2 "GroupD" (tup [vecOf tT, vecOf tU]), blockSelf2 "GroupC" (tup [tT, vecOf tU]),
      blockSelf2 "GroupB" (tup [vecOf tT, tU]), blockSelf2 "GroupA" (tup [tT, tU])] = true ∧
    acyclicB [blockSelf2 "GroupB" (tup [vecOf tT, tU]), blockSelf2 "GroupC" (tup [tT, vecOf tU]),
      blockSelf2 "GroupD" (tup [vecOf tT, vecOf tU])] = true ∧
    acyclicB [blockSelf "GroupA" (paren tT), blockSelf "GroupB" tT] = true ∧
    acyclicB [blockSelf "GroupA" tT, blockSelf "GroupB" (vecOf tT), blockSelf "GroupC" (paren (vecOf tT))] = true := by
  decide +kernel

theorem diamond_accepted :
    ∃ gs, parseGroups [blockSelf2 "GroupA" (tup [tT, tU]), blockSelf2 "GroupB" (tup [vecOf tT, tU]),
      blockSelf2 "GroupC" (tup [tT, vecOf tU]), blockSelf2 "GroupD" (tup [vecOf tT, vecOf tU])] = .ok gs :=
  by
  refine Exists.imp (fun _ => And.left) (?_ : ∃ gs, _ ∧ true = true)
  decide +kernel

/-- the diamond is accepted, and by `C11_partition_acyclic` all four blocks are placed exactly once -/
example :
    let items := [blockSelf2 "GroupA" (tup [tT, tU]), blockSelf2 "GroupB" (tup [vecOf tT, tU]),
      blockSelf2 "GroupC" (tup [tT, vecOf tU]), blockSelf2 "GroupD" (tup [vecOf tT, vecOf tU])]
    ∃ gs, parseGroups items = .ok gs ∧
      (gs.flatMap (fun e => e.2.2)).Perm ((mkBuckets (items.map mkBlk)).flatMap (fun bk => bk.2)) := by
  intro items
  obtain ⟨gs, hgs⟩ := diamond_accepted
  exact ⟨gs, hgs, C11_partition_acyclic items gs hgs C11_acyclic_examples.2.1⟩
end Acyclic

/-! ## Part 5 — families with unrelated headers are independent -/

/-- without nested headers the grouping is computed bucket by bucket by the plain recursion `flatSearch`
    (no counters, no unlocking): `parseGroups` is `goFlat` over the buckets -/
theorem C11_flat (items : List T) (hn : noNesting items = true) :
    parseGroups items = goFlat (mkBuckets (items.map mkBlk)) [] :=
  parseGroups_flat items (noNesting_spec items hn)

/-- two lists of blocks with disjoint sets of headers, no header generalising another one: the grouping of the
    concatenation is the concatenation of the groupings (and it fails exactly when the first failing part fails) -/
theorem C11_independent (items1 items2 : List T)
    (hdisj : ∀ b1 ∈ items1.map mkBlk, ∀ b2 ∈ items2.map mkBlk, groupIdOf b1.item ≠ groupIdOf b2.item)
    (hn : noNesting (items1 ++ items2) = true) :
    parseGroups (items1 ++ items2) =
      (match parseGroups items1 with
       | .ok g1 => (parseGroups items2).prepend g1
       | r => r) :=
  parseGroups_independent items1 items2 hdisj (noNesting_iff.1 hn)

/-! ## Non-vacuity: the README example is accepted -/


/-- `impl<T: Dispatch<Group = GroupA>> Kita for T` and `… GroupB …`: accepted, one family with both blocks, one key,
    two rows — so the hypotheses of the theorems above are satisfiable -/
theorem C11_readme_example_accepted :
    ∃ gs, parseGroups [Ex11.blockFor "GroupA", Ex11.blockFor "GroupB"] = .ok gs ∧
      (gs.map (fun (e : T × ABG × List Blk) => (e.2.2.length, e.2.1.bounds.length, e.2.1.payloads.length)) == [(2, 1, 2)]) = true :=
  by decide +kernel

set_option maxRecDepth 1000000 in
/-- the README example has no nested headers, so `C11_partition_partial` applies to it -/
example : noNesting [Ex11.blockFor "GroupA", Ex11.blockFor "GroupB"] = true := by decide +kernel

/-! ## Part 6 — rows hold each member's own bindings (`Lemmas/RowsOwn.lean`)

  Vocabulary. `otherFold b` is the per-key fold of block `b`'s trait bounds (key ↦ row of bindings) that `intersection`
  computes; `ABG.new` computes the same fold for the founding member (`C11_first_member_fold`).
  `memberSubst env gid hdr` is the substitution with which `searchRec` lets a block with header `hdr` join the family
  `gid` (`C11_memberSubst_spec`). `reexpr env gid i b k'` lists the re-expressions of member `i`'s own key `k'` over
  the family's parameters: `[k']` for the founding member `i = 0`, `substituteBound σ k'` with `σ = memberSubst …` for
  a later one (`C11_reexpr_first`, `C11_reexpr_later`). `sameKey k1 k2` (executable): same bounded type and same
  dispatch key `keyOf` (C12) — the equivalence relation generated by the IndexMap look-up `keyEq`; it IS `keyEq`
  whenever the trait path has a dispatch key at all (`C11_sameKey_keyEq`). All theorems hold for every accepted input,
  no side conditions. -/

/-- `ABG.new` (founding member) stores, key by key, exactly the fold `otherFold` that `intersection` computes for a
    joining member, as one-row entries -/
theorem C11_first_member_fold (b : Blk) : (ABG.new b).bounds = (otherFold b).map (fun e => (e.1, [e.2])) :=
  new_eq_otherFold b

/-- which substitution `memberSubst` is: the first entry `make_sets` recorded for the pair (family header, member
    header), or — no entry, same header — the answer of the matcher on the header against itself -/
theorem C11_memberSubst_spec (env : Env) (gid hdr : T) (σ : Subst) (h : memberSubst env gid hdr = some σ) :
    (∃ e, (env.subsets.get gid).find? (fun e => e.1 == hdr) = some e ∧ e.2 = σ) ∨
    ((env.subsets.get gid).find? (fun e => e.1 == hdr) = none ∧ gid = hdr ∧ ∃ l, sup gid gid = .yes σ l) := by
  unfold memberSubst at h
  split at h
  · next e he => cases h; exact Or.inl ⟨e, he, rfl⟩
  · next he =>
    split at h
    · next hc =>
      have hc' := eq_of_beq hc
      subst hc'
      split at h
      · next σ' l hs => cases h; exact Or.inr ⟨he, rfl, l, hs⟩
      · cases h
    · cases h

theorem C11_reexpr_first (env : Env) (gid : T) (b : Blk) (k' : BKey) : reexpr env gid 0 b k' = [k'] := rfl

theorem C11_reexpr_later (env : Env) (gid : T) (i : Nat) (b : Blk) (k' : BKey) (σ : Subst) (hi : i ≠ 0)
    (h : memberSubst env gid (groupIdOf b.item) = some σ) :
    reexpr env gid i b k' = substituteBound σ k'.1 k'.2 := by
  simp [reexpr, hi, h]

/-- for the founding member the two descriptions agree whenever the header matches itself with identity bindings
    (`selfIdentity`, the usual case): re-expressing under the self-match substitution returns the key unchanged -/
theorem C11_reexpr_first_selfIdentity (env : Env) (gid : T) (b : Blk) (k' : BKey) (σ : Subst) (l : Bool)
    (hs : sup gid gid = .yes σ l) (hid : selfIdentity gid = true) :
    reexpr env gid 0 b k' = substituteBound σ k'.1 k'.2 := by
  have hσ : allIdentity σ = true := by
    unfold selfIdentity at hid; rw [hs] at hid; exact hid
  rw [substituteBound_identity σ hσ]; rfl

/-- `sameKey` is an equivalence relation, contains `keyEq`, and equals `keyEq` on keys whose trait path has a
    dispatch key (in particular on `wfPath` paths, C12) -/
theorem C11_sameKey_keyEq (a b c : BKey) :
    sameKey a a = true ∧ (sameKey a b = true → sameKey b a = true) ∧
    (sameKey a b = true → sameKey b c = true → sameKey a c = true) ∧
    (keyEq a b = true ↔ (sameKey a b = true ∧ (keyOf a.2).isSome = true)) ∧
    (wfPath a.2 = true → sameKey a b = true → keyEq a b = true) :=
  ⟨sameKey_refl a, sameKey_symm, sameKey_trans, keyEq_iff_sameKey a b, fun hw h => keyEq_of_sameKey_wf h hw⟩

/-- ROWS HOLD EACH MEMBER'S OWN BINDINGS. In every family of an accepted grouping, row `i` of every dispatch key
    `kr = (key, rows)` is the folded binding row of member `i` for one of ITS OWN bound keys `k'`
    (`(k', r) ∈ otherFold b`), and the family's key is — up to `sameKey` — one of the re-expressions of `k'` over the
    family's parameters under the substitution the search used for that member (`reexpr`; the key itself for the
    founding member). When two keys of one joining block are re-expressed to `keyEq` keys, `insertKey` keeps the row
    of the later one: `k'` is then that later key (hence `∃ k'`). -/
theorem C11_rows_own_bindings (items : List T) (groups : Groups) (h : parseGroups items = .ok groups) :
    ∀ e ∈ groups, ∀ kr ∈ e.2.1.bounds, ∀ (i : Nat) (b : Blk) (r : Row), e.2.2[i]? = some b → kr.2[i]? = some r →
      ∃ k', (k', r) ∈ otherFold b ∧ ∃ sk ∈ reexpr (parseEnv items) e.1 i b k', sameKey sk kr.1 = true := by
  intro e he kr hkr
  exact ((parseGroups_rowsOwn h he).2.2 kr hkr).2.1

/-- every dispatch key of every family of an accepted grouping has a dispatch key in the sense of C12 (`keyOf`):
    its trait path has a last segment with no, angle-bracketed or parenthesized arguments (`cmpPath`, `C12_key_defined`),
    so `TraitBound::eq` can compare it (a key that it cannot compare is never joined by a second member and, carrying no
    binding, is pruned) -/
theorem C11_keys_have_dispatch_key (items : List T) (groups : Groups) (h : parseGroups items = .ok groups) :
    ∀ e ∈ groups, ∀ kr ∈ e.2.1.bounds, (keyOf kr.1.2).isSome = true ∧ keyEq kr.1 kr.1 = true := by
  intro e he kr hkr
  have := parseGroups_keys_some h he kr hkr
  exact ⟨this, (keyEq_iff_sameKey kr.1 kr.1).2 ⟨sameKey_refl _, this⟩⟩

/-- … hence `C11_rows_own_bindings` holds with the IndexMap look-up equality `keyEq` itself -/
theorem C11_rows_own_bindings_keyEq (items : List T) (groups : Groups) (h : parseGroups items = .ok groups) :
    ∀ e ∈ groups, ∀ kr ∈ e.2.1.bounds,
      ∀ (i : Nat) (b : Blk) (r : Row), e.2.2[i]? = some b → kr.2[i]? = some r →
      ∃ k', (k', r) ∈ otherFold b ∧ ∃ sk ∈ reexpr (parseEnv items) e.1 i b k', keyEq sk kr.1 = true := by
  intro e he kr hkr i b r hb hr
  have hsome := (C11_keys_have_dispatch_key items groups h e he kr hkr).1
  obtain ⟨k', hk', sk, hsk, hs⟩ := C11_rows_own_bindings items groups h e he kr hkr i b r hb hr
  refine ⟨k', hk', sk, hsk, (keyEq_iff_sameKey sk kr.1).2 ⟨hs, ?_⟩⟩
  have : keyOf sk.2 = keyOf kr.1.2 := by
    simp only [sameKey, decide_eq_true_eq] at hs; exact hs.2
  rw [this]; exact hsome

/-- the stored key of every dispatch key entry is itself one of the re-expressions of an own key of some member
    (the last member that joined: `intersection` stores the joining member's re-expressed key) -/
theorem C11_stored_key_is_reexpression (items : List T) (groups : Groups) (h : parseGroups items = .ok groups) :
    ∀ e ∈ groups, ∀ kr ∈ e.2.1.bounds, ∃ (i : Nat) (b : Blk) (k' : BKey) (r : Row),
      e.2.2[i]? = some b ∧ (k', r) ∈ otherFold b ∧ kr.1 ∈ reexpr (parseEnv items) e.1 i b k' := by
  intro e he kr hkr
  exact ((parseGroups_rowsOwn h he).2.2 kr hkr).2.2

/-- which members a family has: at least one; the founding member has the family's header; for every later member
    the search had a substitution `σ` (recorded by `make_sets`, or the self-match), and its re-expressions are
    `substituteBound σ` -/
theorem C11_member_substitutions (items : List T) (groups : Groups) (h : parseGroups items = .ok groups) :
    ∀ e ∈ groups, e.2.2 ≠ [] ∧ ∀ (i : Nat) (b : Blk), e.2.2[i]? = some b →
      (i = 0 → groupIdOf b.item = e.1) ∧
      (i ≠ 0 → ∃ σ, memberSubst (parseEnv items) e.1 (groupIdOf b.item) = some σ ∧
        ∀ k', reexpr (parseEnv items) e.1 i b k' = substituteBound σ k'.1 k'.2) := by
  intro e he
  obtain ⟨h1, h2, _⟩ := parseGroups_rowsOwn h he
  refine ⟨h1, fun i b hb => ⟨fun hi => ?_, fun hi => ?_⟩⟩
  · have := h2 i b hb; rw [if_pos hi] at this; exact this
  · have := h2 i b hb
    rw [if_neg hi] at this
    obtain ⟨σ, hσ⟩ := Option.isSome_iff_exists.1 this
    exact ⟨σ, hσ, fun k' => C11_reexpr_later _ _ i b k' σ hi hσ⟩

/-- the complementary clause: the family dispatches only on keys that EVERY member bounds — every member has a row
    under every key, and it is its own -/
theorem C11_every_member_bounds_every_key (items : List T) (groups : Groups) (h : parseGroups items = .ok groups) :
    ∀ e ∈ groups, ∀ kr ∈ e.2.1.bounds, ∀ (i : Nat) (b : Blk), e.2.2[i]? = some b →
      ∃ r k', kr.2[i]? = some r ∧ (k', r) ∈ otherFold b ∧
        ∃ sk ∈ reexpr (parseEnv items) e.1 i b k', sameKey sk kr.1 = true := by
  intro e he kr hkr i b hb
  have hlen := C11_rows_aligned items groups h e he kr hkr
  have hi : i < kr.2.length := hlen ▸ (List.getElem?_eq_some_iff.1 hb).1
  have hr : kr.2[i]? = some kr.2[i] := List.getElem?_eq_getElem hi
  obtain ⟨k', hk', hsk⟩ := C11_rows_own_bindings items groups h e he kr hkr i b _ hb hr
  exact ⟨_, k', hr, hk', hsk⟩

/-- wildcards: the payload of member `i` under the key / associated type `(k, a)` of the family (`ABG.payloads`,
    `ABG.idents`) is what the member's own folded row `r` — for one of its own keys re-expressed to `k` — binds `a`
    to; so it is a wildcard (`none`) EXACTLY when that own row has no binding for `a` (`rowLookup r a = none`) -/
theorem C11_payload_is_own_binding (items : List T) (groups : Groups) (h : parseGroups items = .ok groups) :
    ∀ e ∈ groups, ∀ (i j : Nat) (ps : List (Option T)) (k : BKey) (a : String) (b : Blk),
      e.2.1.payloads[i]? = some ps → e.2.1.idents[j]? = some (k, a) → e.2.2[i]? = some b →
      ∃ k' r, (k', r) ∈ otherFold b ∧ (∃ sk ∈ reexpr (parseEnv items) e.1 i b k', keyEq sk k = true) ∧
        ps[j]? = some (rowLookup r a) := by
  intro e he i j ps k a b hp hx hb
  obtain ⟨rows, hrows⟩ := idents_mem (List.mem_of_getElem? hx)
  have hsome := parseGroups_keys_some h he (k, rows) hrows
  obtain ⟨entry, hent, hcase⟩ := rowsOwn_payload (parseGroups_rowsOwn h he) hp hx hb
  rcases hcase with ⟨hnone, _⟩ | ⟨k', r, hk', ⟨sk, hsk, hs⟩, hentry⟩
  · simp only at hsome; rw [hsome] at hnone; cases hnone
  · refine ⟨k', r, hk', ⟨sk, hsk, (keyEq_iff_sameKey sk k).2 ⟨hs, ?_⟩⟩, by rw [hent, hentry]⟩
    have : keyOf sk.2 = keyOf k.2 := by
      simp only [sameKey, decide_eq_true_eq] at hs; exact hs.2
    rw [this]; exact hsome

/-- every binding of a member's folded row is a binding the user wrote in one of that block's trait bounds with the
    same dispatch key, and the keys of the fold are keys of the block's bounds: the rows contain nothing but the
    member's own bindings -/
theorem C11_fold_is_own (b : Blk) : ∀ e ∈ otherFold b,
    (∃ rb ∈ b.raw, e.1 = (rb.bounded, rb.tr)) ∧
    ∀ a p, rowLookup e.2 a = some p → ∃ rb ∈ b.raw, (a, p) ∈ rb.binds ∧ sameKey (rb.bounded, rb.tr) e.1 = true :=
  otherFold_spec b

namespace Ex11
/-- an impl with a where-clause -/
def implW (params : List T) (preds : List T) (self : T) : T :=
  .node "ItemImpl" [] [attrs, leaf "None", leaf "None",
    .node "Generics" [] [leaf "Some", .node "List" [] params, leaf "Some",
      .node "Some" [] [.node "WhereClause" [] [.node "List" [] preds]]],
    .node "Some" [] [.node "Tuple" [] [leaf "None", path [seg "Kita"]]], self, .node "List" [] []]
/-- `bounded: bs` -/
def pred (bounded : T) (bs : List T) : T :=
  .node "WherePredicate::Type" [] [.node "PredicateType" [] [leaf "None", bounded, .node "List" [] bs]]
/-- `impl<T: Dispatch<Group = GroupC>> Kita for T {}`  +
    `impl<T> Kita for Vec<T> where T: Dispatch<Group = GroupA>, Vec<T>: Dispatch<Group = GroupB> {}` -/
def itemsCollide : List T := [blockSelf "GroupC" tT,
  implW [tyParam "T" []] [pred tT [traitBound (dispatch "GroupA")], pred (vecOf tT) [traitBound (dispatch "GroupB")]] (vecOf tT)]
end Ex11

/-- the second member (index 1) has two own keys, not `keyEq`, both re-expressed to a key of the family, and its row
    under that key is the fold of the second of them only -/
def rowCollision (items : List T) (gs : Groups) : Bool :=
  gs.any (fun (e : T × ABG × List Blk) => e.2.1.bounds.any (fun (kr : BKey × List Row) =>
    match e.2.2[1]?, kr.2[1]? with
    | some b, some r =>
      (otherFold b).any (fun (x1 : BKey × Row) => (otherFold b).any (fun (x2 : BKey × Row) =>
        !keyEq x1.1 x2.1 && x1.2 != r && x2.2 == r &&
        (reexpr (parseEnv items) e.1 1 b x1.1).any (fun sk => keyEq sk kr.1) &&
        (reexpr (parseEnv items) e.1 1 b x2.1).any (fun sk => keyEq sk kr.1)))
    | _, _ => false))

/-- the `∃ k'` of `C11_rows_own_bindings` cannot be strengthened to "for every own key `k'` of the member whose
    re-expression is the family's key, row `i` is the fold of `k'`": two different own keys of one joining member can be
    re-expressed to the same key of the family, and `insertKey` then keeps the row of the later one only.
    Witness (accepted, one family, two members): in `impl<T> Kita for Vec<T> where T: Dispatch<Group = GroupA>,
    Vec<T>: Dispatch<Group = GroupB>` joining the family of `impl<T: Dispatch<Group = GroupC>> Kita for T` under
    `σ = {T ↦ Vec<T>}`, the bound on `Vec<T>` is re-expressed to `T: Dispatch` (correct) and the bound on `T` — which is
    outside the image of `σ` — is left as `T: Dispatch` too (finding D4, `C10_roundtrip_counterexample_untouched`); the
    member's row is `Group = GroupB`, the binding `Group = GroupA` takes no part in the dispatch. -/
theorem C11_rows_own_uniqueness_counterexample :
    ∃ gs, parseGroups Ex11.itemsCollide = .ok gs ∧
      (gs.map (fun (e : T × ABG × List Blk) => (e.2.2.length, e.2.1.bounds.map (fun kr => kr.2.length))) == [(2, [2])] &&
       rowCollision Ex11.itemsCollide gs) = true :=
  by decide +kernel

section RowsOwnExamples
open Ex11

/-- executable form of the conclusion of `C11_rows_own_bindings` (for the examples, and for the harness) -/
def rowsOwnB (items : List T) (groups : Groups) : Bool :=
  groups.all (fun e => e.2.1.bounds.all (fun kr => (List.range e.2.2.length).all (fun i =>
    match e.2.2[i]?, kr.2[i]? with
    | some b, some r => (otherFold b).any (fun kr' => kr'.2 == r &&
        (reexpr (parseEnv items) e.1 i b kr'.1).any (fun sk => sameKey sk kr.1))
    | _, _ => false)))

/-- non-vacuity: the README pair (same header: the second member joins through the self-match) and a nested pair
    `… for T` / `… for Vec<T>` (the second member joins through the substitution `make_sets` recorded) are accepted
    as one family with two members and one key with two rows, and the conclusion — evaluated — holds with both
    members' rows present -/
theorem C11_rows_own_examples :
    (match parseGroups [blockFor "GroupA", blockFor "GroupB"] with
     | .ok gs => gs.map (fun (e : T × ABG × List Blk) => (e.2.2.length, e.2.1.bounds.map (fun kr => kr.2.length))) == [(2, [2])] &&
         rowsOwnB [blockFor "GroupA", blockFor "GroupB"] gs
     | _ => false) = true ∧
    (match parseGroups [blockSelf "GroupA" tT, blockSelf "GroupB" (vecOf tT)] with
     | .ok gs => gs.map (fun (e : T × ABG × List Blk) => (e.2.2.length, e.2.1.bounds.map (fun kr => kr.2.length))) == [(2, [2])] &&
         rowsOwnB [blockSelf "GroupA" tT, blockSelf "GroupB" (vecOf tT)] gs &&
         gs.all (fun e => e.2.2.all (fun b => groupIdOf b.item == e.1 ||
           ((parseEnv [blockSelf "GroupA" tT, blockSelf "GroupB" (vecOf tT)]).subsets.get e.1).any (fun p => p.1 == groupIdOf b.item)))
     | _ => false) = true := by
  decide +kernel
end RowsOwnExamples

/-! ## Part 7 — the substitution of the search is the matcher's answer; the family's keys instantiate to the members' own keys
  (`Lemmas/EndToEndNested.lean`) -/

/-- in the environment of `parseGroups`, the substitution with which the search lets a block with header `hdr` join the
    family `gid` (`memberSubst`: the entry `make_sets` recorded, or the self-match) is the answer of the matcher on the two
    headers — the substitution `Bounds.mkMember` recomputes for the refinement. No side condition. -/
theorem C11_memberSubst_is_matcher_answer (items : List T) (gid hdr : T) (σ : Subst)
    (h : memberSubst (parseEnv items) gid hdr = some σ) : ∃ l, sup gid hdr = .yes σ l :=
  memberSubst_sup_nst h

/-- ROWS ARE THE ROWS OF INSTANCES OF THE FAMILY'S KEYS. In a family of an accepted grouping that passes the executable check
    `nestedGroupOK` (Lemmas/EndToEndNested.lean, described in Props/C02.lean: exact header instance, founding member
    identity, `untouched` — the D4 condition — and `instCommOK_nst` for the own keys re-expressed to family keys,
    well-formed paths, leading `::`, no `?Trait`), row `i` of every dispatch key `kr` is the folded binding row of member `i`
    for an own key `k'` that IS the instance of the family's key under the member's substitution `θ = memberTheta_nst …`
    (the matcher's answer): the bounded type exactly, the trait path up to `normTr`. Without the check this is false
    (finding D4: `C02_end_to_end_memberOK_counterexample_D4`). -/
theorem C11_rows_are_instances (items : List T) (groups : Groups) (h : parseGroups items = .ok groups) :
    ∀ e ∈ groups, nestedGroupOK (parseEnv items) e = true →
      ∀ kr ∈ e.2.1.bounds, ∀ (i : Nat) (b : Blk) (r : Row), e.2.2[i]? = some b → kr.2[i]? = some r →
        ∃ k', (k', r) ∈ otherFold b ∧ inst (memberTheta_nst e.1 b) kr.1.1 = k'.1 ∧
          inst (memberTheta_nst e.1 b) (normTr kr.1.2) = normTr k'.2 := by
  intro e he hok kr hkr i b r hb hr
  obtain ⟨k', hk', sk, hsk, hs⟩ := C11_rows_own_bindings items groups h e he kr hkr i b r hb hr
  exact ⟨k', hk', nested_key_instance h he hok hb (k := kr.1) (rows := kr.2) hkr hk' hsk hs⟩

section RowsInstances
open Ex11

/-- non-vacuity: the nested pair `impl<T: Dispatch<Group = GroupA>> Kita for T` /
    `impl<T> Kita for Vec<T> where Vec<T>: Dispatch<Group = GroupB>` is accepted as one family with two members whose group
    passes `nestedGroupOK`, and the second member's substitution is not the identity -/
example :
    let items := [blockSelf "GroupA" tT, implW [tyParam "T" []] [pred (vecOf tT) [traitBound (dispatch "GroupB")]] (vecOf tT)]
    (match parseGroups items with
     | .ok gs => gs.map (fun (e : T × ABG × List Blk) => (e.2.2.length, e.2.1.bounds.map (fun kr => kr.2.length))) == [(2, [2])] &&
         gs.all (fun e => nestedGroupOK (parseEnv items) e &&
           e.2.2.any (fun b => !allIdentity (memberTheta_nst e.1 b)))
     | _ => false) = true := by decide +kernel
end RowsInstances

/-! ## Part 8 — acyclicity from the shape of the headers: the partition statement without a hypothesis on the relation

`headersWF items` (executable, `Lemmas/Acyclic.lean: headersWFIds`): every bucket header `g` satisfies the side
conditions of the transitivity theorem `C09_trans` — `okT_tr g` (no lenient / panicking kind, no `'_`, well-shaped
generic arguments) and `presInj_tr g` (no type spelled in two ways inside `g`) — and whenever a header `g1`
generalises a header `g2`, the ignored children of `g1` face ignored children of `g2` (`faces_tr g1 (stripTop g2)`;
decoded trees of one syntactic category always do, up to a leading `::`). Then "generalises" is transitive on the
headers (`C11_headers_transitive`), the relation recorded by `make_sets` lies inside a strict order (among mutually
generalising headers only the earlier one is recorded as the generaliser, lib.rs:1022-1031), and Kahn's iteration
`acyclicB` succeeds. -/

/-- the executable per-input condition on the bucket headers -/
def headersWF (items : List T) : Bool := headersWFIds ((mkBuckets (items.map mkBlk)).map (·.1))

/-- the stronger, purely shape-based variant: the ignored children face each other for EVERY ordered pair of headers,
    whether or not one generalises the other -/
def headersWFStrict (items : List T) : Bool :=
  let ids := (mkBuckets (items.map mkBlk)).map (·.1)
  ids.all (fun g => okT_tr g && presInj_tr g) && ids.all (fun g1 => ids.all (fun g2 => faces_tr g1 (stripTop g2)))

theorem C11_headersWF_of_strict (items : List T) (h : headersWFStrict items = true) : headersWF items = true := by
  simp only [headersWFStrict, headersWF, headersWFIds, Bool.and_eq_true, List.all_eq_true, Bool.or_eq_true] at h ⊢
  exact ⟨h.1, fun g1 h1 g2 h2 => Or.inr (h.2 g1 h1 g2 h2)⟩

/-- on well-formed headers "the matcher answers yes" is transitive -/
theorem C11_headers_transitive (items : List T) (hw : headersWF items = true) :
    ∀ a ∈ (mkBuckets (items.map mkBlk)).map (·.1), ∀ b ∈ (mkBuckets (items.map mkBlk)).map (·.1),
    ∀ c ∈ (mkBuckets (items.map mkBlk)).map (·.1), supYes a b = true → supYes b c = true → supYes a c = true :=
  transOn_of_headersWF_tr hw

/-- ACYCLICITY: for well-formed headers the generalisation relation recorded by `make_sets` is acyclic -/
theorem C11_acyclic_of_headersWF (items : List T) (hw : headersWF items = true) : acyclicB items = true :=
  acyclicIds_of_headersWF_tr (mkBuckets_ids_nodup _) hw

/-- PARTITION: every block is placed exactly once in every accepted grouping — the members of all families are a
    rearrangement of the blocks of all buckets — for inputs whose headers are well-formed (`headersWF`, a condition on
    the shape of the headers; nothing is assumed about the generalisation relation among them) -/
theorem C11_partition (items : List T) (groups : Groups) (h : parseGroups items = .ok groups)
    (hw : headersWF items = true) :
    (groups.flatMap (fun e => e.2.2)).Perm ((mkBuckets (items.map mkBlk)).flatMap (fun bk => bk.2)) :=
  C11_partition_acyclic items groups h (C11_acyclic_of_headersWF items hw)

/-- … and the counters unlock every header exactly once -/
theorem C11_traceCovers_of_headersWF (items : List T) (groups : Groups) (h : parseGroups items = .ok groups)
    (hw : headersWF items = true) : traceCovers items = true :=
  C11_traceCovers_of_acyclic items groups h (C11_acyclic_of_headersWF items hw)

section HeadersWF
open Ex11

/-- `headersWF` (even `headersWFStrict`) holds on: the chain `T ⊐ Vec<T> ⊐ Vec<Vec<T>>`; the diamond
    `(T,U) ⊐ (Vec<T>,U), (T,Vec<U>) ⊐ (Vec<T>,Vec<U>)`; the twin headers `(T)` / `T`; and `T ⊐ Vec<T>, (Vec<T>)` -/
theorem C11_headersWF_examples :
    headersWFStrict [blockSelf "GroupA" tT, blockSelf "GroupB" (vecOf tT), blockSelf "GroupC" (vecOf (vecOf tT))] = true ∧
    headersWFStrict [blockSelf2 "GroupA" (tup [tT, tU]), blockSelf2 "GroupB" (tup [vecOf tT, tU]),
      blockSelf2 "GroupC" (tup [tT, vecOf tU]), blockSelf2 "GroupD" (tup [vecOf tT, vecOf tU])] = true ∧
    headersWFStrict [blockSelf "GroupA" (paren tT), blockSelf "GroupB" tT] = true ∧
    headersWFStrict [blockSelf "GroupA" tT, blockSelf "GroupB" (vecOf tT), blockSelf "GroupC" (paren (vecOf tT))] = true := by
  decide +kernel

/-- the diamond is accepted and, by `C11_partition`, all four blocks are placed exactly once -/
example :
    let items := [blockSelf2 "GroupA" (tup [tT, tU]), blockSelf2 "GroupB" (tup [vecOf tT, tU]),
      blockSelf2 "GroupC" (tup [tT, vecOf tU]), blockSelf2 "GroupD" (tup [vecOf tT, vecOf tU])]
    ∃ gs, parseGroups items = .ok gs ∧
      (gs.flatMap (fun e => e.2.2)).Perm ((mkBuckets (items.map mkBlk)).flatMap (fun bk => bk.2)) := by
  intro items
  obtain ⟨gs, hgs⟩ := diamond_accepted
  exact ⟨gs, hgs, C11_partition items gs hgs (C11_headersWF_of_strict _ C11_headersWF_examples.2.1)⟩

/-- the twin headers `(T)` / `T` (they generalise each other): accepted, both blocks in one family -/
example :
    let items := [blockSelf "GroupA" (paren tT), blockSelf "GroupB" tT]
    ∃ gs, parseGroups items = .ok gs ∧
      (gs.flatMap (fun e => e.2.2)).Perm ((mkBuckets (items.map mkBlk)).flatMap (fun bk => bk.2)) := by
  intro items
  obtain ⟨gs, hgs, _⟩ := C11_partition_mutual_headers_pair
  exact ⟨gs, hgs, C11_partition items gs hgs (C11_headersWF_of_strict _ C11_headersWF_examples.2.2.1)⟩

end HeadersWF

end DI

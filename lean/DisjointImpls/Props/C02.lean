/-
  C02 — exact coverage.
-/
import DisjointImpls.Lemmas.Refine
import DisjointImpls.Lemmas.EndToEnd
import DisjointImpls.Lemmas.EndToEndNested
import DisjointImpls.Props.C11
namespace DI

/-- For a well-formed member (decidable `memberOK`, established by the grouping search — C11 — and re-validated
    on the implementation's real grouping for every generated case) the generated program selects the member for
    a query exactly when the member's block applies to it. -/
theorem C02_member_selected_iff_applies (W : World) (F : Family) (m : Member) (q : T)
    (hm : memberOK F m = true) (hw : WorldTotal W F) (hθ : ThetaCovers F m) (hs : SizedCompat W F m) :
    genSel W F m q ↔ applies W m.blk q :=
  ⟨gen_sub_spec W F m q, spec_sub_gen W F m q hm hw hθ hs⟩

/-- the trait is implemented for `q` through family `F` iff some member block of `F` applies to `q`:
    never narrowed by bounds only other blocks mention, nothing for queries no block matches -/
theorem C02_implemented_iff_applies (W : World) (F : Family) (q : T)
    (hm : ∀ m ∈ F.members, memberOK F m = true) (hw : WorldTotal W F)
    (hθ : ∀ m ∈ F.members, ThetaCovers F m) (hs : ∀ m ∈ F.members, SizedCompat W F m) :
    (∃ m ∈ F.members, genSel W F m q) ↔ (∃ m ∈ F.members, applies W m.blk q) := by
  constructor
  · rintro ⟨m, hmem, h⟩; exact ⟨m, hmem, gen_sub_spec W F m q h⟩
  · rintro ⟨m, hmem, h⟩; exact ⟨m, hmem, spec_sub_gen W F m q (hm m hmem) hw (hθ m hmem) (hs m hmem) h⟩

namespace D7
def str : T := .node "str" [] []
def bx (t : T) : T := .node "Box" [] [t]
def d : T := .node "D" [] []
def ga : T := .node "GA" [] []
def W : World := ⟨fun tr ty => if tr = d ∧ ty = bx str then some [("G", ga)] else none, fun t => t != str⟩
def blk : Block := ⟨bx (.tparam "p"), [⟨bx (.tparam "p"), d, [("G", ga)]⟩], []⟩
def m : Member := ⟨blk, [("p", .identity)], [some ga]⟩
def F : Family := ⟨bx (.tparam "p"), [⟨bx (.tparam "p"), d, "G"⟩], ["p"], [m]⟩
theorem inst_bx {ρ : Subst} {t t' : T} (h : inst ρ (bx t) = bx t') : inst ρ t = t' := by
  unfold bx at h
  rw [inst_other ρ rfl] at h
  exact (List.cons.inj (T.node.inj h).2.2).1
end D7

/-- the completeness direction is false without `SizedCompat` (defect D7: `?Sized` on a parameter that is not a
    key's bounded type is dropped from the main impl): a member relaxing `p` inside `Box<p>` applies to
    `Box<str>`, the main impl (which declares `p` sized) does not. -/
theorem C02_counterexample_D7 :
    ∃ (W : World) (F : Family) (m : Member) (q : T),
      memberOK F m = true ∧ applies W m.blk q ∧ ¬ genSel W F m q := by
  refine ⟨D7.W, D7.F, D7.m, D7.bx D7.str, by decide, applies_of_B (ρ := [("p", .ty D7.str)]) (by decide), ?_⟩
  · rintro ⟨τ, gs, _, e, hsz, _⟩
    have hp := hsz "p" (List.mem_singleton.2 rfl)
    rw [D7.inst_bx e] at hp
    cases hp

namespace ConstHdr
def u8 : T := .node "u8" [] []
def lit3 : T := .node "Expr::Lit" ["3"] []
def d : T := .node "D" [] []
def ga : T := .node "GA" [] []
def vec (t : T) : T := .node "Vec" [] [.node "GenericArgument::Type" [] [t]]
def gid (self : T) : T := .node "ImplGroupId" [] [.node "None" [] [], self]
/-- `[elem; len]` -/
def arr (elem len : T) : T := .node "Type::Array" [] [elem, len]
/-- `Wr<a, b>` with both arguments printed as types (a bare const argument is) -/
def wr (a b : T) : T := .node "Wr" [] [.node "GenericArgument::Type" [] [a], .node "GenericArgument::Type" [] [b]]

/-- every type is `Sized`; `D` is implemented for `u8` and `Vec<u8>` with `G = GA` -/
def W : World := ⟨fun tr ty => if tr = d ∧ (ty = u8 ∨ ty = vec u8) then some [("G", ga)] else none, fun _ => true⟩

/-- `impl<const N: usize, T: D<G = GA>> Kita for [T; N]` (`T` = `_ŠČ0`, `N` = `_ŠČ1`): the header has an expression
    parameter -/
def hdrA : T := gid (arr (.tparam "_ŠČ0") (.eparam "_ŠČ1"))
def keyA : Key := ⟨.tparam "_ŠČ0", d, "G"⟩
def blkA : Block := ⟨hdrA, [⟨.tparam "_ŠČ0", d, [("G", ga)]⟩], ["_ŠČ0"]⟩
def mA : Member := ⟨blkA, [("_ŠČ0", .identity), ("_ŠČ1", .identity)], [some ga]⟩
/-- a second, nested member `impl<const N: usize, T> Kita for [Vec<T>; N] where Vec<T>: D<G = GA>` -/
def blkA' : Block := ⟨gid (arr (vec (.tparam "_ŠČ0")) (.eparam "_ŠČ1")), [⟨vec (.tparam "_ŠČ0"), d, [("G", ga)]⟩], ["_ŠČ0"]⟩
def mA' : Member := ⟨blkA', [("_ŠČ0", .ty (vec (.tparam "_ŠČ0"))), ("_ŠČ1", .identity)], [some ga]⟩
def FA : Family := ⟨hdrA, [keyA], ["_ŠČ0"], [mA, mA']⟩

/-- `impl<const N: usize, T: D<G = GA>> Wr<N, T>`: the const argument is bare, printed like a type argument -/
def hdrB : T := gid (wr (.tparam "_ŠČ1") (.tparam "_ŠČ0"))
def blkB : Block := ⟨hdrB, [⟨.tparam "_ŠČ0", d, [("G", ga)]⟩], ["_ŠČ0"]⟩
def mB : Member := ⟨blkB, [("_ŠČ0", .identity), ("_ŠČ1", .identity)], [some ga]⟩
def FB : Family := ⟨hdrB, [keyA], ["_ŠČ0"], [mB]⟩

/-- `T := u8`, `N := 3` -/
def ρ : Subst := [("_ŠČ0", .ty u8), ("_ŠČ1", .ex lit3)]

theorem worldTotal (F : Family) (hF : F.keys = [keyA]) : WorldTotal W F := by
  intro k hk tr ty bs h
  rw [hF] at hk
  simp only [List.mem_singleton] at hk
  subst hk
  simp only [W] at h
  split at h
  · cases h; exact ⟨ga, rfl⟩
  · cases h

theorem sizedCompat (F : Family) (m : Member) : SizedCompat W F m := fun _ _ _ _ _ => rfl
end ConstHdr

open ConstHdr in
/-- the decidable hypotheses of the refinement hold for families whose header has a const parameter, in expression
    position (`[T; N]`, two members, one nested) and in the ambiguous generic-argument position (`Wr<N, T>`) -/
theorem C02_const_header_hypotheses :
    (memberOK FA mA = true ∧ thetaCoversB FA mA = true ∧ memberOK FA mA' = true ∧ thetaCoversB FA mA' = true ∧
      keysOverHeaderB FA = true) ∧
    (memberOK FB mB = true ∧ thetaCoversB FB mB = true ∧ keysOverHeaderB FB = true) := by
  decide +kernel

open ConstHdr in
/-- … and the refinement theorem is instantiated there: the block `impl<const N: usize, T: D<G = GA>> Kita for [T; N]`
    applies to the query `[u8; 3]` by a substitution that binds the const parameter, hence the generated program
    selects it; the nested member `[Vec<T>; N]` is selected for `[Vec<u8>; 3]`; `Wr<N, T>` for `Wr<3, u8>` (a
    `GenericArgument::Const`). No substitution without const bindings produces these queries. -/
theorem C02_const_header_selected :
    (genSel W FA mA (gid (arr u8 lit3)) ↔ applies W blkA (gid (arr u8 lit3))) ∧ genSel W FA mA (gid (arr u8 lit3)) ∧
    genSel W FA mA' (gid (arr (vec u8) lit3)) ∧
    genSel W FB mB (gid (.node "Wr" [] [.node "GenericArgument::Const" [] [lit3], .node "GenericArgument::Type" [] [u8]])) ∧
    ¬ ∃ σ, noEx σ ∧ inst σ hdrA = gid (arr u8 lit3) := by
  have hyp := C02_const_header_hypotheses
  have hA := C02_member_selected_iff_applies W FA mA (gid (arr u8 lit3)) hyp.1.1 (worldTotal FA rfl)
    ((thetaCoversB_iff FA mA).1 hyp.1.2.1) (sizedCompat FA mA)
  have hA' := C02_member_selected_iff_applies W FA mA' (gid (arr (vec u8) lit3)) hyp.1.2.2.1 (worldTotal FA rfl)
    ((thetaCoversB_iff FA mA').1 hyp.1.2.2.2.1) (sizedCompat FA mA')
  have hB := C02_member_selected_iff_applies W FB mB
    (gid (.node "Wr" [] [.node "GenericArgument::Const" [] [lit3], .node "GenericArgument::Type" [] [u8]]))
    hyp.2.1 (worldTotal FB rfl) ((thetaCoversB_iff FB mB).1 hyp.2.2.1) (sizedCompat FB mB)
  have ⟨bA, bA', bB⟩ : appliesB W ρ mA.blk (gid (arr u8 lit3)) = true ∧
      appliesB W ρ mA'.blk (gid (arr (vec u8) lit3)) = true ∧
      appliesB W ρ mB.blk
        (gid (.node "Wr" [] [.node "GenericArgument::Const" [] [lit3], .node "GenericArgument::Type" [] [u8]])) = true := by
    decide +kernel
  refine ⟨hA, hA.2 (applies_of_B bA), hA'.2 (applies_of_B bA'), hB.2 (applies_of_B bB), ?_⟩
  · rintro ⟨σ, hσ, h⟩
    simp only [hdrA, gid, arr, inst_node σ hσ, instL, inst_eparam_other (hσ "_ŠČ1"), T.node.injEq, List.cons.injEq,
      and_true, true_and] at h
    cases h.2

/-! ## End to end for un-nested invocations: from the grouping the model computes to the refinement

  `familyOfGroup sp e` (Lemmas/EndToEnd.lean) abstracts a group `e = (header, keys with rows, members)` of the model's
  grouping into a `Family`, the way `Bounds.mkFamily` / `mkMember` do from the wire representation
  (`memberOfGroup_eq_mkMember`); `sp` are the `Sized` parameters of the main impl (they play no role in `memberOK` /
  `thetaCoversB`). Side conditions, all executable, per group:
  * `noNesting items` (Props/C11): no header generalises another one, so every member joins through the self-match;
  * `flatGroupOK e`: `selfIdentity` — the header matches itself with identity bindings only; every dispatch
    key has a `wfPath` trait path; every trait bound of a member with the same dispatch key as a key of the family is
    `wfPath`, has the same leading `::` as the family's key (`normTr` keeps it, `TraitBound::eq` ignores it) and is not a
    relaxed `?Trait` bound (relaxed bounds are folded into the rows by the code but are no clauses of the block);
  * `hdrCoversB F` (for `thetaCoversB` only): `selfClean` — the header matches itself with identity bindings and no
    lenient arm; the header is `wf` for the matcher (C09), all parameter occurrences of the
    header and the keys are visible to the matcher in the header, no expression parameter in a type-argument position. -/

/-- the hypothesis `memberOK` of the refinement theorems holds for every member of every family the model computes for
    an un-nested invocation -/
theorem C02_end_to_end_flat_memberOK (items : List T) (groups : Groups) (h : parseGroups items = .ok groups)
    (hn : noNesting items = true) (sp : List String) :
    ∀ e ∈ groups, flatGroupOK e = true →
      ∀ m ∈ (familyOfGroup sp e).members, memberOK (familyOfGroup sp e) m = true :=
  fun _ he hok => flat_memberOK h (noNesting_spec items hn) sp he hok

/-- … and so does `thetaCoversB` (the executable form of `ThetaCovers`) -/
theorem C02_end_to_end_flat_hypotheses (items : List T) (groups : Groups) (h : parseGroups items = .ok groups)
    (hn : noNesting items = true) (sp : List String) :
    ∀ e ∈ groups, flatGroupOK e = true → hdrCoversB (familyOfGroup sp e) = true →
      ∀ m ∈ (familyOfGroup sp e).members,
        memberOK (familyOfGroup sp e) m = true ∧ thetaCoversB (familyOfGroup sp e) m = true :=
  fun _ he hok hcov m hm => ⟨flat_memberOK h (noNesting_spec items hn) sp he hok m hm,
    flat_thetaCovers h (noNesting_spec items hn) sp he hcov m hm⟩

/-- EXACT COVERAGE, END TO END, for un-nested invocations: for every input of the model that is accepted, has no
    nested headers and passes the executable checks (no distinctness of the blocks is needed: textually identical
    blocks, finding D12, denote the same block), for every world in
    which dispatch traits define their associated types (`WorldTotal`) and the `Sized` requirements are compatible
    (`SizedCompat`; fails for finding D7), and for every query `q`: the generated program implements the trait for `q`
    through some family and member  iff  one of the user's blocks applies to `q`. -/
theorem C02_end_to_end_flat_coverage (items : List T) (groups : Groups) (h : parseGroups items = .ok groups)
    (hn : noNesting items = true) (sp : List String)
    (hok : ∀ e ∈ groups, flatGroupOK e = true ∧ hdrCoversB (familyOfGroup sp e) = true)
    (W : World) (hw : ∀ e ∈ groups, WorldTotal W (familyOfGroup sp e))
    (hsz : ∀ e ∈ groups, ∀ m ∈ (familyOfGroup sp e).members, SizedCompat W (familyOfGroup sp e) m) (q : T) :
    (∃ e ∈ groups, ∃ m ∈ (familyOfGroup sp e).members, genSel W (familyOfGroup sp e) m q) ↔
    (∃ it ∈ items, applies W (mkBlock (canon it)) q) :=
  flat_coverage h (noNesting_spec items hn) sp hok W hw hsz q

/-- the group-level check follows from a check on the INPUT alone (`flatInputOK items`: every header matches itself
    with identity bindings; for two blocks with the same header, a trait bound with the same dispatch key as a
    binding-carrying trait bound of the other is not relaxed, both paths are `wfPath` and agree on the leading `::`) -/
theorem C02_flatGroupOK_of_input (items : List T) (groups : Groups) (h : parseGroups items = .ok groups)
    (hn : noNesting items = true) (hin : flatInputOK items = true) : ∀ e ∈ groups, flatGroupOK e = true :=
  fun _ he => flatGroupOK_of_input h (noNesting_spec items hn) hin he

/-- … so `memberOK` holds for every member of every family of an accepted un-nested invocation that passes the input
    check -/
theorem C02_end_to_end_flat_memberOK_input (items : List T) (groups : Groups) (h : parseGroups items = .ok groups)
    (hn : noNesting items = true) (hin : flatInputOK items = true) (sp : List String) :
    ∀ e ∈ groups, ∀ m ∈ (familyOfGroup sp e).members, memberOK (familyOfGroup sp e) m = true :=
  fun e he => C02_end_to_end_flat_memberOK items groups h hn sp e he (C02_flatGroupOK_of_input items groups h hn hin e he)

/-- `familyOfGroup` is the abstraction the checks use: it equals `Bounds.mkFamily` (the driver's `family` command)
    applied to the wire encoding of the group — keys `List [Tuple [Bounded [b], TraitBound [p], Ident [a]] …]`, rows
    `List [List [Some [p] | None …] …]`, the members' items — with the `Sized` parameters of the main impl handed over -/
theorem C02_familyOfGroup_is_mkFamily (e : T × ABG × List Blk) (mainImpl : T) :
    mkFamily e.1 (encKeys e.2.1.idents) (encRows e.2.1.payloads) mainImpl (e.2.2.map (·.item)) =
      familyOfGroup (match mainImpl with
        | .node "Some" [] [item] => mkBlock item
        | _ => ⟨.node "?" [] [], [], []⟩).sizedParams e :=
  familyOfGroup_eq_mkFamily e mainImpl

namespace E2E
open Ex11
/-- `::Dispatch<Group = g>` (leading `::`) -/
def dispatchLc (g : String) : T :=
  .node "Path" [] [.node "IgnL" [] [leaf "Some"], .node "List" [] [.node "PathSegment" [] [.node "Ident" ["Dispatch"] [],
    .node "PathArguments::AngleBracketed" [] [.node "Ign" [] [leaf "None"],
      .node "List" [] [.node "GenericArgument::AssocType" [] [.node "AssocType" [] [.node "Ident" ["Group"] [], leaf "None", tyPath [seg g]]]]]]]]
/-- `impl<T: ::Dispatch<Group = GroupA>> Kita for T {}`  +  `impl<T: Dispatch<Group = GroupB>> Kita for T {}` -/
def itemsLc : List T := [implOf [tyParam "T" [traitBound (dispatchLc "GroupA")]] (tyPath [seg "T"]), blockFor "GroupB"]
/-- `n<a = g>` -/
def bind1 (n a g : String) : T :=
  path [.node "PathSegment" [] [.node "Ident" [n] [], .node "PathArguments::AngleBracketed" [] [.node "Ign" [] [leaf "None"],
    .node "List" [] [.node "GenericArgument::AssocType" [] [.node "AssocType" [] [.node "Ident" [a] [], leaf "None", tyPath [seg g]]]]]]]
def maybeBound (p : T) : T :=
  .node "TypeParamBound::Trait" [] [.node "TraitBound" [] [leaf "None", leaf "TraitBoundModifier::Maybe", leaf "None", p]]
/-- `impl<T: D1<G = A> + D2<H = X>> Kita for T {}`  +  `impl<T: D1<G = B> + ?D2> Kita for T {}` -/
def itemsMaybe : List T :=
  [implOf [tyParam "T" [traitBound (bind1 "D1" "G" "A"), traitBound (bind1 "D2" "H" "X")]] (tyPath [seg "T"]),
   implOf [tyParam "T" [traitBound (bind1 "D1" "G" "B"), maybeBound (path [seg "D2"])]] (tyPath [seg "T"])]
end E2E

section E2ECounter
open E2E

/-- the side condition `flatGroupOK` cannot be dropped, witness 1 (leading `::`): `TraitBound::eq` ignores the leading
    `::` of a trait path, so `T: ::Dispatch<Group = GroupA>` and `T: Dispatch<Group = GroupB>` share one dispatch key,
    stored with the path of the LAST member (`Dispatch`); the first member has no clause `T: Dispatch` (its clause is
    `T: ::Dispatch`, which may be a different trait), so `memberOK` fails for it. The input is accepted and un-nested. -/
theorem C02_end_to_end_flat_memberOK_counterexample_leading_colon :
    ∃ gs, parseGroups itemsLc = .ok gs ∧
      (noNesting itemsLc &&
       gs.map (fun e => (flatGroupOK e, (familyOfGroup ["_ŠČ0"] e).members.map (fun m => memberOK (familyOfGroup ["_ŠČ0"] e) m)))
         == [(false, [false, true])]) = true := by
  decide +kernel

/-- witness 2 (relaxed bound): the code folds a `?Trait` bound into the rows like any other bound, so the second
    member gets a (wildcard) row under the key `T: D2` although `T: ?D2` is no clause of the block: `memberOK` fails
    for it. (Not valid Rust for a trait other than `Sized`; the model, like `syn`, accepts it.) -/
theorem C02_end_to_end_flat_memberOK_counterexample_maybe :
    ∃ gs, parseGroups itemsMaybe = .ok gs ∧
      (noNesting itemsMaybe &&
       gs.map (fun e => (flatGroupOK e, (familyOfGroup ["_ŠČ0"] e).members.map (fun m => memberOK (familyOfGroup ["_ŠČ0"] e) m)))
         == [(false, [true, false])]) = true := by
  decide +kernel

/-- hence the statement without `flatGroupOK` is false -/
theorem C02_end_to_end_flat_memberOK_unconditional_false :
    ¬ ∀ (items : List T) (groups : Groups), parseGroups items = .ok groups → noNesting items = true →
        ∀ e ∈ groups, ∀ m ∈ (familyOfGroup ["_ŠČ0"] e).members, memberOK (familyOfGroup ["_ŠČ0"] e) m = true := by
  intro hall
  obtain ⟨gs, hgs, hchk⟩ := C02_end_to_end_flat_memberOK_counterexample_leading_colon
  simp only [Bool.and_eq_true, beq_iff_eq] at hchk
  obtain ⟨e, rfl, he⟩ := List.map_eq_singleton_iff.1 hchk.2
  exact not_all_of_map_eq (Prod.mk.inj he).2 List.mem_cons_self
    (hall itemsLc [e] hgs hchk.1 e (List.mem_singleton.2 rfl))
end E2ECounter

namespace E2E
open Ex11
/-- the normalised trait path `Dispatch` -/
def dispTr : T := path [seg "Dispatch"]
def u32T : T := tyPath [seg "u32"]
def i64T : T := tyPath [seg "i64"]
/-- `u32: Dispatch<Group = GroupA>`, `i64: Dispatch<Group = GroupB>`, nothing else; every type is `Sized` -/
def W : World :=
  ⟨fun tr ty => if tr = dispTr ∧ ty = u32T then some [("Group", tyPath [seg "GroupA"])]
    else if tr = dispTr ∧ ty = i64T then some [("Group", tyPath [seg "GroupB"])] else none, fun _ => true⟩
def items : List T := [blockFor "GroupA", blockFor "GroupB"]
/-- the query `Kita for ty` -/
def query (ty : T) : T := .node "ImplGroupId" [] [.node "Some" [] [path [seg "Kita"]], ty]
theorem inst_query {ρ : Subst} {ty ty' : T} (h : inst ρ (query ty) = query ty') : inst ρ ty = ty' := by
  unfold query at h
  rw [inst_other ρ rfl] at h
  exact (List.cons.inj (List.cons.inj (T.node.inj h).2.2).2).1
end E2E

section E2EExample
open E2E

/-- non-vacuity, on the README pair `impl<T: Dispatch<Group = GroupA>> Kita for T` / `… GroupB …` and the world `E2E.W`:
    the input is accepted, un-nested and passes the input check `flatInputOK`; its one family passes `flatGroupOK` and
    `hdrCoversB`;
    the world is total for its key and `Sized`-compatible. Hence the end-to-end theorem applies: for EVERY query the
    generated program selects some member iff some block applies; it does select one for `Kita for u32` and for
    `Kita for i64`. -/
theorem C02_end_to_end_readme :
    ∃ gs, parseGroups items = .ok gs ∧ noNesting items = true ∧ flatInputOK items = true ∧
      (∀ e ∈ gs, flatGroupOK e = true ∧ hdrCoversB (familyOfGroup ["_ŠČ0"] e) = true) ∧
      (∀ q, (∃ e ∈ gs, ∃ m ∈ (familyOfGroup ["_ŠČ0"] e).members, genSel W (familyOfGroup ["_ŠČ0"] e) m q) ↔
            (∃ it ∈ items, applies W (mkBlock (canon it)) q)) ∧
      (∃ e ∈ gs, ∃ m ∈ (familyOfGroup ["_ŠČ0"] e).members, genSel W (familyOfGroup ["_ŠČ0"] e) m (query u32T)) ∧
      (∃ e ∈ gs, ∃ m ∈ (familyOfGroup ["_ŠČ0"] e).members, genSel W (familyOfGroup ["_ŠČ0"] e) m (query i64T)) := by
  have ⟨⟨gs, hgs, hchk⟩, hn, hin, b0, b1⟩ :
      (∃ gs, parseGroups items = .ok gs ∧ (gs.all (fun e => flatGroupOK e && hdrCoversB (familyOfGroup ["_ŠČ0"] e)) &&
        gs.all (fun e => (familyOfGroup ["_ŠČ0"] e).keys.all (fun k => k.a == "Group"))) = true) ∧
      noNesting items = true ∧ flatInputOK items = true ∧
      appliesB W [("_ŠČ0", .ty u32T)] (mkBlock (canon (Ex11.blockFor "GroupA"))) (query u32T) = true ∧
      appliesB W [("_ŠČ0", .ty i64T)] (mkBlock (canon (Ex11.blockFor "GroupB"))) (query i64T) = true := by
    decide +kernel
  simp only [List.all_eq_true, Bool.and_eq_true, beq_iff_eq] at hchk
  obtain ⟨hok, hkeys⟩ := hchk
  have hw : ∀ e ∈ gs, WorldTotal W (familyOfGroup ["_ŠČ0"] e) := fun e he =>
    worldTotal_ite (fun k hk => ⟨_, by rw [hkeys e he k hk]; rfl⟩)
      (worldTotal_ite (fun k hk => ⟨_, by rw [hkeys e he k hk]; rfl⟩) worldTotal_none)
  have hsz : ∀ e ∈ gs, ∀ m ∈ (familyOfGroup ["_ŠČ0"] e).members, SizedCompat W (familyOfGroup ["_ŠČ0"] e) m :=
    fun _ _ _ _ _ _ _ _ _ => rfl
  have hcov := C02_end_to_end_flat_coverage items gs hgs hn ["_ŠČ0"] hok W hw hsz
  exact ⟨gs, hgs, hn, hin, hok, hcov, (hcov _).2 ⟨_, by simp [items], applies_of_B b0⟩,
    (hcov _).2 ⟨_, by simp [items], applies_of_B b1⟩⟩
end E2EExample

/-! ## End to end for ARBITRARY accepted invocations (nested headers included)

  `Lemmas/EndToEndNested.lean`. Side conditions, all executable:
  * `nestedGroupOK (parseEnv items) e` (per group): every dispatch key has a `wfPath` trait path, and every member `i`
    (block `b`, substitution `θ` = the matcher's answer on family header / member header, which is proved to be the
    substitution the search used — `C02_member_theta_is_search_subst`) passes `nestedMemberOK`:
    - `inst θ (family header) == member header` EXACTLY (C09 gives it only modulo presentation, `erase`; checked);
    - the founding member's `θ` is the identity;
    - for every own key `k'` of the member one of whose re-expressions `sk` (`reexpr`, C11 Part 6) is a key of the family:
      `θ` is the identity, or `untouched θ k'.1 && untouched θ k'.2` (the D4 condition of `C10_bound_roundtrip`: a
      parameter of the bound that reverse substitution leaves in place is fixed by `θ`) and `instCommOK_nst sk.2` (`normTr`
      commutes with `inst` on the re-expressed trait path — `C02_normTr_inst`); `wfPath` of `sk.2`, `k'.2` and of every
      trait bound of the block with the dispatch key of `k'`, agreement on the leading `::`, no relaxed `?Trait` bound
      (as in `flatGroupOK`, which is the special case — `C02_nestedGroupOK_of_flat`);
  * `nestedCoversB F` (for `thetaCoversB`): header `wf` (C09), all parameter occurrences of header and keys visible to the
    matcher in the header, every member's `θ` is the matcher's answer without a lenient arm and `kindOK` for header / keys;
  * `acyclicB items` (coverage, direction ⇐ only): the recorded header relation is acyclic, so every block is placed. -/

/-- `normTr` (the normalisation of a trait path into the dispatch key's trait: bindings removed, `Tr<>` = `Tr`, turbofish
    erased) commutes with every instantiation on a path that passes the executable check `instCommOK_nst`: `wfPath`, every
    segment has `None` / `AngleBracketed [_, List _]` arguments, no generic argument of the last segment is a bare
    parameter occurrence -/
theorem C02_normTr_inst (θ : Subst) (p : T) (h : instCommOK_nst p = true) : normTr (inst θ p) = inst θ (normTr p) :=
  normTr_inst_nst θ h

/-- the substitution of a member in the abstraction (`memberTheta_nst`: what `Bounds.mkMember` computes, the matcher's
    answer on the two headers) IS the substitution with which the search let the block join the family (`memberSubst`,
    C11 Part 6), and it has distinct keys — no side condition -/
theorem C02_member_theta_is_search_subst (items : List T) (gid : T) (b : Blk) (σ : Subst)
    (h : memberSubst (parseEnv items) gid (groupIdOf b.item) = some σ) :
    memberTheta_nst gid b = σ ∧ (σ.map Prod.fst).Nodup :=
  memberTheta_eq_nst h

/-- the hypothesis `memberOK` of the refinement theorems holds for every member — nested or not — of every family the
    model computes for an accepted invocation, when the group passes `nestedGroupOK` -/
theorem C02_end_to_end_memberOK (items : List T) (groups : Groups) (h : parseGroups items = .ok groups) (sp : List String) :
    ∀ e ∈ groups, nestedGroupOK (parseEnv items) e = true →
      ∀ m ∈ (familyOfGroup sp e).members, memberOK (familyOfGroup sp e) m = true :=
  fun _ he hok => nested_memberOK h sp he hok

/-- `flatGroupOK` is the special case of `nestedGroupOK` for un-nested invocations … -/
theorem C02_nestedGroupOK_of_flat (items : List T) (groups : Groups) (h : parseGroups items = .ok groups)
    (hn : noNesting items = true) : ∀ e ∈ groups, flatGroupOK e = true → nestedGroupOK (parseEnv items) e = true :=
  fun _ he hok => nestedGroupOK_of_flat h (noNesting_spec items hn) he hok

/-- … so `C02_end_to_end_flat_memberOK` follows from `C02_end_to_end_memberOK` -/
theorem C02_end_to_end_flat_memberOK_from_nested (items : List T) (groups : Groups) (h : parseGroups items = .ok groups)
    (hn : noNesting items = true) (sp : List String) :
    ∀ e ∈ groups, flatGroupOK e = true →
      ∀ m ∈ (familyOfGroup sp e).members, memberOK (familyOfGroup sp e) m = true :=
  fun e he hok => C02_end_to_end_memberOK items groups h sp e he (C02_nestedGroupOK_of_flat items groups h hn e he hok)

/-- `thetaCoversB` (the executable form of `ThetaCovers`) for every member of a family that passes `nestedCoversB`
    (a statement about the family alone; `C09_binds_all_wf` supplies the bindings, the kinds are checked) -/
theorem C02_end_to_end_thetaCovers (F : Family) (hcov : nestedCoversB F = true) :
    ∀ m ∈ F.members, thetaCoversB F m = true :=
  nested_thetaCovers hcov

/-- both decidable hypotheses of the refinement, for every member of every family of an accepted invocation -/
theorem C02_end_to_end_hypotheses (items : List T) (groups : Groups) (h : parseGroups items = .ok groups) (sp : List String) :
    ∀ e ∈ groups, nestedGroupOK (parseEnv items) e = true → nestedCoversB (familyOfGroup sp e) = true →
      ∀ m ∈ (familyOfGroup sp e).members,
        memberOK (familyOfGroup sp e) m = true ∧ thetaCoversB (familyOfGroup sp e) m = true :=
  fun _ he hok hcov m hm => ⟨nested_memberOK h sp he hok m hm, nested_thetaCovers hcov m hm⟩

/-- EXACT COVERAGE, END TO END, for arbitrary accepted invocations: for every input of the model that is accepted, whose
    recorded header relation is acyclic (`acyclicB`, C11 Part 4b) and whose groups pass the executable checks, for every
    world in which dispatch traits define their associated types (`WorldTotal`) and the `Sized` requirements are
    compatible (`SizedCompat`; fails for finding D7), and for every query `q`: the generated program implements the trait
    for `q` through some family and member  iff  one of the user's blocks applies to `q`. -/
theorem C02_end_to_end_coverage (items : List T) (groups : Groups) (h : parseGroups items = .ok groups)
    (ha : acyclicB items = true) (sp : List String)
    (hok : ∀ e ∈ groups, nestedGroupOK (parseEnv items) e = true ∧ nestedCoversB (familyOfGroup sp e) = true)
    (W : World) (hw : ∀ e ∈ groups, WorldTotal W (familyOfGroup sp e))
    (hsz : ∀ e ∈ groups, ∀ m ∈ (familyOfGroup sp e).members, SizedCompat W (familyOfGroup sp e) m) (q : T) :
    (∃ e ∈ groups, ∃ m ∈ (familyOfGroup sp e).members, genSel W (familyOfGroup sp e) m q) ↔
    (∃ it ∈ items, applies W (mkBlock (canon it)) q) :=
  nested_coverage h ha sp hok W hw hsz q

/-- the un-nested end-to-end coverage theorem `C02_end_to_end_flat_coverage` is the special case of
    `C02_end_to_end_coverage`: `noNesting` implies `acyclicB`, `flatGroupOK` implies `nestedGroupOK`, `hdrCoversB` implies
    `nestedCoversB` -/
theorem C02_end_to_end_flat_coverage_from_nested (items : List T) (groups : Groups) (h : parseGroups items = .ok groups)
    (hn : noNesting items = true) (sp : List String)
    (hok : ∀ e ∈ groups, flatGroupOK e = true ∧ hdrCoversB (familyOfGroup sp e) = true)
    (W : World) (hw : ∀ e ∈ groups, WorldTotal W (familyOfGroup sp e))
    (hsz : ∀ e ∈ groups, ∀ m ∈ (familyOfGroup sp e).members, SizedCompat W (familyOfGroup sp e) m) (q : T) :
    (∃ e ∈ groups, ∃ m ∈ (familyOfGroup sp e).members, genSel W (familyOfGroup sp e) m q) ↔
    (∃ it ∈ items, applies W (mkBlock (canon it)) q) :=
  C02_end_to_end_coverage items groups h (acyclicB_of_msPairs_nil items (noNesting_iff.1 hn)) sp
    (fun e he => ⟨C02_nestedGroupOK_of_flat items groups h hn e he (hok e he).1,
      nestedCoversB_of_flat_group h (noNesting_spec items hn) sp he (hok e he).2⟩) W hw hsz q

namespace E2E
open Ex11
/-- `impl<T: Dispatch<Group = GroupA>> Kita for T {}`  +
    `impl<T> Kita for Vec<T> where Vec<T>: Dispatch<Group = GroupB> {}` (tests/supersets_1.rs style) -/
def itemsNested : List T := [blockSelf "GroupA" tT,
  implW [tyParam "T" []] [pred (vecOf tT) [traitBound (dispatch "GroupB")]] (vecOf tT)]
/-- D4: `impl<T: Dispatch<Group = GroupA>> Kita for T {}`  +  `impl<U: Dispatch<Group = GroupB>> Kita for Vec<U> {}` (the
    parameter names are immaterial: `canon` renames both to `_ŠČ0`) -/
def itemsD4 : List T := [blockSelf "GroupA" tT, blockSelf "GroupB" (vecOf tT)]
/-- `u32: Dispatch<Group = GroupA>`, `Vec<u32>: Dispatch<Group = GroupB>`, nothing else; every type is `Sized` -/
def WN : World :=
  ⟨fun tr ty => if tr = dispTr ∧ ty = u32T then some [("Group", tyPath [seg "GroupA"])]
    else if tr = dispTr ∧ ty = vecOf u32T then some [("Group", tyPath [seg "GroupB"])] else none, fun _ => true⟩
/-- `u32: Dispatch<Group = GroupB>`, nothing else; every type is `Sized` -/
def WD4 : World :=
  ⟨fun tr ty => if ty = u32T ∧ tr = dispTr then some [("Group", tyPath [seg "GroupB"])] else none, fun _ => true⟩
end E2E

section E2ENested
open E2E

/-- the `untouched` clause of `nestedGroupOK` cannot be dropped (finding D4): `impl<T: D<G = A>> Kita for T` +
    `impl<U: D<G = B>> Kita for Vec<U>` is accepted as ONE family with the key `T: D` and the rows `G = A`, `G = B` — the
    bound `U: D` of the second block is outside the image of its substitution `{T ↦ Vec<U>}`, reverse substitution leaves it
    in place and it collides with the family's key `T: D`. The generated program dispatches `Vec<U>` on `<Vec<U> as D>::G`,
    the user's block on `<U as D>::G`: `memberOK` is FALSE for the second member (no clause `Vec<U>: D`). Everything else
    holds on the witness: the header relation is acyclic, the group passes `flatGroupOK` (well-formed paths, leading `::`,
    no relaxed bound, `selfIdentity`) and `nestedCoversB`, the second member's header is the exact instance of the family's
    header; the one failing conjunct is `untouched θ (U)`. -/
theorem C02_end_to_end_memberOK_counterexample_D4 :
    ∃ gs, parseGroups itemsD4 = .ok gs ∧
      (acyclicB itemsD4 &&
       gs.map (fun e => (nestedGroupOK (parseEnv itemsD4) e, flatGroupOK e, nestedCoversB (familyOfGroup ["_ŠČ0"] e),
          (familyOfGroup ["_ŠČ0"] e).members.map (fun m => memberOK (familyOfGroup ["_ŠČ0"] e) m)))
         == [(false, true, true, [true, false])] &&
       gs.all (fun e => match e.2.2[1]? with
         | some b => inst (memberTheta_nst e.1 b) e.1 == groupIdOf b.item &&
             (otherFold b).all (fun k'r => !untouched (memberTheta_nst e.1 b) k'r.1.1 && untouched (memberTheta_nst e.1 b) k'r.1.2)
         | none => false)) = true := by
  decide +kernel

/-- hence, for nested invocations, the conditions of the flat theorem (`flatGroupOK`) do not suffice: the statement with
    `flatGroupOK` in place of `nestedGroupOK` and `acyclicB` in place of `noNesting` is false -/
theorem C02_end_to_end_memberOK_without_untouched_false :
    ¬ ∀ (items : List T) (groups : Groups), parseGroups items = .ok groups → acyclicB items = true →
        ∀ e ∈ groups, flatGroupOK e = true →
          ∀ m ∈ (familyOfGroup ["_ŠČ0"] e).members, memberOK (familyOfGroup ["_ŠČ0"] e) m = true := by
  intro hall
  obtain ⟨gs, hgs, hchk⟩ := C02_end_to_end_memberOK_counterexample_D4
  simp only [Bool.and_eq_true, beq_iff_eq] at hchk
  obtain ⟨e, rfl, he⟩ := List.map_eq_singleton_iff.1 hchk.1.2
  simp only [Prod.mk.injEq] at he
  exact not_all_of_map_eq he.2.2.2 (List.mem_cons_of_mem _ List.mem_cons_self)
    (hall itemsD4 [e] hgs hchk.1.1 e (List.mem_singleton.2 rfl) he.2.1)

/-- … and the failure is semantic, not an artefact of the checks: EXACT COVERAGE is false on the D4 witness. In the world
    `E2E.WD4` (`u32: Dispatch<Group = GroupB>`, nothing else; total for the family's key, everything `Sized`) the user's second
    block `impl<U: Dispatch<Group = GroupB>> Kita for Vec<U>` applies to `Kita for Vec<u32>`, but the generated program does
    not implement `Kita` for `Vec<u32>`: its main impl requires the projection `<Vec<u32> as Dispatch>::Group` of the
    family's key `T: Dispatch` at `T = Vec<u32>`, which this world does not define. All side conditions of
    `C02_end_to_end_coverage` other than the `untouched` clause hold. -/
theorem C02_end_to_end_coverage_counterexample_D4 :
    ∃ gs, parseGroups itemsD4 = .ok gs ∧ acyclicB itemsD4 = true ∧
      (∀ e ∈ gs, flatGroupOK e = true ∧ nestedCoversB (familyOfGroup ["_ŠČ0"] e) = true) ∧
      (∀ e ∈ gs, WorldTotal WD4 (familyOfGroup ["_ŠČ0"] e)) ∧
      (∀ e ∈ gs, ∀ m ∈ (familyOfGroup ["_ŠČ0"] e).members, SizedCompat WD4 (familyOfGroup ["_ŠČ0"] e) m) ∧
      (∃ it ∈ itemsD4, applies WD4 (mkBlock (canon it)) (query (Ex11.vecOf u32T))) ∧
      ¬ (∃ e ∈ gs, ∃ m ∈ (familyOfGroup ["_ŠČ0"] e).members,
          genSel WD4 (familyOfGroup ["_ŠČ0"] e) m (query (Ex11.vecOf u32T))) := by
  have ⟨⟨gs, hgs, hchk⟩, ha, b1, hdisp⟩ :
      (∃ gs, parseGroups itemsD4 = .ok gs ∧
        (gs.all (fun e => flatGroupOK e && nestedCoversB (familyOfGroup ["_ŠČ0"] e)) &&
         gs.all (fun e => (familyOfGroup ["_ŠČ0"] e).hdr == query (.tparam "_ŠČ0") &&
           (familyOfGroup ["_ŠČ0"] e).keys == [(⟨.tparam "_ŠČ0", dispTr, "Group"⟩ : Key)])) = true) ∧
      acyclicB itemsD4 = true ∧
      appliesB WD4 [("_ŠČ0", .ty u32T)] (mkBlock (canon (Ex11.blockSelf "GroupB" (Ex11.vecOf Ex11.tT))))
        (query (Ex11.vecOf u32T)) = true ∧
      Ex11.vecOf u32T ≠ u32T := by
    decide +kernel
  simp only [List.all_eq_true, Bool.and_eq_true, beq_iff_eq] at hchk
  obtain ⟨hok, hshape⟩ := hchk
  refine ⟨gs, hgs, ha, hok, ?_, fun _ _ _ _ _ _ _ _ _ => rfl,
    ⟨_, by simp [itemsD4], applies_of_B b1⟩, ?_⟩
  · refine fun e he => worldTotal_ite (fun k hk => ?_) worldTotal_none
    rw [(hshape e he).2] at hk
    rw [List.mem_singleton.1 hk]
    exact ⟨_, rfl⟩
  · rintro ⟨e, he, m, _, τ, gs', _, hq, _, hlen, hproj, _⟩
    obtain ⟨hhdr, hkeys⟩ := hshape e he
    rw [hhdr] at hq
    have hT : inst τ (.tparam "_ŠČ0") = Ex11.vecOf u32T := inst_query hq
    have h0 : 0 < (familyOfGroup ["_ŠČ0"] e).keys.length := by rw [hkeys]; simp
    obtain ⟨bs, hbs, _⟩ := hproj 0 h0 (by rw [hlen]; exact h0)
    have hk0 : (familyOfGroup ["_ŠČ0"] e).keys[0] = (⟨.tparam "_ŠČ0", dispTr, "Group"⟩ : Key) := by
      simp only [hkeys, List.getElem_cons_zero]
    rw [hk0] at hbs
    simp only [hT, WD4] at hbs
    rw [if_neg (fun h => hdisp h.1)] at hbs
    cases hbs

/-- non-vacuity, on the nested pair `impl<T: Dispatch<Group = GroupA>> Kita for T` /
    `impl<T> Kita for Vec<T> where Vec<T>: Dispatch<Group = GroupB>` and the world `E2E.WN` (`u32: Dispatch<Group = GroupA>`,
    `Vec<u32>: Dispatch<Group = GroupB>`): the input is accepted as one family, is NOT un-nested (`noNesting` false), its
    header relation is acyclic, the family passes `nestedGroupOK` and `nestedCoversB`; the world is total for its key and
    `Sized`-compatible. Hence the end-to-end theorems apply: both members satisfy `memberOK` and `thetaCoversB`; for EVERY
    query the generated program selects some member iff some block applies; it does select one for `Kita for u32` (first
    block) and for `Kita for Vec<u32>` (second, nested block). -/
theorem C02_end_to_end_nested_example :
    ∃ gs, parseGroups itemsNested = .ok gs ∧ noNesting itemsNested = false ∧ acyclicB itemsNested = true ∧
      (∀ e ∈ gs, nestedGroupOK (parseEnv itemsNested) e = true ∧ nestedCoversB (familyOfGroup ["_ŠČ0"] e) = true) ∧
      (gs.map (fun e => (familyOfGroup ["_ŠČ0"] e).members.length) = [2]) ∧
      (∀ e ∈ gs, ∀ m ∈ (familyOfGroup ["_ŠČ0"] e).members,
        memberOK (familyOfGroup ["_ŠČ0"] e) m = true ∧ thetaCoversB (familyOfGroup ["_ŠČ0"] e) m = true) ∧
      (∀ q, (∃ e ∈ gs, ∃ m ∈ (familyOfGroup ["_ŠČ0"] e).members, genSel WN (familyOfGroup ["_ŠČ0"] e) m q) ↔
            (∃ it ∈ itemsNested, applies WN (mkBlock (canon it)) q)) ∧
      (∃ e ∈ gs, ∃ m ∈ (familyOfGroup ["_ŠČ0"] e).members, genSel WN (familyOfGroup ["_ŠČ0"] e) m (query u32T)) ∧
      (∃ e ∈ gs, ∃ m ∈ (familyOfGroup ["_ŠČ0"] e).members, genSel WN (familyOfGroup ["_ŠČ0"] e) m (query (Ex11.vecOf u32T))) := by
  have ⟨⟨gs, hgs, hchk⟩, hn, ha, b0, b1⟩ :
      (∃ gs, parseGroups itemsNested = .ok gs ∧
        (gs.all (fun e => nestedGroupOK (parseEnv itemsNested) e && nestedCoversB (familyOfGroup ["_ŠČ0"] e)) &&
         (gs.all (fun e => (familyOfGroup ["_ŠČ0"] e).keys.all (fun k => k.a == "Group")) &&
          gs.map (fun e => (familyOfGroup ["_ŠČ0"] e).members.length) == [2])) = true) ∧
      noNesting itemsNested = false ∧ acyclicB itemsNested = true ∧
      appliesB WN [("_ŠČ0", .ty u32T)] (mkBlock (canon (Ex11.blockSelf "GroupA" Ex11.tT))) (query u32T) = true ∧
      appliesB WN [("_ŠČ0", .ty u32T)] (mkBlock (canon (Ex11.implW [Ex11.tyParam "T" []]
        [Ex11.pred (Ex11.vecOf Ex11.tT) [Ex11.traitBound (Ex11.dispatch "GroupB")]] (Ex11.vecOf Ex11.tT))))
        (query (Ex11.vecOf u32T)) = true := by
    decide +kernel
  simp only [List.all_eq_true, Bool.and_eq_true, beq_iff_eq] at hchk
  obtain ⟨hok, hkeys, hlen⟩ := hchk
  have hw : ∀ e ∈ gs, WorldTotal WN (familyOfGroup ["_ŠČ0"] e) := fun e he =>
    worldTotal_ite (fun k hk => ⟨_, by rw [hkeys e he k hk]; rfl⟩)
      (worldTotal_ite (fun k hk => ⟨_, by rw [hkeys e he k hk]; rfl⟩) worldTotal_none)
  have hsz : ∀ e ∈ gs, ∀ m ∈ (familyOfGroup ["_ŠČ0"] e).members, SizedCompat WN (familyOfGroup ["_ŠČ0"] e) m :=
    fun _ _ _ _ _ _ _ _ _ => rfl
  have hcov := C02_end_to_end_coverage itemsNested gs hgs ha ["_ŠČ0"] hok WN hw hsz
  exact ⟨gs, hgs, hn, ha, hok, hlen,
    fun e he => C02_end_to_end_hypotheses itemsNested gs hgs ["_ŠČ0"] e he (hok e he).1 (hok e he).2,
    hcov, (hcov _).2 ⟨_, by simp [itemsNested], applies_of_B b0⟩, (hcov _).2 ⟨_, by simp [itemsNested], applies_of_B b1⟩⟩
end E2ENested

namespace E2E
open Ex11
/-- the (ill-formed for `syn`, well-formed for `wfPath`) trait path `D<_ŠČ0>` whose generic argument is a BARE parameter
    occurrence instead of a `GenericArgument::…` node -/
def bareArgPath : T := .node "Path" [] [.node "IgnL" [] [leaf "None"], .node "List" [] [.node "PathSegment" [] [.node "Ident" ["D"] [],
  .node "PathArguments::AngleBracketed" [] [.node "Ign" [] [leaf "None"], .node "List" [] [.tparam "_ŠČ0"]]]]]
/-- the binding `G = A` as a generic argument -/
def bindGA : T := .node "GenericArgument::AssocType" [] [.node "AssocType" [] [.node "Ident" ["G"] [], leaf "None", tyPath [seg "A"]]]
end E2E

section E2ENestedMore
open E2E Ex11

/-- the side condition of `C02_normTr_inst` cannot be dropped: on a `wfPath` path whose generic argument is a bare
    parameter, an instantiation can put an associated-type binding there, which `normTr` then removes — `normTr` after
    `inst` differs from `inst` after `normTr` (cannot arise from `syn`, whose generic arguments are always
    `GenericArgument::…` nodes) -/
theorem C02_normTr_inst_counterexample :
    wfPath bareArgPath = true ∧ instCommOK_nst bareArgPath = false ∧
    normTr (inst [("_ŠČ0", .ty bindGA)] bareArgPath) ≠ inst [("_ŠČ0", .ty bindGA)] (normTr bareArgPath) := by
  decide +kernel

/-- the exact-instance clause of `nestedGroupOK` cannot be dropped: for `impl<T: Dispatch<Group = GroupA>> Kita for (T)` +
    `impl<T: Dispatch<Group = GroupB>> Kita for T` (headers that differ by parentheses only, `C11_partition_mutual_headers_pair`)
    the second member joins the family of the first with an identity substitution, but the instance of the family's header
    `(T)` is not literally the member's header `T` (only modulo `erase`, C09): `memberOK` is false for it, although the group
    passes `flatGroupOK` and `nestedCoversB`. (A presentation artefact of comparing headers as trees, not a defect of the
    generated program.) -/
theorem C02_end_to_end_memberOK_counterexample_paren :
    ∃ gs, parseGroups [blockSelf "GroupA" (paren tT), blockSelf "GroupB" tT] = .ok gs ∧
      (gs.map (fun e => (nestedGroupOK (parseEnv [blockSelf "GroupA" (paren tT), blockSelf "GroupB" tT]) e, flatGroupOK e,
          nestedCoversB (familyOfGroup ["_ŠČ0"] e),
          (familyOfGroup ["_ŠČ0"] e).members.map (fun m => (memberOK (familyOfGroup ["_ŠČ0"] e) m,
            inst m.θ (familyOfGroup ["_ŠČ0"] e).hdr == m.blk.hdr, allIdentity m.θ))))
         == [(false, true, true, [(true, true, true), (false, false, true)])]) = true := by
  decide +kernel
end E2ENestedMore

namespace E2E
open Ex11
/-- `Option<x>` -/
def optOf (x : T) : T := tyPath [.node "PathSegment" [] [.node "Ident" ["Option"] [],
  .node "PathArguments::AngleBracketed" [] [.node "Ign" [] [leaf "None"], .node "List" [] [.node "GenericArgument::Type" [] [x]]]]]
/-- `impl<T, U> Kita for self where self: Dispatch<Group = g> {}` -/
def whereSelf2 (g : String) (self : T) : T :=
  implW [tyParam "T" [], tyParam "U" []] [pred self [traitBound (dispatch g)]] self
/-- the invocation of /repo/tests/supersets_1.rs: `impl<T> Kita for T where Option<T>: Dispatch<Group = GroupA>`,
    `impl<U> Kita for Vec<U> where Option<Vec<U>>: Dispatch<Group = GroupB>`,
    `impl<T> Kita for Option<T> where Option<T>: Dispatch<Group = GroupA>` -/
def itemsSupersets1 : List T := [
  implW [tyParam "T" []] [pred (optOf tT) [traitBound (dispatch "GroupA")]] tT,
  implW [tyParam "U" []] [pred (optOf (vecOf tU)) [traitBound (dispatch "GroupB")]] (vecOf tU),
  implW [tyParam "T" []] [pred (optOf tT) [traitBound (dispatch "GroupA")]] (optOf tT)]
/-- the invocation of /repo/tests/supersets_2.rs: the diamond `(T, U)`, `(Vec<T>, U)`, `(T, Vec<U>)`, `(Vec<T>, Vec<U>)`, each
    bounded on its own self type -/
def itemsSupersets2 : List T := [whereSelf2 "GroupA" (tup [tT, tU]), whereSelf2 "GroupB" (tup [vecOf tT, tU]),
  whereSelf2 "GroupC" (tup [tT, vecOf tU]), whereSelf2 "GroupD" (tup [vecOf tT, vecOf tU])]
/-- all executable side conditions of the end-to-end theorems, and the numbers of members per family -/
def nestedChecks (items : List T) (sp : List String) (sizes : List Nat) (gs : Groups) : Bool :=
  acyclicB items && gs.all (fun e => nestedGroupOK (parseEnv items) e && nestedCoversB (familyOfGroup sp e)) &&
  gs.map (fun e => e.2.2.length) == sizes
end E2E

section E2ESupersets
open E2E

/-- further non-vacuity: the two nested invocations of the implementation's own test suite (tests/supersets_1.rs — two
    families, the first with a nested member `Vec<U>` below `T`; tests/supersets_2.rs — one family of four members, a
    diamond of headers) are accepted, acyclic, and every group passes `nestedGroupOK` and `nestedCoversB`; hence every
    member satisfies both decidable hypotheses of the refinement -/
theorem C02_end_to_end_supersets_examples :
    (∃ gs, parseGroups itemsSupersets1 = .ok gs ∧ nestedChecks itemsSupersets1 ["_ŠČ0"] [2, 1] gs = true ∧
      ∀ e ∈ gs, ∀ m ∈ (familyOfGroup ["_ŠČ0"] e).members,
        memberOK (familyOfGroup ["_ŠČ0"] e) m = true ∧ thetaCoversB (familyOfGroup ["_ŠČ0"] e) m = true) ∧
    (∃ gs, parseGroups itemsSupersets2 = .ok gs ∧ nestedChecks itemsSupersets2 ["_ŠČ0", "_ŠČ1"] [4] gs = true ∧
      ∀ e ∈ gs, ∀ m ∈ (familyOfGroup ["_ŠČ0", "_ŠČ1"] e).members,
        memberOK (familyOfGroup ["_ŠČ0", "_ŠČ1"] e) m = true ∧ thetaCoversB (familyOfGroup ["_ŠČ0", "_ŠČ1"] e) m = true) := by
  have key : ∀ (items : List T) (sp : List String) (sizes : List Nat),
      (∃ gs, parseGroups items = .ok gs ∧ nestedChecks items sp sizes gs = true) →
      ∃ gs, parseGroups items = .ok gs ∧ nestedChecks items sp sizes gs = true ∧
        ∀ e ∈ gs, ∀ m ∈ (familyOfGroup sp e).members,
          memberOK (familyOfGroup sp e) m = true ∧ thetaCoversB (familyOfGroup sp e) m = true := by
    rintro items sp sizes ⟨gs, hgs, hchk⟩
    refine ⟨gs, hgs, hchk, fun e he => ?_⟩
    unfold nestedChecks at hchk
    simp only [Bool.and_eq_true, List.all_eq_true] at hchk
    exact C02_end_to_end_hypotheses items gs hgs sp e he (hchk.1.2 e he).1 (hchk.1.2 e he).2
  exact ⟨key _ _ _ (by decide +kernel), key _ _ _ (by decide +kernel)⟩
end E2ESupersets

end DI

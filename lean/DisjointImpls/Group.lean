/-
  Model of the grouping front end: `AssocBoundsGroup` (lib.rs:303-475), `make_sets` (lib.rs:1007-1034),
  the backtracking search `find_impl_group_candidates(_rec)` / `unlock_subset_impl_groups` (lib.rs:784-959)
  and `ImplGroups::parse` (lib.rs:712-781), on the positional trees of the impl blocks.
  IndexMaps are association lists in insertion order; the key of a bound is (bounded type, trait path) with the
  trait path compared by `TraitBound::eq` (bindings ignored).
-/
import DisjointImpls.Canon
import DisjointImpls.RevSub
namespace DI

abbrev BKey := T × T                          -- (Bounded, TraitBound)
abbrev Row := List (String × T)               -- IndexMap<Ident, Payload>

def keyEq (a b : BKey) : Bool := a.1 == b.1 && tbEq a.2 b.2 == .t

/-- IndexMap::extend / insert on a row: an existing identifier keeps its position and takes the new payload -/
def Row.insert (r : Row) (x : String) (p : T) : Row :=
  if r.any (fun e => e.1 == x) then r.map (fun e => if e.1 == x then (x, p) else e) else r ++ [(x, p)]

def Row.extend (r : Row) (es : List (String × T)) : Row := es.foldl (fun acc e => Row.insert acc e.1 e.2) r

structure ABG where
  bounds : List (BKey × List Row)
  unsized : List T
  deriving Repr, DecidableEq

/-- a user block after canonicalisation, with what `TraitBoundsVisitor::find` extracted from it -/
structure Blk where
  item : T
  raw : List RawBound
  deriving Repr, DecidableEq

def Blk.unsized (b : Blk) : List T := ((b.raw.filter (·.maybe)).map (·.bounded)).eraseDups

def findKey (bs : List (BKey × α)) (k : BKey) : Option α :=
  match bs with
  | [] => none
  | (k', v) :: rest => if keyEq k' k then some v else findKey rest k

/-- insert into an IndexMap keyed by `BKey`: an existing (equal) key keeps its position and its stored key -/
def insertKey (bs : List (BKey × α)) (k : BKey) (v : α) : List (BKey × α) :=
  if bs.any (fun e => keyEq e.1 k) then bs.map (fun e => if keyEq e.1 k then (e.1, v) else e) else bs ++ [(k, v)]

/-- `AssocBoundsGroup::new` (lib.rs:313-329) -/
def ABG.new (b : Blk) : ABG :=
  let bounds := b.raw.foldl (fun (acc : List (BKey × List Row)) rb =>
    let k : BKey := (rb.bounded, rb.tr)
    match findKey acc k with
    | some (r0 :: rest) => insertKey acc k (Row.extend r0 rb.binds :: rest)
    | some [] => insertKey acc k [Row.extend [] rb.binds]
    | none => acc ++ [(k, [Row.extend [] rb.binds])]) []
  ⟨bounds, b.unsized⟩

/-- `prune_non_assoc` (lib.rs:331-340) -/
def ABG.prune (g : ABG) : ABG := { g with bounds := g.bounds.filter (fun e => e.2.any (fun r => !r.isEmpty)) }

def dedupStr (xs : List String) : List String := xs.foldl (fun acc x => if acc.contains x then acc else acc ++ [x]) []

/-- `idents` (lib.rs:374-390) -/
def ABG.idents (g : ABG) : List (BKey × String) :=
  g.bounds.flatMap (fun e => (dedupStr (e.2.flatMap (fun r => r.map (·.1)))).map (fun x => (e.1, x)))

def rowLookup (r : Row) (x : String) : Option T :=
  match r with
  | [] => none
  | (y, p) :: rest => if y == x then some p else rowLookup rest x

/-- `payloads` (lib.rs:392-420): one row of optional payloads per member -/
def ABG.payloads (g : ABG) : List (List (Option T)) :=
  match g.bounds with
  | [] => []
  | first :: _ =>
      (List.range first.2.length).map (fun idx =>
        g.idents.map (fun kx => match findKey g.bounds kx.1 with
          | some rows => (match rows[idx]? with
              | some r => rowLookup r kx.2
              | none => none)
          | none => none))

def rowGeneralises (a b : List (Option T)) : Bool :=
  a.length == b.length && (List.zip a b).all (fun p => match p.1, p.2 with
    | some e1, some e2 => (match sup e1 e2 with | .yes _ _ => true | _ => false)
    | none, _ => true
    | _, _ => false)

/-- `is_overlapping` (lib.rs:342-368) -/
def ABG.isOverlapping (g : ABG) : Bool :=
  let ps := g.payloads
  let idx := List.range ps.length
  idx.any (fun i => idx.any (fun j => i != j && (match ps[i]?, ps[j]? with
    | some a, some b => rowGeneralises a b
    | _, _ => false)))

def cartesianG {α : Type} : List (List α) → List (List α)
  | [] => [[]]
  | xs :: rest => xs.flatMap (fun x => (cartesianG rest).map (fun tl => x :: tl))

/-- `intersection` (lib.rs:422-474) -/
def ABG.intersection (g : ABG) (other : Blk) (σ : Subst) : List ABG :=
  let unsized := (g.unsized ++ other.unsized).eraseDups
  -- fold the other block's bounds into a map key ↦ row
  let other' : List (BKey × Row) := other.raw.foldl (fun acc rb =>
    let k : BKey := (rb.bounded, rb.tr)
    match findKey acc k with
    | some r => insertKey acc k (Row.extend r rb.binds)
    | none => acc ++ [(k, Row.extend [] rb.binds)]) []
  let perKey : List (List (Option (BKey × List Row))) := other'.map (fun e =>
    (substituteBound σ e.1.1 e.1.2).map (fun sk =>
      match findKey g.bounds sk with
      | some rows => some (sk, rows ++ [e.2])
      | none => none))
  (cartesianG perKey).map (fun combo =>
    let bounds := (combo.filterMap id).foldl (fun (acc : List (BKey × List Row)) e => insertKey acc e.1 e.2) []
    let params := bounds.map (fun e => e.1.1)
    ⟨bounds, unsized.filter (fun p => params.contains p)⟩)

/-! ### the search -/

abbrev Groups := List (T × ABG × List Blk)          -- IndexMap<&ImplGroupId, (AssocBoundsGroup, Vec<&ItemImpl>)>
abbrev Supersets := List (T × Nat)
abbrev Subsets := List (T × List (T × Subst))

def Supersets.get (s : Supersets) (id : T) : Nat := match s.find? (fun e => e.1 == id) with | some e => e.2 | none => 0
def Supersets.dec (s : Supersets) (id : T) : Supersets := s.map (fun e => if e.1 == id then (e.1, e.2 - 1) else e)
def Subsets.get (s : Subsets) (id : T) : List (T × Subst) := match s.find? (fun e => e.1 == id) with | some e => e.2 | none => []

structure Env where
  buckets : List (T × List Blk)
  subsets : Subsets

def Env.impls (e : Env) (id : T) : List Blk := match e.buckets.find? (fun b => b.1 == id) with | some b => b.2 | none => []

def setGroup (gs : Groups) (id : T) (v : ABG × List Blk) : Groups := gs.map (fun e => if e.1 == id then (e.1, v) else e)

inductive SearchErr where | unwrapNone | fuel
  deriving Repr, DecidableEq

mutual
/-- `find_impl_group_candidates_rec` (lib.rs:817-917); returns the candidates and the threaded superset counters -/
def searchRec (env : Env) : Nat → T → List Blk → Supersets → Groups → Except SearchErr (List Groups × Supersets)
  | 0, _, _, _, _ => .error .fuel
  | fuel + 1, currId, [], sup, groups => searchUnlock env fuel currId (env.subsets.get currId) sup [groups]
  | fuel + 1, currId, curr :: other, sup, groups =>
      -- try to join every existing group that generalises (or equals) the current header
      let tryGroups := groups.foldl (fun (st : Except SearchErr (List Groups × Supersets × Bool)) ge =>
        match st with
        | .error e => .error e
        | .ok (acc, newSup, any) =>
          let gid := ge.1
          let subs? : Except SearchErr (Option Subst) :=
            match (env.subsets.get gid).find? (fun e => e.1 == currId) with
            | some e => .ok (some e.2)
            | none => if gid == currId then
                (match DI.sup gid currId with
                 | .yes σ _ => .ok (some σ)
                 | _ => .error .unwrapNone)
              else .ok none
          match subs? with
          | .error e => .error e
          | .ok none => .ok (acc, newSup, any)
          | .ok (some σ) =>
            (ge.2.1.intersection curr σ).foldl (fun (st2 : Except SearchErr (List Groups × Supersets × Bool)) inter =>
              match st2 with
              | .error e => .error e
              | .ok (acc2, newSup2, any2) =>
                match searchRec env fuel currId other sup (setGroup groups gid (inter, ge.2.2 ++ [curr])) with
                | .error e => .error e
                | .ok (res, sup') => if res.isEmpty then .ok (acc2, newSup2, any2) else .ok (acc2 ++ res, sup', true))
              (.ok (acc, newSup, any))) (.ok ([], sup, false))
      match tryGroups with
      | .error e => .error e
      | .ok (acc, newSup, any) =>
        -- a fresh group for this header if it has none yet
        let fresh : Except SearchErr (List Groups × Supersets × Bool) :=
          if groups.any (fun ge => ge.1 == currId) then .ok (acc, newSup, any)
          else match searchRec env fuel currId other sup (groups ++ [(currId, ABG.new curr, [curr])]) with
            | .error e => .error e
            | .ok (res, sup') => if res.isEmpty then .ok (acc, newSup, any) else .ok (acc ++ res, sup', true)
        match fresh with
        | .error e => .error e
        | .ok (acc, newSup, any) => .ok (acc, if any then newSup else sup)
/-- `unlock_subset_impl_groups` (lib.rs:919-959), iterating over the remaining subset ids -/
def searchUnlock (env : Env) : Nat → T → List (T × Subst) → Supersets → List Groups → Except SearchErr (List Groups × Supersets)
  | 0, _, _, _, _ => .error .fuel
  | _ + 1, _, [], sup, acc => .ok (acc, sup)
  | fuel + 1, currId, (subId, _) :: rest, sup, acc =>
      let sup1 := sup.dec subId
      if sup1.get subId == 0 then
        let step := acc.foldl (fun (st : Except SearchErr (List Groups × Supersets)) g =>
          match st with
          | .error e => .error e
          | .ok (out, _) =>
            match searchRec env fuel subId (env.impls subId) sup1 g with
            | .error e => .error e
            | .ok (res, sup') => .ok (out ++ res, sup')) (.ok ([], sup1))
        match step with
        | .error e => .error e
        | .ok (acc', sup') => searchUnlock env fuel currId rest sup' acc'
      else searchUnlock env fuel currId rest sup1 acc
end

/-- `a` generalises `b` (`sup a b` answers yes): the test `make_sets` (lib.rs:1007-1034) applies to pairs of ids -/
def supYes (a b : T) : Bool :=
  match DI.sup a b with
  | .yes _ _ => true
  | _ => false

/-- ids that generalise each other: only the earlier one counts as the superset of the later one (lib.rs:1022-1031) -/
def makeSets (ids : List T) : Supersets × Subsets :=
  let ix := ids.zipIdx
  let pairs := ix.flatMap (fun g1 => ix.filterMap (fun g2 =>
    if g1.1 == g2.1 then none else match DI.sup g1.1 g2.1 with
      | .yes σ _ => if g1.2 > g2.2 && supYes g2.1 g1.1 then none else some (g1.1, g2.1, σ)
      | _ => none))
  (ids.map (fun id => (id, (pairs.filter (fun p => p.2.1 == id)).length)),
   ids.map (fun id => (id, (pairs.filter (fun p => p.1 == id)).map (fun p => (p.2.1, p.2.2)))))

/-- the candidate filter of `find_impl_group_candidates` (lib.rs:799-814) -/
def filterCandidate (gs : Groups) : Option Groups :=
  let pruned := gs.map (fun e => (e.1, e.2.1.prune, e.2.2))
  if pruned.any (fun e => e.2.1.bounds.isEmpty || e.2.1.isOverlapping) then none else some pruned

/-- the `reduce` of lib.rs:755-763: a candidate with the fewest groups, the later one on ties -/
def chooseCandidate : List Groups → Option Groups
  | [] => none
  | c :: cs => some (cs.foldl (fun acc x => if acc.length >= x.length then x else acc) c)

inductive ParseResult where
  | ok (groups : Groups)
  | unableToForm (id : T)
  | panic (e : SearchErr)
  deriving Repr

def groupIdOf (item : T) : T := mkHdr item

/-- buckets by group id, in insertion order; a textually identical block replaces the earlier one (IndexMap<ItemImpl, _>) -/
def mkBuckets (blocks : List Blk) : List (T × List Blk) :=
  blocks.foldl (fun acc b =>
    let id := groupIdOf b.item
    match acc.find? (fun e => e.1 == id) with
    | some _ => acc.map (fun e => if e.1 == id then
        (e.1, if e.2.any (fun x => x.item == b.item) then e.2.map (fun x => if x.item == b.item then b else x) else e.2 ++ [b]) else e)
    | none => acc ++ [(id, [b])]) []

def mkBlk (rawItem : T) : Blk :=
  let item := canon rawItem
  ⟨item, findBounds ((implGenerics item).getD (.node "?" [] []))⟩

/-- `ImplGroups::parse` without validation: from the raw parse of the blocks to the chosen grouping -/
def parseGroups (rawItems : List T) : ParseResult :=
  let blocks := rawItems.map mkBlk
  let buckets := mkBuckets blocks
  let ids := buckets.map (·.1)
  let (sup0, subs) := makeSets ids
  let env : Env := ⟨buckets, subs⟩
  let roots := (sup0.filter (fun e => e.2 == 0)).map (·.1)
  let fuel := blocks.length + ids.length + 2
  let rec go (roots : List T) (sup : Supersets) (acc : Groups) : ParseResult :=
    match roots with
    | [] => .ok acc
    | r :: rest =>
      match searchRec env (2 * fuel) r (env.impls r) sup [] with
      | .error e => .panic e
      | .ok (cands, sup') =>
        match chooseCandidate (cands.filterMap filterCandidate) with
        | none => .unableToForm r
        | some g => go rest sup' (acc ++ g)
  go roots sup0 []

end DI

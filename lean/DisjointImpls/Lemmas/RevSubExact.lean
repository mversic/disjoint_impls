/-
  C10, exactness: reverse substitution (`revSub (reverseMap σ)`, model `RevSub.lean`) produces EXACTLY the
  re-expressions of a term and nothing else.

  Core-only.
-/
import DisjointImpls.Lemmas.RevSubLemmas
namespace DI

theorem offered_nil_rx (v : Val) : offered_rx [] v = [] := rfl

/-- without the key condition a parameter bound to the value is still offered -/
theorem mem_offered_of_lookup_rx {σ : Subst} {v : Val} {p : String} (h : lookup σ p = some v) :
    p ∈ offered_rx σ v := mem_offered_rx.2 (lookup_mem σ p v h)

theorem offered_nodup_rx {σ : Subst} (hσ : (σ.map Prod.fst).Nodup) (v : Val) : (offered_rx σ v).Nodup :=
  List.Sublist.nodup (offered_sublist_rx σ v) hσ

/-! ### The specification -/

mutual
/-- `IsReexprBy_rx off t r`: `r` is `t` with every outermost replaceable sub-term for which `off` offers something
    replaced by one of the offered parameters -/
def IsReexprBy_rx (off : Val → List String) : T → T → Prop
  | .tparam n, r =>
      if off (.ty (.tparam n)) = [] then r = .tparam n
      else ∃ p, p ∈ off (.ty (.tparam n)) ∧ r = .tparam p
  | .eparam n, r =>
      if off (.ex (.eparam n)) = [] then r = .eparam n
      else ∃ p, p ∈ off (.ex (.eparam n)) ∧ r = .eparam p
  | .node k as ks, r =>
      if isTypeKind k then
        if off (.ty (.node k as ks)) = [] then ∃ rs, r = .node k as rs ∧ IsReexprByL_rx off ks rs
        else ∃ p, p ∈ off (.ty (.node k as ks)) ∧ r = .tparam p
      else if isExprKind k then
        if off (.ex (.node k as ks)) = [] then ∃ rs, r = .node k as rs ∧ IsReexprByL_rx off ks rs
        else ∃ p, p ∈ off (.ex (.node k as ks)) ∧ r = .eparam p
      else if isVerbatimKind k then r = .node k as ks
      else ∃ rs, r = .node k as rs ∧ IsReexprByL_rx off ks rs
/-- children are re-expressed independently, position by position -/
def IsReexprByL_rx (off : Val → List String) : List T → List T → Prop
  | [], rs => rs = []
  | t :: ts, rs => ∃ r rs', rs = r :: rs' ∧ IsReexprBy_rx off t r ∧ IsReexprByL_rx off ts rs'
end

mutual
/-- the number of re-expressions: the product, over the outermost replaceable sub-terms for which something is
    offered, of the number of offered parameters -/
def countBy_rx (off : Val → List String) : T → Nat
  | .tparam n => if off (.ty (.tparam n)) = [] then 1 else (off (.ty (.tparam n))).length
  | .eparam n => if off (.ex (.eparam n)) = [] then 1 else (off (.ex (.eparam n))).length
  | .node k as ks =>
      if isTypeKind k then
        if off (.ty (.node k as ks)) = [] then countByL_rx off ks else (off (.ty (.node k as ks))).length
      else if isExprKind k then
        if off (.ex (.node k as ks)) = [] then countByL_rx off ks else (off (.ex (.node k as ks))).length
      else if isVerbatimKind k then 1
      else countByL_rx off ks
def countByL_rx (off : Val → List String) : List T → Nat
  | [] => 1
  | t :: ts => countBy_rx off t * countByL_rx off ts
end

/-! ### Unfolding the specification -/

theorem isReexprBy_tparam_rx (off : Val → List String) (n : String) (r : T) :
    IsReexprBy_rx off (.tparam n) r ↔
      if off (.ty (.tparam n)) = [] then r = .tparam n else ∃ p, p ∈ off (.ty (.tparam n)) ∧ r = .tparam p := by
  rw [IsReexprBy_rx]

theorem isReexprBy_eparam_rx (off : Val → List String) (n : String) (r : T) :
    IsReexprBy_rx off (.eparam n) r ↔
      if off (.ex (.eparam n)) = [] then r = .eparam n else ∃ p, p ∈ off (.ex (.eparam n)) ∧ r = .eparam p := by
  rw [IsReexprBy_rx]

theorem isReexprBy_node_rx (off : Val → List String) (k : String) (as : List String) (ks : List T) (r : T) :
    IsReexprBy_rx off (.node k as ks) r ↔
      if isTypeKind k then
        if off (.ty (.node k as ks)) = [] then ∃ rs, r = .node k as rs ∧ IsReexprByL_rx off ks rs
        else ∃ p, p ∈ off (.ty (.node k as ks)) ∧ r = .tparam p
      else if isExprKind k then
        if off (.ex (.node k as ks)) = [] then ∃ rs, r = .node k as rs ∧ IsReexprByL_rx off ks rs
        else ∃ p, p ∈ off (.ex (.node k as ks)) ∧ r = .eparam p
      else if isVerbatimKind k then r = .node k as ks
      else ∃ rs, r = .node k as rs ∧ IsReexprByL_rx off ks rs := by
  rw [IsReexprBy_rx]

theorem isReexprByL_nil_rx (off : Val → List String) (rs : List T) : IsReexprByL_rx off [] rs ↔ rs = [] := by
  rw [IsReexprByL_rx]

theorem isReexprByL_cons_rx (off : Val → List String) (t : T) (ts rs : List T) :
    IsReexprByL_rx off (t :: ts) rs ↔
      ∃ r rs', rs = r :: rs' ∧ IsReexprBy_rx off t r ∧ IsReexprByL_rx off ts rs' := by
  rw [IsReexprByL_rx]

/-! ### The characterisation -/

/-- `revSub` on a node (`revSub_node`), its specification above, the count and the checker below all decide by the same
    cascade: replaced as a whole under the node's own kind (unless nothing is offered), kept verbatim, or rebuilt from the
    children. What relates two of them arm by arm relates them. -/
theorem kindCascade_rel {α β : Sort _} (R : α → β → Prop) (k : String) {p q p' q' : Prop} [Decidable p] [Decidable q]
    [Decidable p'] [Decidable q'] (hp : p ↔ p') (hq : q ↔ q') {kids hitT hitE verb : α} {kids' hitT' hitE' verb' : β}
    (hk : R kids kids') (hT : R hitT hitT') (hE : R hitE hitE') (hV : R verb verb') :
    R (if isTypeKind k then if p then kids else hitT
       else if isExprKind k then if q then kids else hitE
       else if isVerbatimKind k then verb else kids)
      (if isTypeKind k then if p' then kids' else hitT'
       else if isExprKind k then if q' then kids' else hitE'
       else if isVerbatimKind k then verb' else kids') :=
  ite_rel R Iff.rfl (ite_rel R hp hk hT) (ite_rel R Iff.rfl (ite_rel R hq hk hE) (ite_rel R Iff.rfl hV hk))

/-- the candidate lists of the children, combined by the cartesian product, are the pointwise re-expressions -/
theorem mem_cartesian_revSubL_rx {rm : RevMap} {off : Val → List String} : ∀ (ks rs : List T),
    (∀ t ∈ ks, ∀ r, r ∈ revSub rm t ↔ IsReexprBy_rx off t r) →
    (rs ∈ cartesian (revSubL rm ks) ↔ IsReexprByL_rx off ks rs)
  | [], rs, _ => by
      rw [revSubL, isReexprByL_nil_rx]
      simp [cartesian]
  | t :: ts, rs, ih => by
      rw [revSubL, isReexprByL_cons_rx, mem_cartesian_cons]
      have iht := fun tl => mem_cartesian_revSubL_rx (off := off) (rm := rm) ts tl
        (fun t ht => ih t (List.mem_cons_of_mem _ ht))
      constructor
      · rintro ⟨x, hx, tl, htl, rfl⟩
        exact ⟨x, tl, rfl, (ih t (by simp) x).1 hx, (iht tl).1 htl⟩
      · rintro ⟨x, tl, rfl, hx, htl⟩
        exact ⟨x, (ih t (by simp) x).2 hx, tl, (iht tl).2 htl, rfl⟩

/-- exactness, for every reverse map without empty hits: the results of `revSub rm t` are exactly the
    re-expressions of `t` by what the map offers -/
theorem mem_revSub_iff_rx (rm : RevMap) (hne : ∀ v, RevMap.find rm v ≠ some []) :
    ∀ (t r : T), r ∈ revSub rm t ↔ IsReexprBy_rx (offOf_rx rm) t r := by
  apply T.ind
  · intro n r
    rw [revSub_tparam, isReexprBy_tparam_rx]
    exact ite_rel (r ∈ · ↔ ·) Iff.rfl List.mem_singleton mem_map_iff
  · intro n r
    rw [revSub_eparam, isReexprBy_eparam_rx]
    exact ite_rel (r ∈ · ↔ ·) Iff.rfl List.mem_singleton mem_map_iff
  · intro k as ks ih r
    have hkids : r ∈ (cartesian (revSubL rm ks)).map (T.node k as) ↔
        ∃ rs, r = .node k as rs ∧ IsReexprByL_rx (offOf_rx rm) ks rs := by
      rw [mem_map_iff]
      constructor
      · rintro ⟨rs, h, e⟩; exact ⟨rs, e, (mem_cartesian_revSubL_rx ks rs ih).1 h⟩
      · rintro ⟨rs, e, h⟩; exact ⟨rs, (mem_cartesian_revSubL_rx ks rs ih).2 h, e⟩
    rw [revSub_node hne, isReexprBy_node_rx]
    exact kindCascade_rel (r ∈ · ↔ ·) k Iff.rfl Iff.rfl hkids mem_map_iff mem_map_iff List.mem_singleton

/-! ### The count -/

theorem length_cartesian_revSubL_rx {rm : RevMap} {off : Val → List String} : ∀ (ks : List T),
    (∀ t ∈ ks, (revSub rm t).length = countBy_rx off t) →
    (cartesian (revSubL rm ks)).length = countByL_rx off ks
  | [], _ => by rw [revSubL, countByL_rx]; rfl
  | t :: ts, ih => by
      rw [revSubL, countByL_rx, length_cartesian_cons, ih t (by simp),
        length_cartesian_revSubL_rx ts (fun t ht => ih t (List.mem_cons_of_mem _ ht))]

/-- the number of results of `revSub rm t`, for every reverse map without empty hits -/
theorem length_revSub_rx (rm : RevMap) (hne : ∀ v, RevMap.find rm v ≠ some []) :
    ∀ (t : T), (revSub rm t).length = countBy_rx (offOf_rx rm) t := by
  apply T.ind
  · intro n
    rw [revSub_tparam, countBy_rx]
    exact ite_rel (List.length · = ·) Iff.rfl rfl (List.length_map _)
  · intro n
    rw [revSub_eparam, countBy_rx]
    exact ite_rel (List.length · = ·) Iff.rfl rfl (List.length_map _)
  · intro k as ks ih
    have hkids : ((cartesian (revSubL rm ks)).map (T.node k as)).length = countByL_rx (offOf_rx rm) ks := by
      rw [List.length_map]; exact length_cartesian_revSubL_rx ks ih
    rw [revSub_node hne, countBy_rx]
    exact kindCascade_rel (List.length · = ·) k Iff.rfl Iff.rfl hkids (List.length_map _) (List.length_map _) rfl

/-! ### Instantiation to `reverseMap σ` -/

/-- `r` is a re-expression of `t` over the parameters of σ -/
def IsReexpr_rx (σ : Subst) (t r : T) : Prop := IsReexprBy_rx (offered_rx σ) t r

def IsReexprL_rx (σ : Subst) (ts rs : List T) : Prop := IsReexprByL_rx (offered_rx σ) ts rs

/-- the number of re-expressions of `t` over the parameters of σ -/
def reexprCount_rx (σ : Subst) (t : T) : Nat := countBy_rx (offered_rx σ) t

theorem mem_revSub_reverseMap_iff_rx (σ : Subst) (t r : T) :
    r ∈ revSub (reverseMap σ) t ↔ IsReexpr_rx σ t r := by
  rw [mem_revSub_iff_rx _ (reverseMap_no_empty_hit_rx σ), offOf_reverseMap_rx]; rfl

theorem length_revSub_reverseMap_rx (σ : Subst) (t : T) :
    (revSub (reverseMap σ) t).length = reexprCount_rx σ t := by
  rw [length_revSub_rx _ (reverseMap_no_empty_hit_rx σ), offOf_reverseMap_rx]; rfl

theorem mem_substituteBound_iff_rx (σ : Subst) (b tr : T) (p : T × T) :
    p ∈ substituteBound σ b tr ↔ IsReexpr_rx σ b p.1 ∧ IsReexpr_rx σ tr p.2 := by
  rw [mem_substituteBound, mem_revSub_reverseMap_iff_rx, mem_revSub_reverseMap_iff_rx]

theorem length_substituteBound_rx (σ : Subst) (b tr : T) :
    (substituteBound σ b tr).length = reexprCount_rx σ b * reexprCount_rx σ tr := by
  simp only [substituteBound]
  rw [length_flatMap_map, length_revSub_reverseMap_rx, length_revSub_reverseMap_rx]

theorem substituteBound_nodup_rx {σ : Subst} (hσ : (σ.map Prod.fst).Nodup) (b tr : T) :
    (substituteBound σ b tr).Nodup :=
  nodup_flatMap_map (fun _ _ _ _ e => Prod.mk.inj e) (revSub_nodup hσ b) (revSub_nodup hσ tr)

/-! ### An executable checker of the specification (independent of `revSub`) -/

def hitT_rx (ns : List String) : T → Bool
  | .tparam p => ns.contains p
  | _ => false

def hitE_rx (ns : List String) : T → Bool
  | .eparam p => ns.contains p
  | _ => false

/-- the children of `r` if `r` is a node with kind `k` and atoms `as` -/
def nodeKids_rx (k : String) (as : List String) : T → Option (List T)
  | .node k' as' rs => if k' = k ∧ as' = as then some rs else none
  | _ => none

mutual
def isReexprBy_rx (off : Val → List String) : T → T → Bool
  | .tparam n, r =>
      if (off (.ty (.tparam n))).isEmpty then r == .tparam n else hitT_rx (off (.ty (.tparam n))) r
  | .eparam n, r =>
      if (off (.ex (.eparam n))).isEmpty then r == .eparam n else hitE_rx (off (.ex (.eparam n))) r
  | .node k as ks, r =>
      if isTypeKind k then
        if (off (.ty (.node k as ks))).isEmpty then
          (match nodeKids_rx k as r with
           | some rs => isReexprByL_rx off ks rs
           | none => false)
        else hitT_rx (off (.ty (.node k as ks))) r
      else if isExprKind k then
        if (off (.ex (.node k as ks))).isEmpty then
          (match nodeKids_rx k as r with
           | some rs => isReexprByL_rx off ks rs
           | none => false)
        else hitE_rx (off (.ex (.node k as ks))) r
      else if isVerbatimKind k then r == .node k as ks
      else
        (match nodeKids_rx k as r with
         | some rs => isReexprByL_rx off ks rs
         | none => false)
def isReexprByL_rx (off : Val → List String) : List T → List T → Bool
  | [], rs => rs.isEmpty
  | _ :: _, [] => false
  | t :: ts, r :: rs => isReexprBy_rx off t r && isReexprByL_rx off ts rs
end

/-- executable form of `IsReexpr_rx` -/
def isReexpr_rx (σ : Subst) (t r : T) : Bool := isReexprBy_rx (offered_rx σ) t r

theorem hitT_iff_rx {ns : List String} {r : T} : hitT_rx ns r = true ↔ ∃ p, p ∈ ns ∧ r = .tparam p := by
  cases r <;> simp [hitT_rx]

theorem hitE_iff_rx {ns : List String} {r : T} : hitE_rx ns r = true ↔ ∃ p, p ∈ ns ∧ r = .eparam p := by
  cases r <;> simp [hitE_rx]

theorem nodeKids_iff_rx {k : String} {as : List String} {r : T} {rs : List T} :
    nodeKids_rx k as r = some rs ↔ r = .node k as rs := by
  cases r with
  | tparam q => simp [nodeKids_rx]
  | eparam q => simp [nodeKids_rx]
  | node k' as' rs' =>
    simp only [nodeKids_rx, T.node.injEq]
    constructor
    · intro h
      split at h
      · next hc => cases h; exact ⟨hc.1, hc.2, rfl⟩
      · cases h
    · rintro ⟨rfl, rfl, rfl⟩; simp

theorem kidsMatch_iff_rx {k : String} {as : List String} {r : T} {f : List T → Bool} {P : List T → Prop}
    (h : ∀ rs, f rs = true ↔ P rs) :
    (match nodeKids_rx k as r with
     | some rs => f rs
     | none => false) = true ↔ ∃ rs, r = .node k as rs ∧ P rs := by
  cases hn : nodeKids_rx k as r with
  | none =>
    simp only [Bool.false_eq_true, false_iff]
    rintro ⟨rs, e, _⟩
    rw [nodeKids_iff_rx.2 e] at hn; cases hn
  | some rs =>
    have e := nodeKids_iff_rx.1 hn
    simp only
    constructor
    · intro hf; exact ⟨rs, e, (h rs).1 hf⟩
    · rintro ⟨rs', e', hp⟩
      rw [e] at e'
      cases e'
      exact (h rs).2 hp

theorem isReexprByL_iff_rx {off : Val → List String} : ∀ (ks rs : List T),
    (∀ t ∈ ks, ∀ r, isReexprBy_rx off t r = true ↔ IsReexprBy_rx off t r) →
    (isReexprByL_rx off ks rs = true ↔ IsReexprByL_rx off ks rs)
  | [], rs, _ => by
      rw [isReexprByL_rx, isReexprByL_nil_rx]; simp
  | t :: ts, [], _ => by
      rw [isReexprByL_rx, isReexprByL_cons_rx]; simp
  | t :: ts, r :: rs, ih => by
      rw [isReexprByL_rx, isReexprByL_cons_rx, Bool.and_eq_true, ih t (by simp) r,
        isReexprByL_iff_rx ts rs (fun t ht => ih t (List.mem_cons_of_mem _ ht))]
      constructor
      · rintro ⟨h1, h2⟩; exact ⟨r, rs, rfl, h1, h2⟩
      · rintro ⟨r', rs', e, h1, h2⟩; cases e; exact ⟨h1, h2⟩

/-- the checker decides the specification -/
theorem isReexprBy_iff_rx (off : Val → List String) :
    ∀ (t r : T), isReexprBy_rx off t r = true ↔ IsReexprBy_rx off t r := by
  apply T.ind
  · intro n r
    rw [isReexprBy_rx, isReexprBy_tparam_rx]
    exact ite_rel (· = true ↔ ·) List.isEmpty_iff beq_iff_eq hitT_iff_rx
  · intro n r
    rw [isReexprBy_rx, isReexprBy_eparam_rx]
    exact ite_rel (· = true ↔ ·) List.isEmpty_iff beq_iff_eq hitE_iff_rx
  · intro k as ks ih r
    have hk := kidsMatch_iff_rx (k := k) (as := as) (r := r) (fun rs => isReexprByL_iff_rx ks rs ih)
    rw [isReexprBy_rx, isReexprBy_node_rx]
    exact kindCascade_rel (· = true ↔ ·) k List.isEmpty_iff List.isEmpty_iff hk hitT_iff_rx hitE_iff_rx beq_iff_eq

theorem isReexpr_iff_rx (σ : Subst) (t r : T) : isReexpr_rx σ t r = true ↔ IsReexpr_rx σ t r :=
  isReexprBy_iff_rx _ t r

instance (σ : Subst) (t r : T) : Decidable (IsReexpr_rx σ t r) :=
  decidable_of_iff _ (isReexpr_iff_rx σ t r)

/-! ### The specification by kind of the root -/

theorem isReexprBy_node_ty_rx {off : Val → List String} {k : String} (as : List String) (ks : List T) (r : T)
    (hT : isTypeKind k = true) :
    IsReexprBy_rx off (.node k as ks) r ↔
      if off (.ty (.node k as ks)) = [] then ∃ rs, r = .node k as rs ∧ IsReexprByL_rx off ks rs
      else ∃ p, p ∈ off (.ty (.node k as ks)) ∧ r = .tparam p := by
  rw [isReexprBy_node_rx, if_pos hT]

theorem isReexprBy_node_ex_rx {off : Val → List String} {k : String} (as : List String) (ks : List T) (r : T)
    (hT : isTypeKind k = false) (hE : isExprKind k = true) :
    IsReexprBy_rx off (.node k as ks) r ↔
      if off (.ex (.node k as ks)) = [] then ∃ rs, r = .node k as rs ∧ IsReexprByL_rx off ks rs
      else ∃ p, p ∈ off (.ex (.node k as ks)) ∧ r = .eparam p := by
  rw [isReexprBy_node_rx, if_neg (by simp [hT]), if_pos hE]

theorem isReexprBy_node_verbatim_rx {off : Val → List String} {k : String} (as : List String) (ks : List T) (r : T)
    (hT : isTypeKind k = false) (hE : isExprKind k = false) (hV : isVerbatimKind k = true) :
    IsReexprBy_rx off (.node k as ks) r ↔ r = .node k as ks := by
  rw [isReexprBy_node_rx, if_neg (by simp [hT]), if_neg (by simp [hE]), if_pos hV]

theorem isReexprBy_node_other_rx {off : Val → List String} {k : String} (as : List String) (ks : List T) (r : T)
    (hT : isTypeKind k = false) (hE : isExprKind k = false) (hV : isVerbatimKind k = false) :
    IsReexprBy_rx off (.node k as ks) r ↔ ∃ rs, r = .node k as rs ∧ IsReexprByL_rx off ks rs := by
  rw [isReexprBy_node_rx, if_neg (by simp [hT]), if_neg (by simp [hE]), if_neg (by simp [hV])]

theorem isReexprByL_imp_rx {off off' : Val → List String} : ∀ (ks rs : List T),
    (∀ t ∈ ks, ∀ r, IsReexprBy_rx off t r → IsReexprBy_rx off' t r) →
    IsReexprByL_rx off ks rs → IsReexprByL_rx off' ks rs
  | [], rs, _, h => by rw [isReexprByL_nil_rx] at h ⊢; exact h
  | t :: ts, rs, ih, h => by
      rw [isReexprByL_cons_rx] at h ⊢
      obtain ⟨r, rs', e, h1, h2⟩ := h
      exact ⟨r, rs', e, ih t (by simp) r h1,
        isReexprByL_imp_rx ts rs' (fun t ht => ih t (List.mem_cons_of_mem _ ht)) h2⟩

/-! ### Equations of `revSub (reverseMap σ)` (with the order of the results) -/

theorem revSub_reverseMap_tparam_rx (σ : Subst) (n : String) :
    revSub (reverseMap σ) (.tparam n) =
      if offered_rx σ (.ty (.tparam n)) = [] then [.tparam n] else (offered_rx σ (.ty (.tparam n))).map .tparam := by
  rw [revSub_tparam, offOf_reverseMap_rx]

theorem revSub_reverseMap_eparam_rx (σ : Subst) (n : String) :
    revSub (reverseMap σ) (.eparam n) =
      if offered_rx σ (.ex (.eparam n)) = [] then [.eparam n] else (offered_rx σ (.ex (.eparam n))).map .eparam := by
  rw [revSub_eparam, offOf_reverseMap_rx]

theorem revSub_reverseMap_node_rx (σ : Subst) (k : String) (as : List String) (ks : List T) :
    revSub (reverseMap σ) (.node k as ks) =
      if isTypeKind k then
        if offered_rx σ (.ty (.node k as ks)) = [] then (cartesian (revSubL (reverseMap σ) ks)).map (.node k as)
        else (offered_rx σ (.ty (.node k as ks))).map .tparam
      else if isExprKind k then
        if offered_rx σ (.ex (.node k as ks)) = [] then (cartesian (revSubL (reverseMap σ) ks)).map (.node k as)
        else (offered_rx σ (.ex (.node k as ks))).map .eparam
      else if isVerbatimKind k then [.node k as ks]
      else (cartesian (revSubL (reverseMap σ) ks)).map (.node k as) := by
  rw [revSub_node (reverseMap_no_empty_hit_rx σ), offOf_reverseMap_rx]

/-- outermost wins, type kind: a type-kind node for which something is offered is replaced as a whole, by exactly the
    offered parameters in insertion order; nothing below it is looked at -/
theorem revSub_reverseMap_ty_hit_rx (σ : Subst) {k : String} (as : List String) (ks : List T)
    (hT : isTypeKind k = true) (h : offered_rx σ (.ty (.node k as ks)) ≠ []) :
    revSub (reverseMap σ) (.node k as ks) = (offered_rx σ (.ty (.node k as ks))).map .tparam := by
  rw [revSub_reverseMap_node_rx, if_pos hT, if_neg h]

/-- outermost wins, expression kind -/
theorem revSub_reverseMap_ex_hit_rx (σ : Subst) {k : String} (as : List String) (ks : List T)
    (hT : isTypeKind k = false) (hE : isExprKind k = true) (h : offered_rx σ (.ex (.node k as ks)) ≠ []) :
    revSub (reverseMap σ) (.node k as ks) = (offered_rx σ (.ex (.node k as ks))).map .eparam := by
  rw [revSub_reverseMap_node_rx, if_neg (Bool.eq_false_iff.1 hT), if_pos hE, if_neg h]

/-- a node that is not replaced as a whole (nothing offered under its own kind, or a kind that is never replaced) and
    is not kept verbatim: the children are rewritten independently and combined by the cartesian product -/
theorem revSub_reverseMap_kids_rx (σ : Subst) {k : String} (as : List String) (ks : List T)
    (h : (isTypeKind k = true ∧ offered_rx σ (.ty (.node k as ks)) = []) ∨
      (isTypeKind k = false ∧ isExprKind k = true ∧ offered_rx σ (.ex (.node k as ks)) = []) ∨
      (isTypeKind k = false ∧ isExprKind k = false ∧ isVerbatimKind k = false)) :
    revSub (reverseMap σ) (.node k as ks) = (cartesian (revSubL (reverseMap σ) ks)).map (.node k as) := by
  rw [revSub_reverseMap_node_rx]
  rcases h with ⟨hT, h⟩ | ⟨hT, hE, h⟩ | ⟨hT, hE, hV⟩
  · rw [if_pos hT, if_pos h]
  · rw [if_neg (Bool.eq_false_iff.1 hT), if_pos hE, if_pos h]
  · rw [if_neg (Bool.eq_false_iff.1 hT), if_neg (Bool.eq_false_iff.1 hE), if_neg (Bool.eq_false_iff.1 hV)]

/-- `Ign` / `IgnL` / `Eq` nodes are kept verbatim -/
theorem revSub_reverseMap_verbatim_rx (σ : Subst) {k : String} (as : List String) (ks : List T)
    (hT : isTypeKind k = false) (hE : isExprKind k = false) (hV : isVerbatimKind k = true) :
    revSub (reverseMap σ) (.node k as ks) = [.node k as ks] := by
  rw [revSub_reverseMap_node_rx, if_neg (Bool.eq_false_iff.1 hT), if_neg (Bool.eq_false_iff.1 hE), if_pos hV]

/-! ### Is the value of a parameter re-expressed by that parameter? (kinds) -/

/-- the shapes that are looked up as a `.ty` value -/
def tyReplaceable_rx : T → Bool
  | .tparam _ => true
  | .eparam _ => false
  | .node k _ _ => isTypeKind k

/-- the shapes that are looked up as an `.ex` value -/
def exReplaceable_rx : T → Bool
  | .tparam _ => false
  | .eparam _ => true
  | .node k _ _ => !isTypeKind k && isExprKind k

/-- a bare type parameter among the results for a node is one offered for the node as a `.ty` value -/
theorem tparam_mem_revSub_node_rx {rm : RevMap} (hne : ∀ v, RevMap.find rm v ≠ some []) {p k : String}
    {as : List String} {ks : List T} :
    .tparam p ∈ revSub rm (.node k as ks) ↔ isTypeKind k = true ∧ p ∈ offOf_rx rm (.ty (.node k as ks)) := by
  rw [revSub_node hne]
  by_cases hT : isTypeKind k = true
  · by_cases ho : offOf_rx rm (.ty (.node k as ks)) = [] <;> simp [hT, ho]
  · by_cases hE : isExprKind k = true
    · by_cases ho : offOf_rx rm (.ex (.node k as ks)) = [] <;> simp [hT, hE, ho]
    · by_cases hV : isVerbatimKind k = true <;> simp [hT, hE, hV]

theorem eparam_mem_revSub_node_rx {rm : RevMap} (hne : ∀ v, RevMap.find rm v ≠ some []) {p k : String}
    {as : List String} {ks : List T} :
    .eparam p ∈ revSub rm (.node k as ks) ↔
      isTypeKind k = false ∧ isExprKind k = true ∧ p ∈ offOf_rx rm (.ex (.node k as ks)) := by
  rw [revSub_node hne]
  by_cases hT : isTypeKind k = true
  · by_cases ho : offOf_rx rm (.ty (.node k as ks)) = [] <;> simp [hT, ho]
  · by_cases hE : isExprKind k = true
    · by_cases ho : offOf_rx rm (.ex (.node k as ks)) = [] <;> simp [hT, hE, ho]
    · by_cases hV : isVerbatimKind k = true <;> simp [hT, hE, hV]

/-- a parameter with the entry `(p, .ty v)` is offered for the term `v` itself exactly if `v` is a type parameter or a
    type-kind node -/
theorem tparam_mem_revSub_value_rx {σ : Subst} {p : String} {v : T} (h : (p, Val.ty v) ∈ σ) :
    .tparam p ∈ revSub (reverseMap σ) v ↔ tyReplaceable_rx v = true := by
  have hp : p ∈ offOf_rx (reverseMap σ) (.ty v) := by rw [offOf_reverseMap_rx]; exact mem_offered_rx.2 h
  cases v with
  | tparam n =>
    rw [revSub_tparam, if_neg (List.ne_nil_of_mem hp)]
    exact iff_of_true (List.mem_map.2 ⟨p, hp, rfl⟩) rfl
  | eparam n =>
    rw [revSub_eparam]
    exact iff_of_false (by split <;> simp) (by simp [tyReplaceable_rx])
  | node k as ks =>
    rw [tparam_mem_revSub_node_rx (reverseMap_no_empty_hit_rx σ), tyReplaceable_rx]
    exact and_iff_left hp

/-- a parameter with the entry `(p, .ex v)` is offered for the term `v` itself exactly if `v` is a const parameter or
    an expression-kind node -/
theorem eparam_mem_revSub_value_rx {σ : Subst} {p : String} {v : T} (h : (p, Val.ex v) ∈ σ) :
    .eparam p ∈ revSub (reverseMap σ) v ↔ exReplaceable_rx v = true := by
  have hp : p ∈ offOf_rx (reverseMap σ) (.ex v) := by rw [offOf_reverseMap_rx]; exact mem_offered_rx.2 h
  cases v with
  | tparam n =>
    rw [revSub_tparam]
    exact iff_of_false (by split <;> simp) (by simp [exReplaceable_rx])
  | eparam n =>
    rw [revSub_eparam, if_neg (List.ne_nil_of_mem hp)]
    exact iff_of_true (List.mem_map.2 ⟨p, hp, rfl⟩) rfl
  | node k as ks =>
    rw [eparam_mem_revSub_node_rx (reverseMap_no_empty_hit_rx σ), exReplaceable_rx]
    simp [hp]

/-! ### The naive reading of "the parameters bound to a value" and D13

Semantically a parameter with an `identity` entry is bound to itself: `inst σ` maps `tparam n` to `tparam n`. The naive
specification therefore also offers `n` for the value `.ty (.tparam n)` / `.ex (.eparam n)`. The code does not
(`SubstitutionValue::Identity` is a key of its own in the reverse map, never looked up). -/

/-- the parameter a value consists of, if it is a bare parameter -/
def ownParam_rx : Val → Option String
  | .ty (.tparam n) => some n
  | .ex (.eparam n) => some n
  | _ => none

/-- the naive offer: the explicit entries, and the parameter itself if it has an `identity` entry -/
def offeredNaive_rx (σ : Subst) (v : Val) : List String :=
  offered_rx σ v ++ (match ownParam_rx v with
    | some n => if (n, Val.identity) ∈ σ then [n] else []
    | none => [])

def IsReexprNaive_rx (σ : Subst) (t r : T) : Prop := IsReexprBy_rx (offeredNaive_rx σ) t r

instance (σ : Subst) (t r : T) : Decidable (IsReexprNaive_rx σ t r) :=
  decidable_of_iff _ (isReexprBy_iff_rx (offeredNaive_rx σ) t r)

/-- no parameter with an `identity` entry is also the value of another parameter (executable) -/
def noIdentityAlias_rx (σ : Subst) : Bool :=
  σ.all (fun e => !(e.2 == Val.identity) ||
    ((offered_rx σ (.ty (.tparam e.1))).isEmpty && (offered_rx σ (.ex (.eparam e.1))).isEmpty))

theorem ownParam_node_ty_rx (k : String) (as : List String) (ks : List T) :
    ownParam_rx (.ty (.node k as ks)) = none := rfl
theorem ownParam_node_ex_rx (k : String) (as : List String) (ks : List T) :
    ownParam_rx (.ex (.node k as ks)) = none := rfl

/-- re-expressions carry over from one offer to another that agrees with it on the values that are not bare
    parameters, provided they carry over at the parameters -/
theorem isReexprBy_imp_rx {off off' : Val → List String} (hN : ∀ v, ownParam_rx v = none → off' v = off v)
    (hT : ∀ n r, IsReexprBy_rx off (.tparam n) r → IsReexprBy_rx off' (.tparam n) r)
    (hE : ∀ n r, IsReexprBy_rx off (.eparam n) r → IsReexprBy_rx off' (.eparam n) r) :
    ∀ (t r : T), IsReexprBy_rx off t r → IsReexprBy_rx off' t r := by
  refine T.ind (P := fun t => ∀ r, IsReexprBy_rx off t r → IsReexprBy_rx off' t r) hT hE ?_
  intro k as ks ih r h
  have hkids : (∃ rs, r = .node k as rs ∧ IsReexprByL_rx off ks rs) →
      ∃ rs, r = .node k as rs ∧ IsReexprByL_rx off' ks rs :=
    fun ⟨rs, e, hrs⟩ => ⟨rs, e, isReexprByL_imp_rx ks rs ih hrs⟩
  rw [isReexprBy_node_rx] at h ⊢
  rw [hN (.ty (.node k as ks)) rfl, hN (.ex (.node k as ks)) rfl]
  exact kindCascade_rel (· → ·) k Iff.rfl Iff.rfl hkids id id id h

theorem offeredNaive_of_none_rx {σ : Subst} {v : Val} (h : ownParam_rx v = none) :
    offeredNaive_rx σ v = offered_rx σ v := by
  simp [offeredNaive_rx, h]

/-- a parameter under an offer `ns` enlarged by the parameter itself: every choice stays possible -/
theorem leaf_naive_rx {ns : List String} {n : String} (c : String → T) {r : T} (b : Prop) [Decidable b]
    (h : if ns = [] then r = c n else ∃ p, p ∈ ns ∧ r = c p) :
    if ns ++ (if b then [n] else []) = [] then r = c n else ∃ p, p ∈ ns ++ (if b then [n] else []) ∧ r = c p := by
  by_cases hb : b
  · rw [if_pos hb, if_neg (by simp)]
    split at h
    · next hn => exact ⟨n, by simp, h⟩
    · obtain ⟨p, hp, e⟩ := h; exact ⟨p, List.mem_append_left _ hp, e⟩
  · rw [if_neg hb, List.append_nil]; exact h

/-- and no choice is added if nothing else was offered -/
theorem leaf_naive_inv_rx {ns : List String} {n : String} (c : String → T) {r : T} (b : Prop) [Decidable b]
    (hb : b → ns = [])
    (h : if ns ++ (if b then [n] else []) = [] then r = c n else ∃ p, p ∈ ns ++ (if b then [n] else []) ∧ r = c p) :
    if ns = [] then r = c n else ∃ p, p ∈ ns ∧ r = c p := by
  by_cases hb' : b
  · rw [if_pos hb', hb hb', if_neg (by simp)] at h
    obtain ⟨p, hp, e⟩ := h
    rw [hb hb', if_pos rfl, e, List.mem_singleton.1 hp]
  · rw [if_neg hb', List.append_nil] at h; exact h

/-- D13, one half: every re-expression the code produces is a re-expression in the naive reading -/
theorem isReexprNaive_of_isReexpr_rx (σ : Subst) (t r : T) (h : IsReexpr_rx σ t r) : IsReexprNaive_rx σ t r := by
  refine isReexprBy_imp_rx (fun v hv => offeredNaive_of_none_rx hv) ?_ ?_ t r h
  · intro n r h
    rw [isReexprBy_tparam_rx] at h ⊢
    exact leaf_naive_rx .tparam _ h
  · intro n r h
    rw [isReexprBy_eparam_rx] at h ⊢
    exact leaf_naive_rx .eparam _ h

theorem noIdentityAlias_spec_rx {σ : Subst} (h : noIdentityAlias_rx σ = true) {n : String}
    (hn : (n, Val.identity) ∈ σ) :
    offered_rx σ (.ty (.tparam n)) = [] ∧ offered_rx σ (.ex (.eparam n)) = [] := by
  simp only [noIdentityAlias_rx, List.all_eq_true] at h
  simpa using h (n, Val.identity) hn

/-- D13, other half: without identity aliasing the code produces exactly the naive re-expressions -/
theorem isReexprNaive_iff_of_noAlias_rx {σ : Subst} (h : noIdentityAlias_rx σ = true) (t r : T) :
    IsReexprNaive_rx σ t r ↔ IsReexpr_rx σ t r := by
  refine ⟨isReexprBy_imp_rx (fun v hv => (offeredNaive_of_none_rx hv).symm) ?_ ?_ t r,
    isReexprNaive_of_isReexpr_rx σ t r⟩
  · intro n r hr
    rw [isReexprBy_tparam_rx] at hr ⊢
    exact leaf_naive_inv_rx .tparam _ (fun hn => (noIdentityAlias_spec_rx h hn).1) hr
  · intro n r hr
    rw [isReexprBy_eparam_rx] at hr ⊢
    exact leaf_naive_inv_rx .eparam _ (fun hn => (noIdentityAlias_spec_rx h hn).2) hr

/-- D13, necessity: with distinct keys, identity aliasing always loses a naive re-expression (the aliased parameter
    left as it is) -/
theorem exists_lost_of_alias_rx {σ : Subst} (hσ : (σ.map Prod.fst).Nodup) (h : noIdentityAlias_rx σ = false) :
    ∃ t, IsReexprNaive_rx σ t t ∧ ¬ IsReexpr_rx σ t t ∧ inst σ t = t := by
  rw [noIdentityAlias_rx, List.all_eq_false] at h
  obtain ⟨⟨n, v⟩, hm, hv⟩ := h
  simp only [Bool.or_eq_true, Bool.not_eq_true', beq_eq_false_iff_ne, ne_eq, Bool.and_eq_true,
    List.isEmpty_iff, not_or, Decidable.not_not, not_and] at hv
  obtain ⟨hid, hne⟩ := hv
  subst hid
  have hlk : lookup σ n = some Val.identity := lookup_of_mem_nodup σ n _ hσ hm
  by_cases hty : offered_rx σ (.ty (.tparam n)) = []
  · -- the const reading is aliased
    have hex := hne hty
    refine ⟨.eparam n, ?_, ?_, ?_⟩
    · unfold IsReexprNaive_rx
      have : n ∈ offeredNaive_rx σ (.ex (.eparam n)) := by
        simp [offeredNaive_rx, ownParam_rx, hm]
      rw [isReexprBy_eparam_rx, if_neg (List.ne_nil_of_mem this)]
      exact ⟨n, this, rfl⟩
    · unfold IsReexpr_rx
      rw [isReexprBy_eparam_rx, if_neg hex]
      rintro ⟨p, hp, e⟩
      cases e
      rw [mem_offered_iff_lookup_rx hσ, hlk] at hp
      cases hp
    · exact inst_eparam_other (fun t ht => by rw [hlk] at ht; cases ht)
  · refine ⟨.tparam n, ?_, ?_, ?_⟩
    · unfold IsReexprNaive_rx
      have : n ∈ offeredNaive_rx σ (.ty (.tparam n)) := by
        simp [offeredNaive_rx, ownParam_rx, hm]
      rw [isReexprBy_tparam_rx, if_neg (List.ne_nil_of_mem this)]
      exact ⟨n, this, rfl⟩
    · unfold IsReexpr_rx
      rw [isReexprBy_tparam_rx, if_neg hty]
      rintro ⟨p, hp, e⟩
      cases e
      rw [mem_offered_iff_lookup_rx hσ, hlk] at hp
      cases hp
    · exact inst_tparam_other (fun t ht => by rw [hlk] at ht; cases ht)

/-! ### Children position by position; unfolding of the count -/

theorem isReexprByL_length_rx {off : Val → List String} : ∀ {ks rs : List T},
    IsReexprByL_rx off ks rs → rs.length = ks.length
  | [], rs, h => by rw [isReexprByL_nil_rx] at h; subst h; rfl
  | t :: ts, rs, h => by
      rw [isReexprByL_cons_rx] at h
      obtain ⟨r, rs', rfl, _, h2⟩ := h
      simp [isReexprByL_length_rx h2]

/-- the children relation is the pointwise one -/
theorem isReexprByL_iff_getElem_rx {off : Val → List String} : ∀ (ks rs : List T),
    IsReexprByL_rx off ks rs ↔
      rs.length = ks.length ∧ ∀ (i : Nat) (h1 : i < ks.length) (h2 : i < rs.length), IsReexprBy_rx off ks[i] rs[i]
  | [], rs => by
      rw [isReexprByL_nil_rx]
      constructor
      · rintro rfl; exact ⟨rfl, fun i h1 _ => absurd h1 (Nat.not_lt_zero i)⟩
      · rintro ⟨h, _⟩; exact List.eq_nil_of_length_eq_zero h
  | t :: ts, rs => by
      rw [isReexprByL_cons_rx]
      constructor
      · rintro ⟨r, rs', rfl, h1, h2⟩
        obtain ⟨hl, hi⟩ := (isReexprByL_iff_getElem_rx ts rs').1 h2
        refine ⟨by simp [hl], ?_⟩
        intro i hi1 hi2
        cases i with
        | zero => exact h1
        | succ j =>
          simp only [List.getElem_cons_succ]
          exact hi j (by simpa using hi1) (by simpa using hi2)
      · rintro ⟨hl, hi⟩
        cases rs with
        | nil => simp at hl
        | cons r rs' =>
          refine ⟨r, rs', rfl, hi 0 (by simp) (by simp), ?_⟩
          rw [isReexprByL_iff_getElem_rx ts rs']
          refine ⟨by simpa using hl, ?_⟩
          intro i h1 h2
          have := hi (i + 1) (by simpa using h1) (by simpa using h2)
          simpa using this

/-- the product of the counts of the children -/
def reexprCountL_rx (σ : Subst) (ts : List T) : Nat := countByL_rx (offered_rx σ) ts

theorem reexprCount_tparam_rx (σ : Subst) (n : String) :
    reexprCount_rx σ (.tparam n) =
      if offered_rx σ (.ty (.tparam n)) = [] then 1 else (offered_rx σ (.ty (.tparam n))).length := by
  rw [reexprCount_rx, countBy_rx]

theorem reexprCount_eparam_rx (σ : Subst) (n : String) :
    reexprCount_rx σ (.eparam n) =
      if offered_rx σ (.ex (.eparam n)) = [] then 1 else (offered_rx σ (.ex (.eparam n))).length := by
  rw [reexprCount_rx, countBy_rx]

theorem reexprCount_node_rx (σ : Subst) (k : String) (as : List String) (ks : List T) :
    reexprCount_rx σ (.node k as ks) =
      if isTypeKind k then
        if offered_rx σ (.ty (.node k as ks)) = [] then reexprCountL_rx σ ks
        else (offered_rx σ (.ty (.node k as ks))).length
      else if isExprKind k then
        if offered_rx σ (.ex (.node k as ks)) = [] then reexprCountL_rx σ ks
        else (offered_rx σ (.ex (.node k as ks))).length
      else if isVerbatimKind k then 1
      else reexprCountL_rx σ ks := by
  rw [reexprCount_rx, countBy_rx]; rfl

theorem reexprCountL_nil_rx (σ : Subst) : reexprCountL_rx σ [] = 1 := by
  rw [reexprCountL_rx, countByL_rx]

theorem reexprCountL_cons_rx (σ : Subst) (t : T) (ts : List T) :
    reexprCountL_rx σ (t :: ts) = reexprCount_rx σ t * reexprCountL_rx σ ts := by
  rw [reexprCountL_rx, countByL_rx]; rfl

theorem reexprCount_pos_rx (σ : Subst) (t : T) : 0 < reexprCount_rx σ t := by
  rw [← length_revSub_reverseMap_rx]
  exact List.length_pos_iff.2 (revSub_ne_nil _ t)

end DI
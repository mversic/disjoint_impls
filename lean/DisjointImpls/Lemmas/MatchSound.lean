/-
  The base of the proofs about trees and substitutions: the induction principle of `T`, substitutions as finite maps
  (`lookup`, `merge`, `Ext`), the equations of `inst` / `erase` / `params`, the last child of a wrapper and `stripTop`,
  the well-formedness side conditions (`wf`, `ignFaces`, `noConstParam`), an inversion lemma for `supS`,
  and the two inductions over the matcher behind the C09 theorems (`supS_light`: keys / entries,
  `supS_good`: soundness). Core-only.
-/
import DisjointImpls.Match
import DisjointImpls.Lemmas.ListBasics
namespace DI

/-! ### Induction principle for the nested tree type -/

theorem T.ind {P : T → Prop} (tp : ∀ n, P (.tparam n)) (ep : ∀ n, P (.eparam n))
    (nd : ∀ k as ks, (∀ t ∈ ks, P t) → P (.node k as ks)) : ∀ t, P t := by
  intro t
  refine T.rec (motive_1 := P) (motive_2 := fun ks => ∀ t ∈ ks, P t) tp ep
    (fun k as ks ih => nd k as ks ih) ?_ ?_ t
  · intro t h; cases h
  · intro hd tl ih1 ih2 t ht
    cases ht with
    | head => exact ih1
    | tail _ h => exact ih2 t h

/-! ### `lookup`, `merge`, `Ext` -/

/-- σ' extends σ: every binding of σ is a binding of σ'. -/
def Ext (σ σ' : Subst) : Prop := ∀ n v, lookup σ n = some v → lookup σ' n = some v

theorem Ext.refl (σ : Subst) : Ext σ σ := fun _ _ h => h
theorem Ext.trans {σ τ ρ : Subst} (h1 : Ext σ τ) (h2 : Ext τ ρ) : Ext σ ρ :=
  fun n v h => h2 n v (h1 n v h)
theorem Ext.nil (σ : Subst) : Ext [] σ := fun n v h => by simp [lookup] at h

theorem lookup_single (n : String) (v : Val) : lookup [(n, v)] n = some v := by simp [lookup]

theorem lookup_append (σ τ : Subst) (n : String) :
    lookup (σ ++ τ) n = (lookup σ n).or (lookup τ n) := by
  induction σ with
  | nil => simp [lookup]
  | cons h t ih =>
    obtain ⟨m, v⟩ := h
    simp only [List.cons_append, lookup]
    split
    · rfl
    · exact ih

theorem lookup_mem : ∀ (σ : Subst) (n : String) (v : Val), lookup σ n = some v → (n, v) ∈ σ
  | [], _, _, h => by simp [lookup] at h
  | (m, w) :: r, n, v, h => by
      simp only [lookup] at h
      split at h
      · next hm => subst hm; cases h; simp
      · exact List.mem_cons_of_mem _ (lookup_mem r n v h)

theorem lookup_of_mem_nodup : ∀ (σ : Subst) (n : String) (v : Val), (σ.map Prod.fst).Nodup →
    (n, v) ∈ σ → lookup σ n = some v
  | [], _, _, _, h => by cases h
  | (m, w) :: r, n, v, hnd, h => by
      simp only [List.map_cons, List.nodup_cons] at hnd
      simp only [lookup]
      rcases List.mem_cons.1 h with h | h
      · cases h; simp
      · have : m ≠ n := by
          intro e; subst e
          exact hnd.1 (List.mem_map.2 ⟨(m, v), h, rfl⟩)
        rw [if_neg this]
        exact lookup_of_mem_nodup r n v hnd.2 h

theorem lookup_none_iff : ∀ (σ : Subst) (n : String), lookup σ n = none ↔ n ∉ σ.map Prod.fst
  | [], n => by simp [lookup]
  | (m, w) :: r, n => by
      simp only [lookup, List.map_cons, List.mem_cons, not_or]
      split
      · next hm => subst hm; simp
      · next hm =>
        rw [lookup_none_iff r n]
        constructor
        · intro h; exact ⟨fun e => hm e.symm, h⟩
        · intro h; exact h.2

theorem lookup_map_val (f : String → Val → Val) (n : String) : ∀ θ : Subst,
    lookup (θ.map (fun p => (p.1, f p.1 p.2))) n = (lookup θ n).map (f n)
  | [] => rfl
  | (m, v) :: tl => by
      simp only [List.map, lookup]
      by_cases hmn : m = n
      · subst hmn; simp
      · simp only [if_neg hmn]; exact lookup_map_val f n tl

/-- Induction over a successful `merge`: each entry of the right argument is either bound to the same value
    already, or appended. -/
theorem merge_ind {P : Subst → Subst → Subst → Prop} (nil : ∀ σ, P σ [] σ)
    (hit : ∀ {σ n v rest ρ}, lookup σ n = some v → merge σ rest = some ρ → P σ rest ρ → P σ ((n, v) :: rest) ρ)
    (add : ∀ {σ n v rest ρ}, lookup σ n = none → merge (σ ++ [(n, v)]) rest = some ρ →
      P (σ ++ [(n, v)]) rest ρ → P σ ((n, v) :: rest) ρ) :
    ∀ (τ σ ρ : Subst), merge σ τ = some ρ → P σ τ ρ
  | [], σ, ρ, h => by
      simp only [merge, Option.some.injEq] at h; subst h; exact nil σ
  | (n, v) :: rest, σ, ρ, h => by
      simp only [merge] at h
      split at h
      · next v' hv' =>
        split at h
        · next hvv => subst hvv; exact hit hv' h (merge_ind nil hit add rest σ ρ h)
        · cases h
      · next hnone => exact add hnone h (merge_ind nil hit add rest _ ρ h)

theorem lookup_merge {σ τ ρ : Subst} (h : merge σ τ = some ρ) (m : String) :
    lookup ρ m = (lookup σ m).or (lookup τ m) := by
  refine merge_ind (P := fun σ τ ρ => lookup ρ m = (lookup σ m).or (lookup τ m)) ?_ ?_ ?_ τ σ ρ h
  · intro σ; simp [lookup]
  · intro σ n v rest ρ hn _ ih
    rw [ih, lookup]
    split
    · next e => subst e; simp [hn]
    · rfl
  · intro σ n v rest ρ _ _ ih
    rw [ih, lookup_append, Option.or_assoc, ← lookup_append]; rfl

theorem merge_ext_left {σ τ ρ : Subst} (h : merge σ τ = some ρ) : Ext σ ρ :=
  fun n v hv => by rw [lookup_merge h, hv]; rfl

/-- every entry of the right argument was checked against the answer (also one shadowed by an earlier entry) -/
theorem merge_bound : ∀ (τ σ ρ : Subst), merge σ τ = some ρ → ∀ n v, (n, v) ∈ τ → lookup ρ n = some v := by
  refine merge_ind (P := fun _ τ ρ => ∀ n v, (n, v) ∈ τ → lookup ρ n = some v) ?_ ?_ ?_
  · intro σ n v h; cases h
  · intro σ n v rest ρ hn hm ih m w hmem
    rcases List.mem_cons.1 hmem with e | hmem
    · cases e; exact merge_ext_left hm _ _ hn
    · exact ih m w hmem
  · intro σ n v rest ρ hn hm ih m w hmem
    rcases List.mem_cons.1 hmem with e | hmem
    · cases e; exact merge_ext_left hm _ _ (by simp [lookup_append, hn, lookup])
    · exact ih m w hmem

theorem merge_ext (τ σ σ' : Subst) (h : merge σ τ = some σ') : Ext σ σ' ∧ Ext τ σ' :=
  ⟨merge_ext_left h, fun n v hv => merge_bound τ σ σ' h n v (lookup_mem τ n v hv)⟩

theorem mem_merge : ∀ (τ σ ρ : Subst), merge σ τ = some ρ → ∀ p, p ∈ ρ ↔ (p ∈ σ ∨ p ∈ τ) := by
  refine merge_ind (P := fun σ τ ρ => ∀ p, p ∈ ρ ↔ (p ∈ σ ∨ p ∈ τ)) ?_ ?_ ?_
  · intro σ p; simp
  · intro σ n v rest ρ hn _ ih p
    have hm := lookup_mem σ n v hn
    rw [ih p, List.mem_cons]
    exact ⟨fun h => h.elim Or.inl (fun h => Or.inr (Or.inr h)),
      fun h => h.elim Or.inl (fun h => h.elim (fun e => Or.inl (e ▸ hm)) Or.inr)⟩
  · intro σ n v rest ρ _ _ ih p
    rw [ih p, List.mem_append, List.mem_singleton, List.mem_cons, or_assoc]

theorem merge_mem (τ σ σ' : Subst) (h : merge σ τ = some σ') (p : String × Val) (hp : p ∈ σ') : p ∈ σ ∨ p ∈ τ :=
  (mem_merge τ σ σ' h p).1 hp

/-- merging keeps the keys pairwise distinct -/
theorem merge_nodup : ∀ (τ σ σ' : Subst), merge σ τ = some σ' →
    (σ.map Prod.fst).Nodup → (σ'.map Prod.fst).Nodup := by
  refine merge_ind (P := fun σ _ σ' => (σ.map Prod.fst).Nodup → (σ'.map Prod.fst).Nodup) ?_ ?_ ?_
  · intro σ hn; exact hn
  · intro σ n v rest ρ _ _ ih hn; exact ih hn
  · intro σ n v rest ρ hnone _ ih hn
    apply ih
    have hnot := (lookup_none_iff σ n).1 hnone
    simp only [List.map_append, List.map_cons, List.map_nil]
    rw [List.nodup_append]
    refine ⟨hn, by simp, ?_⟩
    intro a ha b hb
    simp only [List.mem_singleton] at hb
    subst hb
    intro e; subst e; exact hnot ha

/-! ### `supS` on a parameter; inversion of `supS` on a node: one constructor per arm that can answer `yes` -/

theorem supS_tparam_fwd (n : String) (b : T) :
    supS (.tparam n) b = .yes [(n, if b = .tparam n then .identity else .ty b)] false := by
  unfold supS; split <;> rfl
theorem supS_eparam_fwd (n : String) (b : T) :
    supS (.eparam n) b = .yes [(n, if b = .eparam n then .identity else .ex b)] false := by
  unfold supS; split <;> rfl

theorem bindMerge_yes {acc : Subst} {fl : Bool} {r : R} {σ : Subst} {l : Bool}
    (h : bindMerge acc fl r = .yes σ l) :
    ∃ τ f, r = .yes τ f ∧ merge acc τ = some σ ∧ l = (fl || f) := by
  cases r with
  | no => simp [bindMerge] at h
  | panic => simp [bindMerge] at h
  | yes τ f =>
    simp only [bindMerge] at h
    split at h
    · cases h
    · next acc' hm =>
      cases h
      exact ⟨τ, f, rfl, hm, rfl⟩

/-- node against node, `k` neither a wrapper nor ignored: the arm by which the answer was `yes σ l`. Of the kinds
    excluded in the default arm, `dflt` records only the two its users need -/
inductive SupNN (k : String) (as : List String) (ks : List T) (k' : String) (as' : List String)
    (ks' : List T) (σ : Subst) (l : Bool) : Prop
  | wildSame : k = "Pat::Wild" → k' = "Pat::Wild" → supL ks ks' [] false = .yes σ l → SupNN k as ks k' as' ks' σ l
  | lossy : k = "Pat::Wild" ∨ k' = "Pat::Wild" → σ = [] → l = true → SupNN k as ks k' as' ks' σ l
  | gaConst (n : String) (e : T) : k = "GenericArgument::Type" → as = [] → ks = [.tparam n] →
      k' = "GenericArgument::Const" → as' = [] → ks' = [e] → σ = [(n, .ex e)] → l = false →
      SupNN k as ks k' as' ks' σ l
  | lifetime (x y : String) : k = k' → k = "Lifetime" → lifetimeIdent (.node k as ks) = some x →
      lifetimeIdent (.node k' as' ks') = some y → σ = [] → (x = "_" ∨ y = "_" ∨ x = y) → (l = false → x = y) →
      SupNN k as ks k' as' ks' σ l
  | pathParam (n : String) : k = k' → pathParam PARAM_PREFIX (.node k as ks) = some n →
      pathParam PARAM_PREFIX (.node k' as' ks') = some n → σ = [(n, .identity)] → l = false →
      SupNN k as ks k' as' ks' σ l
  | qself (ty : T) (rest : List T) (ty' : T) : k = k' → k = "QSelf" → ks = ty :: rest → ks' = ty' :: rest →
      supS ty (stripTop ty') = .yes σ l → allIdentity σ = true → SupNN k as ks k' as' ks' σ l
  | binary (op lft r att lft' r' att' : T) (σ1 : Subst) (f1 : Bool) (σ2 : Subst) (f2 : Bool) (σ12 : Subst)
      (σ3 : Subst) (f3 : Bool) : k = k' → k = "Expr::Binary" →
      ks = [op, lft, r, att] → ks' = [op, lft', r', att'] →
      supS lft (stripTop lft') = .yes σ1 f1 → supS r (stripTop r') = .yes σ2 f2 → merge σ1 σ2 = some σ12 →
      supS att (stripTop att') = .yes σ3 f3 → merge σ12 σ3 = some σ → l = ((f1 || f2) || f3) →
      SupNN k as ks k' as' ks' σ l
  | binarySwap (op lft r att lft' r' att' : T) (σ1 : Subst) (f1 : Bool) (σ2 : Subst) (f2 : Bool) (σ12 : Subst)
      (σ3 : Subst) (f3 : Bool) : k = k' → k = "Expr::Binary" →
      ks = [op, lft, r, att] → ks' = [op, lft', r', att'] →
      supS lft (stripTop r') = .yes σ1 f1 → supS r (stripTop lft') = .yes σ2 f2 → merge σ1 σ2 = some σ12 →
      supS att (stripTop att') = .yes σ3 f3 → merge σ12 σ3 = some σ → l = true →
      SupNN k as ks k' as' ks' σ l
  | optNone (x y : T) : k = k' → k = "OptWild" → ks = [x] → ks' = [y] →
      (isNoneNode x || isNoneNode y) = true → σ = [] → (l = false → x = y) → SupNN k as ks k' as' ks' σ l
  | optSome (x y : T) : k = k' → k = "OptWild" → ks = [x] → ks' = [y] →
      supS x (stripTop y) = .yes σ l → SupNN k as ks k' as' ks' σ l
  | dflt : k = k' → k ≠ "Lifetime" → k ≠ "QSelf" → as = as' → supL ks ks' [] false = .yes σ l →
      SupNN k as ks k' as' ks' σ l

/-- the arm by which `supS (.node k as ks) b` answered `yes σ l` (`supS_node_inv`) -/
inductive SupNode (k : String) (as : List String) (ks : List T) (b : T) (σ : Subst) (l : Bool) : Prop
  | wrap : isWrapper k = true → supLast ks b = .yes σ l → SupNode k as ks b σ l
  | ign : isWrapper k = false → k = "Ign" → σ = [] → l = false → SupNode k as ks b σ l
  | ignL : isWrapper k = false → k = "IgnL" → σ = [] → (l = false → b = .node k as ks) → SupNode k as ks b σ l
  | node (k' : String) (as' : List String) (ks' : List T) : isWrapper k = false → k ≠ "Ign" → k ≠ "IgnL" →
      b = .node k' as' ks' → SupNN k as ks k' as' ks' σ l → SupNode k as ks b σ l

theorem supS_node_inv {k : String} {as : List String} {ks : List T} {b : T} {σ : Subst} {l : Bool}
    (h : supS (.node k as ks) b = .yes σ l) : SupNode k as ks b σ l := by
  unfold supS at h
  by_cases hw : isWrapper k = true
  · rw [if_pos hw] at h; exact .wrap hw h
  rw [if_neg hw] at h
  have hw : isWrapper k = false := by simpa using hw
  by_cases hi : (k == "Ign") = true
  · rw [if_pos hi] at h; cases h; exact .ign hw (eq_of_beq hi) rfl rfl
  rw [if_neg hi] at h
  have hi : k ≠ "Ign" := by simpa using hi
  by_cases hil : (k == "IgnL") = true
  · rw [if_pos hil] at h
    cases h
    refine .ignL hw (eq_of_beq hil) rfl ?_
    intro hd
    exact (Decidable.of_not_not (of_decide_eq_false hd)).symm
  rw [if_neg hil] at h
  have hil : k ≠ "IgnL" := by simpa using hil
  cases b with
  | tparam n => cases h
  | eparam n => cases h
  | node k' as' ks' =>
  refine .node k' as' ks' hw hi hil rfl ?_
  dsimp only at h
  by_cases hpw : (k == "Pat::Wild" || k' == "Pat::Wild") = true
  · rw [if_pos hpw] at h
    by_cases hkk : (k == k') = true
    · rw [if_pos hkk] at h
      have hkk := eq_of_beq hkk
      subst hkk
      have : k = "Pat::Wild" := by simpa using hpw
      exact .wildSame this this h
    · rw [if_neg hkk] at h; cases h; exact .lossy (by simpa using hpw) rfl rfl
  rw [if_neg hpw] at h
  by_cases hsi : (k == "Stmt::Item" || k' == "Stmt::Item") = true
  · rw [if_pos hsi] at h; cases h
  rw [if_neg hsi] at h
  by_cases hne : (k != k') = true
  · rw [if_pos hne] at h
    split at h
    · cases h; exact .gaConst _ _ rfl rfl rfl rfl rfl rfl rfl rfl
    · cases h
  rw [if_neg hne] at h
  have hkk : k = k' := by simpa using hne
  subst hkk
  by_cases hp : panicsOnSameKind k = true
  · rw [if_pos hp] at h; cases h
  rw [if_neg hp] at h
  by_cases hlt : (k == "Lifetime") = true
  · rw [if_pos hlt] at h
    split at h
    · next x y hx hy =>
      by_cases hu : (x == "_" || y == "_") = true
      · rw [if_pos hu] at h; cases h
        refine .lifetime x y rfl (eq_of_beq hlt) hx hy rfl ?_ (fun hxy => by simpa using hxy)
        simp only [Bool.or_eq_true, beq_iff_eq] at hu
        exact hu.elim Or.inl (fun h => Or.inr (Or.inl h))
      · rw [if_neg hu] at h
        by_cases hxy : (x == y) = true
        · rw [if_pos hxy] at h; cases h
          exact .lifetime x y rfl (eq_of_beq hlt) hx hy rfl (Or.inr (Or.inr (eq_of_beq hxy))) (fun _ => eq_of_beq hxy)
        · rw [if_neg hxy] at h; cases h
    · cases h
  rw [if_neg hlt] at h
  by_cases hpp : (k == "Path" && (pathParam PARAM_PREFIX (T.node k as ks)).isSome &&
      pathParam PARAM_PREFIX (T.node k as ks) == pathParam PARAM_PREFIX (T.node k as' ks')) = true
  · rw [if_pos hpp] at h
    split at h
    · next n hn =>
      cases h
      simp only [Bool.and_eq_true] at hpp
      have he := eq_of_beq hpp.2
      exact .pathParam n rfl hn (he ▸ hn) rfl rfl
    · cases h
  rw [if_neg hpp] at h
  by_cases hq : (k == "QSelf") = true
  · rw [if_pos hq] at h
    split at h
    · next ty rest ty' rest' =>
      split at h
      · cases h
      · cases h
      · next σ0 l0 hs =>
        by_cases hc : (rest == rest' && allIdentity σ0) = true
        · rw [if_pos hc] at h; cases h
          simp only [Bool.and_eq_true] at hc
          have hr := eq_of_beq hc.1
          subst hr
          exact .qself ty rest ty' rfl (eq_of_beq hq) rfl rfl hs hc.2
        · rw [if_neg hc] at h; cases h
    · cases h
  rw [if_neg hq] at h
  by_cases hb : (k == "Expr::Binary") = true
  · rw [if_pos hb] at h
    split at h
    · next op lft r att op' lft' r' att' =>
      by_cases hop : (op != op') = true
      · rw [if_pos hop] at h; cases h
      rw [if_neg hop] at h
      have hop : op = op' := by simpa using hop
      subst hop
      split at h
      · cases h
      · next σ1 f1 h1 =>
        split at h
        · next σ12 f12 h12 =>
          obtain ⟨σ2, f2, h2, hm12, hf12⟩ := bindMerge_yes h12
          obtain ⟨σ3, f3, h3, hm3, hf3⟩ := bindMerge_yes h
          subst hf12
          exact .binary op lft r att lft' r' att' σ1 f1 σ2 f2 σ12 σ3 f3 rfl (eq_of_beq hb) rfl rfl h1 h2 hm12 h3 hm3 hf3
        · next hno =>
          exact absurd h (hno σ l)
      · split at h
        · cases h
        · cases h
        · next σ1 f1 h1 =>
          split at h
          · next σ12 f12 h12 =>
            obtain ⟨σ2, f2, h2, hm12, hf12⟩ := bindMerge_yes h12
            obtain ⟨σ3, f3, h3, hm3, hf3⟩ := bindMerge_yes h
            subst hf12
            exact .binarySwap op lft r att lft' r' att' σ1 f1 σ2 f2 σ12 σ3 f3 rfl (eq_of_beq hb) rfl rfl h1 h2 hm12 h3 hm3
              (by simpa using hf3)
          · next hno =>
            exact absurd h (hno σ l)
    · cases h
  rw [if_neg hb] at h
  by_cases how : (k == "OptWild") = true
  · rw [if_pos how] at h
    split at h
    · next x y =>
      by_cases hn : (isNoneNode x || isNoneNode y) = true
      · rw [if_pos hn] at h; cases h
        refine .optNone x y rfl (eq_of_beq how) rfl rfl hn rfl ?_
        intro hd; simpa using hd
      · rw [if_neg hn] at h
        exact .optSome x y rfl (eq_of_beq how) rfl rfl h
    · cases h
  rw [if_neg how] at h
  by_cases has : (as == as') = true
  · rw [if_pos has] at h
    exact .dflt rfl (by simpa using hlt) (by simpa using hq) (eq_of_beq has) h
  · rw [if_neg has] at h; cases h

/-! ### Unfolding `inst`, `erase`, `params` -/

theorem inst_tparam_ty {σ : Subst} {n : String} {t : T} (h : lookup σ n = some (.ty t)) :
    inst σ (.tparam n) = t := by
  rw [inst]; simp [h]
theorem inst_tparam_other {σ : Subst} {n : String} (h : ∀ t, lookup σ n ≠ some (.ty t)) :
    inst σ (.tparam n) = .tparam n := by
  rw [inst]; split
  · next t ht => exact absurd ht (h t)
  · rfl
theorem inst_eparam_ex {σ : Subst} {n : String} {t : T} (h : lookup σ n = some (.ex t)) :
    inst σ (.eparam n) = t := by
  rw [inst]; simp [h]
theorem inst_eparam_other {σ : Subst} {n : String} (h : ∀ t, lookup σ n ≠ some (.ex t)) :
    inst σ (.eparam n) = .eparam n := by
  rw [inst]; split
  · next t ht => exact absurd ht (h t)
  · rfl

/-- the ambiguous generic-argument position `GenericArgument::Type [tparam n]` -/
def isGA (k : String) (as : List String) (ks : List T) : Option String :=
  match k, as, ks with
  | "GenericArgument::Type", [], [.tparam n] => some n
  | _, _, _ => none

def gaNode (t : T) : T := .node "GenericArgument::Type" [] [t]

theorem isGA_some {k : String} {as : List String} {ks : List T} {n : String} (h : isGA k as ks = some n) :
    k = "GenericArgument::Type" ∧ as = [] ∧ ks = [.tparam n] := by
  unfold isGA at h
  split at h
  · cases h; exact ⟨rfl, rfl, rfl⟩
  · cases h

theorem isGA_of_ne {k : String} {as : List String} {ks : List T} (h : k ≠ "GenericArgument::Type") :
    isGA k as ks = none :=
  Option.eq_none_iff_forall_ne_some.2 fun _ e => h (isGA_some e).1

theorem isGA_self (n : String) : isGA "GenericArgument::Type" [] [.tparam n] = some n := by rw [isGA]

/-- the side condition of the default arm of every function that treats the ambiguous generic-argument position apart -/
theorem not_ga_of_isGA_none {k : String} {as : List String} {ks : List T} (h : isGA k as ks = none) (n : String) :
    k = "GenericArgument::Type" → as = [] → ks = [.tparam n] → False := by
  rintro rfl rfl rfl
  rw [isGA_self] at h; cases h

/-- `isGA` as the boolean test followed by a match on the children, the form in which the executable side conditions
    (`gaTparam`, `gaParam`) recognise the position -/
theorem isGA_eq_ite (k : String) (as : List String) (ks : List T) :
    isGA k as ks = if k == "GenericArgument::Type" && as.isEmpty then
      (match ks with
       | [.tparam n] => some n
       | _ => none)
    else none := by
  cases h : isGA k as ks with
  | some n => obtain ⟨rfl, rfl, rfl⟩ := isGA_some h; simp
  | none =>
    split
    · next hc =>
      simp only [Bool.and_eq_true, beq_iff_eq, List.isEmpty_iff] at hc
      split
      · next n => rw [hc.1, hc.2, isGA_self] at h; cases h
      · rfl
    · rfl

/-- `isGA k as ks ≠ none`, as a proposition -/
def Special (k : String) (as : List String) (ks : List T) : Prop :=
  ∃ n, k = "GenericArgument::Type" ∧ as = [] ∧ ks = [.tparam n]

theorem inst_other (σ : Subst) {k : String} {as : List String} {ks : List T} (h : isGA k as ks = none) :
    inst σ (.node k as ks) = .node k as (instL σ ks) :=
  inst.eq_4 σ k as ks (not_ga_of_isGA_none h)

theorem inst_node_default (σ : Subst) {k : String} {as : List String} {ks : List T}
    (h : ¬ Special k as ks) : inst σ (.node k as ks) = .node k as (instL σ ks) :=
  inst_other σ (Option.eq_none_iff_forall_ne_some.2 fun n e => h ⟨n, isGA_some e⟩)

theorem instGa (σ : Subst) (n : String) :
    inst σ (gaNode (.tparam n)) = match lookup σ n with
      | some (.ex e) => .node "GenericArgument::Const" [] [e]
      | some (.ty t) => gaNode t
      | _ => gaNode (.tparam n) := by
  unfold gaNode
  rw [inst]
  rcases lookup σ n with _ | (t | e | _) <;> rfl

theorem instGa_ex {σ : Subst} {n : String} {e : T} (h : lookup σ n = some (.ex e)) :
    inst σ (gaNode (.tparam n)) = .node "GenericArgument::Const" [] [e] := by rw [instGa, h]
theorem instGa_ty {σ : Subst} {n : String} {t : T} (h : lookup σ n = some (.ty t)) :
    inst σ (gaNode (.tparam n)) = gaNode t := by rw [instGa, h]
theorem instGa_id {σ : Subst} {n : String} (h : lookup σ n = some .identity) :
    inst σ (gaNode (.tparam n)) = gaNode (.tparam n) := by rw [instGa, h]
theorem instGa_none {σ : Subst} {n : String} (h : lookup σ n = none) :
    inst σ (gaNode (.tparam n)) = gaNode (.tparam n) := by rw [instGa, h]

theorem inst_ga_other {σ : Subst} {n : String} (h : ∀ e, lookup σ n ≠ some (.ex e)) :
    inst σ (.node "GenericArgument::Type" [] [.tparam n]) =
      .node "GenericArgument::Type" [] [inst σ (.tparam n)] := by
  have := instGa σ n
  unfold gaNode at this
  rw [this, inst]
  rcases hl : lookup σ n with _ | (t | e | _)
  · rfl
  · rfl
  · exact absurd hl (h e)
  · rfl

/-- `inst` acts on the children of a node, unless the node is a parameter in generic-argument position that is
    bound to a const value -/
theorem inst_node_hom (σ : Subst) {k : String} {as : List String} {ks : List T}
    (h : ∀ n, isGA k as ks = some n → ∀ e, lookup σ n ≠ some (.ex e)) :
    inst σ (.node k as ks) = .node k as (instL σ ks) := by
  cases hga : isGA k as ks with
  | none => exact inst_other σ hga
  | some n =>
    obtain ⟨rfl, rfl, rfl⟩ := isGA_some hga
    rw [inst_ga_other (h n hga), instL, instL]

theorem inst_node_kind (σ : Subst) (k : String) (as : List String) (ks : List T) :
    ∃ k' as' ks', inst σ (.node k as ks) = .node k' as' ks' ∧
      (k' = k ∨ (k = "GenericArgument::Type" ∧ k' = "GenericArgument::Const")) := by
  cases h : isGA k as ks with
  | none => exact ⟨_, _, _, inst_other σ h, Or.inl rfl⟩
  | some n =>
    obtain ⟨rfl, rfl, rfl⟩ := isGA_some h
    have := instGa σ n
    unfold gaNode at this
    rw [this]
    rcases lookup σ n with _ | (t | e | _)
    · exact ⟨_, _, _, rfl, Or.inl rfl⟩
    · exact ⟨_, _, _, rfl, Or.inl rfl⟩
    · exact ⟨_, _, _, rfl, Or.inr ⟨rfl, rfl⟩⟩
    · exact ⟨_, _, _, rfl, Or.inl rfl⟩

theorem isWrapper_ne_ga {k : String} (h : isWrapper k = true) : k ≠ "GenericArgument::Type" := by
  intro e; subst e; simp [isWrapper] at h
theorem isWrapper_ne_ign {k : String} (h : isWrapper k = true) : k ≠ "Ign" := by
  intro e; subst e; simp [isWrapper] at h
theorem isWrapper_ne_ignL {k : String} (h : isWrapper k = true) : k ≠ "IgnL" := by
  intro e; subst e; simp [isWrapper] at h

def blank : T := .node "Ign" [] []

theorem erase_ign (as : List String) (ks : List T) : erase (.node "Ign" as ks) = blank := by
  rw [erase]; simp [blank]
theorem erase_wrapper {k : String} (as : List String) (ks : List T) (h : isWrapper k = true) :
    erase (.node k as ks) = eraseLast ks := by
  have := isWrapper_ne_ign h
  rw [erase]; simp [h, this]
theorem erase_plain {k : String} (as : List String) (ks : List T) (hw : isWrapper k = false)
    (hi : k ≠ "Ign") : erase (.node k as ks) = .node k as (eraseL ks) := by
  rw [erase]; simp [hw, hi]

theorem params_ignored {k : String} (as : List String) (ks : List T) (h : isIgnored k = true) :
    params (.node k as ks) = [] := by
  rw [params]; simp [h]
theorem params_node {k : String} (as : List String) (ks : List T) (hi : k ≠ "Ign") (hil : k ≠ "IgnL") :
    params (.node k as ks) = paramsL ks := by
  rw [params]; simp [isIgnored, hi, hil]

theorem mem_paramsL {n : String} : ∀ {ks : List T}, n ∈ paramsL ks ↔ ∃ t ∈ ks, n ∈ params t
  | [] => by simp [paramsL]
  | t :: ts => by simp [paramsL, mem_paramsL (ks := ts)]

/-! ### The last child

`supLast`, `stripLast`, `eraseLast`, `ignFacesLast` all walk to the last child of a wrapper; each is stated
once in terms of `lastKid`, and the proofs about wrappers split on `lastKid_cases`. -/

theorem lastKid_cases : ∀ ks : List T, ks = [] ∨ ∃ e, e ∈ ks ∧ lastKid ks = some e
  | [] => Or.inl rfl
  | [e] => Or.inr ⟨e, by simp, by rw [lastKid]⟩
  | a :: c :: l => by
      rcases lastKid_cases (c :: l) with h | ⟨e, he, hl⟩
      · cases h
      · refine Or.inr ⟨e, List.mem_cons_of_mem _ he, ?_⟩
        rw [lastKid]
        · exact hl
        · intro x; cases x

/-- a function that walks to the last child -/
theorem of_lastKid {α : Type} {f : List T → α} {g : T → α} (one : ∀ e, f [e] = g e)
    (cons2 : ∀ a c l, f (a :: c :: l) = f (c :: l)) : ∀ {ks : List T} {e : T}, lastKid ks = some e → f ks = g e
  | [], _, h => by rw [lastKid] at h; cases h
  | [e'], e, h => by rw [lastKid] at h; cases h; exact one _
  | a :: c :: l, e, h => by
      rw [lastKid] at h
      · rw [cons2]; exact of_lastKid one cons2 h
      · intro x; cases x

theorem supLast_of_last {ks : List T} {e : T} (h : lastKid ks = some e) (b : T) : supLast ks b = supS e b :=
  of_lastKid (f := (supLast · b)) (g := (supS · b)) (fun e => by rw [supLast]) (fun a c l => by rw [supLast]; intro x; cases x) h

theorem stripLast_of_last {ks : List T} {e : T} (h : lastKid ks = some e) (d : T) : stripLast ks d = stripTop e :=
  of_lastKid (f := (stripLast · d)) (g := stripTop) (fun e => by rw [stripLast]) (fun a c l => by rw [stripLast]; intro x; cases x) h

theorem eraseLast_of_last {ks : List T} {e : T} (h : lastKid ks = some e) : eraseLast ks = erase e :=
  of_lastKid (fun e => by rw [eraseLast]) (fun a c l => by rw [eraseLast]; intro x; cases x) h

theorem lastKid_instL (σ : Subst) {ks : List T} {e : T} (h : lastKid ks = some e) :
    lastKid (instL σ ks) = some (inst σ e) :=
  of_lastKid (f := fun ks => lastKid (instL σ ks)) (g := fun e => some (inst σ e)) (fun e => by simp only [instL, lastKid])
    (fun a c l => by simp only [instL]; rw [lastKid]; intro x; cases x) h

/-! ### `stripTop`

`stripTop b` is `b` itself, or `stripTop` of the last child of the wrapper at the root of `b`: what holds between a tree
and its stripped form is shown for these two steps. -/

theorem stripTop_ind {P : T → T → Prop} (self : ∀ b, stripTop b = b → P b b)
    (last : ∀ {k : String} {as : List String} {ks : List T} {e : T}, isWrapper k = true → e ∈ ks →
      lastKid ks = some e → P e (stripTop e) → P (.node k as ks) (stripTop e)) : ∀ b, P b (stripTop b) := by
  have fix : ∀ b, stripTop b = b → P b (stripTop b) := fun b h => by rw [h]; exact self b h
  apply T.ind
  · intro n; exact fix _ (by rw [stripTop])
  · intro n; exact fix _ (by rw [stripTop])
  · intro k as ks ih
    by_cases hw : isWrapper k = true
    · rcases lastKid_cases ks with rfl | ⟨e, he, hl⟩
      · exact fix _ (by rw [stripTop, if_pos hw, stripLast])
      · rw [stripTop, if_pos hw, stripLast_of_last hl]; exact last hw he hl (ih e he)
    · exact fix _ (by rw [stripTop, if_neg hw])

theorem erase_stripTop : ∀ b : T, erase (stripTop b) = erase b :=
  stripTop_ind (P := fun b s => erase s = erase b) (fun _ _ => rfl)
    (fun hw _ hl ih => by rw [erase_wrapper _ _ hw, eraseLast_of_last hl]; exact ih)

/-! ### Parameter-free trees -/

mutual
def closed : T → Bool
  | .tparam _ => false
  | .eparam _ => false
  | .node _ _ ks => closedL ks
def closedL : List T → Bool
  | [] => true
  | t :: ts => closed t && closedL ts
end

theorem closedL_iff : ∀ {ks : List T}, closedL ks = true ↔ ∀ t ∈ ks, closed t = true
  | [] => by simp [closedL]
  | t :: ts => by simp [closedL, closedL_iff (ks := ts)]

theorem isGA_of_closed {k : String} {as : List String} {ks : List T} (h : closedL ks = true) :
    isGA k as ks = none :=
  Option.eq_none_iff_forall_ne_some.2 fun n e => by
    rw [(isGA_some e).2.2] at h
    simp [closedL, closed] at h

theorem instL_eq_self {σ : Subst} : ∀ {ks : List T}, (∀ t ∈ ks, inst σ t = t) → instL σ ks = ks
  | [], _ => by rw [instL]
  | t :: ts, h => by
      rw [instL, h t (by simp), instL_eq_self (fun t ht => h t (List.mem_cons_of_mem _ ht))]

theorem instL_eq_map_nst (θ : Subst) : ∀ (xs : List T), instL θ xs = xs.map (inst θ)
  | [] => rfl
  | x :: xs => by simp only [instL, List.map_cons, instL_eq_map_nst θ xs]

theorem instL_append (θ : Subst) (xs ys : List T) : instL θ (xs ++ ys) = instL θ xs ++ instL θ ys := by
  simp only [instL_eq_map_nst, List.map_append]

theorem inst_closed (σ : Subst) : ∀ t : T, closed t = true → inst σ t = t := by
  apply T.ind
  · intro n h; simp [closed] at h
  · intro n h; simp [closed] at h
  · intro k as ks ih h
    rw [closed] at h
    rw [inst_other σ (isGA_of_closed h)]
    rw [instL_eq_self (fun t ht => ih t ht (closedL_iff.1 h t ht))]

theorem instL_closed (σ : Subst) {ks : List T} (h : closedL ks = true) : instL σ ks = ks :=
  instL_eq_self (fun t ht => inst_closed σ t (closedL_iff.1 h t ht))

theorem params_closed : ∀ t : T, closed t = true → params t = [] := by
  apply T.ind
  · intro n h; simp [closed] at h
  · intro n h; simp [closed] at h
  · intro k as ks ih h
    rw [closed] at h
    rw [params]
    split
    · rfl
    · apply List.eq_nil_iff_forall_not_mem.2
      intro n hn
      obtain ⟨t, ht, hnt⟩ := mem_paramsL.1 hn
      rw [ih t ht (closedL_iff.1 h t ht)] at hnt
      cases hnt

theorem paramsL_closed {ks : List T} (h : closedL ks = true) : paramsL ks = [] := by
  apply List.eq_nil_iff_forall_not_mem.2
  intro n hn
  obtain ⟨t, ht, hnt⟩ := mem_paramsL.1 hn
  rw [params_closed t (closedL_iff.1 h t ht)] at hnt
  cases hnt

/-! ### Side conditions under which the matcher's answer can be trusted

`wf` collects, node by node, what `supS` takes for granted about the shape of decoded trees
(`harness/syn_dbg.py` produces only such trees):
* an `IgnL` child contains no parameter;
* in a transparent wrapper every child but the last is an `Ign` child;
* the kinds whose arm does not compare atoms (`Pat::Wild`, `QSelf`, `Expr::Binary`, `OptWild`) have none;
* the children of `QSelf` after the type, and the operator of `Expr::Binary`, contain no parameter.
Nothing is required beneath an `Ign` child. -/

def isIgnNode : T → Bool
  | .node k _ _ => k == "Ign"
  | _ => false

/-- all children but the last are `Ign` children -/
def initIgn : List T → Bool
  | [] => true
  | [_] => true
  | t :: ts => isIgnNode t && initIgn ts

def atomFree (k : String) : Bool :=
  k == "Pat::Wild" || k == "QSelf" || k == "Expr::Binary" || k == "OptWild"

def wfNode (k : String) (as : List String) (ks : List T) : Bool :=
  (!isWrapper k || initIgn ks) &&
  (!atomFree k || as.isEmpty) &&
  (k != "QSelf" || closedL ks.tail) &&
  (k != "Expr::Binary" || closedL (ks.take 1))

mutual
def wf : T → Bool
  | .tparam _ => true
  | .eparam _ => true
  | .node k as ks =>
      if k == "Ign" then true
      else if k == "IgnL" then closedL ks
      else wfNode k as ks && wfL ks
def wfL : List T → Bool
  | [] => true
  | t :: ts => wf t && wfL ts
end

mutual
/-- every `Ign` child of `a` faces an `Ign` child of `b` (`b` already stripped at the root) -/
def ignFaces : T → T → Bool
  | .tparam _, _ => true
  | .eparam _, _ => true
  | .node k _ ks, b =>
      if isWrapper k then ignFacesLast ks b
      else if k == "Ign" then isIgnNode b
      else if k == "IgnL" then true
      else match b with
        | .node k' _ ks' => if k == k' then ignFacesL ks ks' else true
        | _ => true
def ignFacesL : List T → List T → Bool
  | a :: as, b :: bs => ignFaces a (stripTop b) && ignFacesL as bs
  | _, _ => true
def ignFacesLast : List T → T → Bool
  | [], _ => true
  | [e], b => ignFaces e b
  | _ :: es, b => ignFacesLast es b
end

def isBareConstParam (k : String) (as : List String) (ks : List T) : Bool :=
  k == "GenericArgument::Const" && as.isEmpty && (match ks with | [.eparam _] => true | _ => false)

mutual
/-- no const generic argument of `b` is a lone parameter (syn parses a lone identifier as a type argument) -/
def noConstParam : T → Bool
  | .tparam _ => true
  | .eparam _ => true
  | .node k as ks => !isBareConstParam k as ks && noConstParamL ks
def noConstParamL : List T → Bool
  | [] => true
  | t :: ts => noConstParam t && noConstParamL ts
end

theorem wfL_iff : ∀ {ks : List T}, wfL ks = true ↔ ∀ t ∈ ks, wf t = true
  | [] => by simp [wfL]
  | t :: ts => by simp [wfL, wfL_iff (ks := ts)]

theorem noConstParamL_iff : ∀ {ks : List T}, noConstParamL ks = true ↔ ∀ t ∈ ks, noConstParam t = true
  | [] => by simp [noConstParamL]
  | t :: ts => by simp [noConstParamL, noConstParamL_iff (ks := ts)]

theorem wf_node_inv {k : String} {as : List String} {ks : List T} (h : wf (.node k as ks) = true)
    (hi : k ≠ "Ign") (hil : k ≠ "IgnL") : wfNode k as ks = true ∧ wfL ks = true := by
  rw [wf] at h
  simpa [hi, hil] using h

theorem wf_ignL {as : List String} {ks : List T} (h : wf (.node "IgnL" as ks) = true) :
    closedL ks = true := by
  rw [wf] at h
  simpa using h

theorem wfNode_parts {k : String} {as : List String} {ks : List T} (h : wfNode k as ks = true) :
    (isWrapper k = true → initIgn ks = true) ∧ (atomFree k = true → as = []) ∧
    (k = "QSelf" → closedL ks.tail = true) ∧ (k = "Expr::Binary" → closedL (ks.take 1) = true) := by
  simp only [wfNode, Bool.and_eq_true] at h
  obtain ⟨⟨⟨h1, h2⟩, h3⟩, h4⟩ := h
  refine ⟨?_, ?_, ?_, ?_⟩
  · intro hw; simpa [hw] using h1
  · intro hk; simpa [hk] using h2
  · intro hk; simpa [hk] using h3
  · intro hk; simpa [hk] using h4

/-! ### `wf` and `noConstParam` pass to `stripTop` -/

theorem wf_stripTop : ∀ b : T, wf b = true → wf (stripTop b) = true :=
  stripTop_ind (P := fun b s => wf b = true → wf s = true) (fun _ _ h => h)
    (fun hw he _ ih h => ih (wfL_iff.1 (wf_node_inv h (isWrapper_ne_ign hw) (isWrapper_ne_ignL hw)).2 _ he))

theorem noConstParam_kids {k : String} {as : List String} {ks : List T}
    (h : noConstParam (.node k as ks) = true) : noConstParamL ks = true := by
  rw [noConstParam] at h; simp only [Bool.and_eq_true] at h; exact h.2

theorem noConstParam_stripTop : ∀ b : T, noConstParam b = true → noConstParam (stripTop b) = true :=
  stripTop_ind (P := fun b s => noConstParam b = true → noConstParam s = true) (fun _ _ h => h)
    (fun _ he _ ih h => ih (noConstParamL_iff.1 (noConstParam_kids h) _ he))

theorem noConstParam_bare {n : String} :
    noConstParam (.node "GenericArgument::Const" [] [.eparam n]) = false := by
  rw [noConstParam]; simp [isBareConstParam]

/-! ### Inversion of the recognisers -/

theorem lifetimeIdent_inv {t : T} {x : String} (h : lifetimeIdent t = some x) :
    t = .node "Lifetime" [] [.node "Ident" [x] []] := by
  unfold lifetimeIdent at h
  split at h
  · cases h; rfl
  · cases h

theorem pathParam_inv {p : String} {t : T} {n : String} (h : pathParam p t = some n) :
    t = .node "Path" [] [.node "IgnL" [] [.node "None" [] []],
      .node "List" [] [.node "PathSegment" [] [.node "Ident" [n] [], .node "PathArguments::None" [] []]]] := by
  unfold pathParam at h
  split at h
  · split at h
    · cases h; rfl
    · cases h
  · cases h

theorem isNoneNode_inv {t : T} (h : isNoneNode t = true) : t = .node "None" [] [] := by
  unfold isNoneNode at h
  split at h
  · rfl
  · cases h

theorem isIgnNode_inv {t : T} (h : isIgnNode t = true) : ∃ as ks, t = .node "Ign" as ks := by
  cases t with
  | tparam n => simp [isIgnNode] at h
  | eparam n => simp [isIgnNode] at h
  | node k as ks => simp [isIgnNode] at h; subst h; exact ⟨as, ks, rfl⟩

/-! ### First induction: keys are distinct, no entry binds a parameter to itself -/

def keys (σ : Subst) : List String := σ.map Prod.fst

/-- an entry does not bind a parameter to itself (the second half only where `b` has no lone const parameter) -/
def Ent (b : T) (p : String × Val) : Prop :=
  p.2 ≠ .ty (.tparam p.1) ∧ (noConstParam b = true → p.2 ≠ .ex (.eparam p.1))

def Light (b : T) (σ : Subst) : Prop := (keys σ).Nodup ∧ ∀ p ∈ σ, Ent b p

theorem Light.nil (b : T) : Light b [] := ⟨by simp [keys], fun p hp => by cases hp⟩

theorem Light.mono {b b' : T} {σ : Subst} (h : Light b' σ)
    (hb : noConstParam b = true → noConstParam b' = true) : Light b σ :=
  ⟨h.1, fun p hp => ⟨(h.2 p hp).1, fun hn => (h.2 p hp).2 (hb hn)⟩⟩

theorem Light.merge {b : T} {σ τ ρ : Subst} (h1 : Light b σ) (h2 : Light b τ)
    (hm : merge σ τ = some ρ) : Light b ρ :=
  ⟨merge_nodup τ σ ρ hm h1.1, fun p hp => (merge_mem τ σ ρ hm p hp).elim (h1.2 p) (h2.2 p)⟩

theorem Light.single_identity (b : T) (n : String) : Light b [(n, .identity)] :=
  ⟨by simp [keys], fun p hp => by
    simp only [List.mem_singleton] at hp; subst hp
    exact ⟨by simp, fun _ => by simp⟩⟩

def LightP (a : T) : Prop := ∀ b σ l, supS a b = .yes σ l → Light b σ

/-- the last arm of `supL`; its equation asks that the arguments are not those of the first two arms -/
theorem supL_nil_cons (b : T) (bs : List T) (acc : Subst) (fl : Bool) : supL [] (b :: bs) acc fl = .no := by
  rw [supL]
  · intro _ h; cases h
  · intro _ _ _ _ h; cases h
theorem supL_cons_nil (a : T) (as : List T) (acc : Subst) (fl : Bool) : supL (a :: as) [] acc fl = .no := by
  rw [supL]
  · intro h; cases h
  · intro _ _ _ _ _ h; cases h

theorem supL_nil_inv {bs : List T} {acc : Subst} {fl : Bool} {σ : Subst} {l : Bool}
    (h : supL [] bs acc fl = .yes σ l) : bs = [] ∧ σ = acc ∧ l = fl := by
  cases bs with
  | nil => rw [supL] at h; cases h; exact ⟨rfl, rfl, rfl⟩
  | cons b bs => rw [supL_nil_cons] at h; cases h

theorem supL_cons_inv {a : T} {as bs : List T} {acc : Subst} {fl : Bool} {σ : Subst} {l : Bool}
    (h : supL (a :: as) bs acc fl = .yes σ l) :
    ∃ b bs' σ1 f acc', bs = b :: bs' ∧ supS a (stripTop b) = .yes σ1 f ∧ merge acc σ1 = some acc' ∧
      supL as bs' acc' (fl || f) = .yes σ l := by
  cases bs with
  | nil => rw [supL_cons_nil] at h; cases h
  | cons b bs =>
    rw [supL] at h
    split at h
    · cases h
    · cases h
    · next σ1 f h1 =>
      split at h
      · cases h
      · next acc' hm => exact ⟨b, bs, σ1, f, acc', rfl, h1, hm, h⟩

theorem supL_light : ∀ (as bs : List T) (acc : Subst) (fl : Bool) (σ : Subst) (l : Bool) (B : T),
    (∀ t ∈ as, LightP t) → supL as bs acc fl = .yes σ l →
    (noConstParam B = true → noConstParamL bs = true) → Light B acc → Light B σ := by
  intro as
  induction as with
  | nil =>
    intro bs acc fl σ l B _ h _ hacc
    rw [(supL_nil_inv h).2.1]; exact hacc
  | cons a as rec =>
    intro bs acc fl σ l B ih h hB hacc
    obtain ⟨b, bs, σ1, f, acc', rfl, h1, hm, h⟩ := supL_cons_inv h
    have hl1 : Light B σ1 := (ih a (by simp) _ _ _ h1).mono (fun hn =>
      noConstParam_stripTop b (noConstParamL_iff.1 (hB hn) b (by simp)))
    exact rec bs acc' (fl || f) σ l B (fun t ht => ih t (List.mem_cons_of_mem _ ht)) h
      (fun hn => by
        have := hB hn
        rw [noConstParamL] at this; simp only [Bool.and_eq_true] at this; exact this.2)
      (hacc.merge hl1 hm)

theorem supS_light : ∀ a : T, LightP a := by
  apply T.ind
  · intro n b σ l h
    rw [supS_tparam_fwd] at h; cases h
    refine ⟨by simp [keys], fun p hp => ?_⟩
    simp only [List.mem_singleton] at hp; subst hp
    exact ⟨by split <;> simp [*], fun _ => by split <;> simp⟩
  · intro n b σ l h
    rw [supS_eparam_fwd] at h; cases h
    refine ⟨by simp [keys], fun p hp => ?_⟩
    simp only [List.mem_singleton] at hp; subst hp
    exact ⟨by split <;> simp, fun _ => by split <;> simp [*]⟩
  · intro k as ks ih b σ l h
    cases supS_node_inv h with
    | wrap hw hl =>
      rcases lastKid_cases ks with rfl | ⟨e, he, hk⟩
      · rw [supLast] at hl; cases hl
      · rw [supLast_of_last hk] at hl; exact ih e he b σ l hl
    | ign _ _ hσ _ => subst hσ; exact Light.nil _
    | ignL _ _ hσ _ => subst hσ; exact Light.nil _
    | node k' as' ks' hw hi hil hb hnn =>
      subst hb
      have hkids : noConstParam (T.node k' as' ks') = true → noConstParamL ks' = true := noConstParam_kids
      have sub : ∀ {t t' : T} {τ : Subst} {f : Bool}, t ∈ ks → t' ∈ ks' → supS t (stripTop t') = .yes τ f →
          Light (T.node k' as' ks') τ := by
        intro t t' τ f ht ht' hs
        exact (ih t ht _ _ _ hs).mono (fun hn =>
          noConstParam_stripTop t' (noConstParamL_iff.1 (hkids hn) t' ht'))
      cases hnn with
      | wildSame _ _ hs => exact supL_light ks ks' [] false σ l _ ih hs hkids (Light.nil _)
      | lossy _ hσ _ => subst hσ; exact Light.nil _
      | gaConst n e _ _ _ hk' has' hks' hσ _ =>
        subst hσ hk' has' hks'
        refine ⟨by simp [keys], fun p hp => ?_⟩
        simp only [List.mem_singleton] at hp; subst hp
        refine ⟨by simp, fun hn => ?_⟩
        intro he
        simp only [Val.ex.injEq] at he
        subst he
        rw [noConstParam_bare] at hn; cases hn
      | lifetime x y _ _ _ _ hσ _ _ => subst hσ; exact Light.nil _
      | pathParam n _ _ _ hσ _ => subst hσ; exact Light.single_identity _ _
      | qself ty rest ty' _ _ hks hks' hs _ =>
        subst hks hks'
        exact sub (by simp) (by simp) hs
      | binary op lft r att lft' r' att' σ1 f1 σ2 f2 σ12 σ3 f3 _ _ hks hks' h1 h2 hm12 h3 hm3 _ =>
        subst hks hks'
        exact ((sub (by simp) (by simp) h1).merge (sub (by simp) (by simp) h2) hm12).merge
          (sub (by simp) (by simp) h3) hm3
      | binarySwap op lft r att lft' r' att' σ1 f1 σ2 f2 σ12 σ3 f3 _ _ hks hks' h1 h2 hm12 h3 hm3 _ =>
        subst hks hks'
        exact ((sub (by simp) (by simp) h1).merge (sub (by simp) (by simp) h2) hm12).merge
          (sub (by simp) (by simp) h3) hm3
      | optNone x y _ _ _ _ _ hσ _ => subst hσ; exact Light.nil _
      | optSome x y _ _ hks hks' hs =>
        subst hks hks'
        exact sub (by simp) (by simp) hs
      | dflt _ _ _ _ hs => exact supL_light ks ks' [] false σ l _ ih hs hkids (Light.nil _)

/-! ### Second induction: soundness and domain -/

/-- every visible parameter of `a` is bound -/
def Binds (a : T) (σ : Subst) : Prop := ∀ n ∈ params a, (lookup σ n).isSome = true
def BindsL (ks : List T) (σ : Subst) : Prop := ∀ n ∈ paramsL ks, (lookup σ n).isSome = true

theorem bindsL_iff {ks : List T} {σ : Subst} : BindsL ks σ ↔ ∀ t ∈ ks, Binds t σ := by
  constructor
  · intro h t ht n hn; exact h n (mem_paramsL.2 ⟨t, ht, hn⟩)
  · intro h n hn
    obtain ⟨t, ht, hnt⟩ := mem_paramsL.1 hn
    exact h t ht n hnt

theorem agree_of_binds {σ σ' : Subst} (he : Ext σ σ') {n : String} (h : (lookup σ n).isSome = true) :
    lookup σ n = lookup σ' n := by
  cases hl : lookup σ n with
  | none => simp [hl] at h
  | some v => rw [he n v hl]

theorem Binds.ext {a : T} {σ σ' : Subst} (h : Binds a σ) (he : Ext σ σ') : Binds a σ' := by
  intro n hn
  rw [← agree_of_binds he (h n hn)]; exact h n hn

/-- congruence of `erase ∘ inst` in the substitution, on the visible parameters -/
def CongP (σ σ' : Subst) (t : T) : Prop :=
  wf t = true → (∀ n ∈ params t, lookup σ n = lookup σ' n) → erase (inst σ t) = erase (inst σ' t)

theorem eraseL_instL_congr {σ σ' : Subst} : ∀ (ks : List T), (∀ t ∈ ks, CongP σ σ' t) → wfL ks = true →
    (∀ n ∈ paramsL ks, lookup σ n = lookup σ' n) → eraseL (instL σ ks) = eraseL (instL σ' ks)
  | [], _, _, _ => by simp [instL]
  | t :: ts, ih, hwf, h => by
      rw [wfL] at hwf; simp only [Bool.and_eq_true] at hwf
      rw [instL, instL, eraseL, eraseL]
      rw [ih t (by simp) hwf.1 (fun n hn => h n (by simp [paramsL, hn]))]
      rw [eraseL_instL_congr ts (fun t ht => ih t (List.mem_cons_of_mem _ ht)) hwf.2
        (fun n hn => h n (by simp [paramsL, hn]))]

theorem erase_inst_congr (σ σ' : Subst) : ∀ t : T, CongP σ σ' t := by
  apply T.ind
  · intro n _ h
    have := h n (by simp [params])
    rw [inst, inst, this]
  · intro n _ h
    have := h n (by simp [params])
    rw [inst, inst, this]
  · intro k as ks ih hwf h
    by_cases hi : k = "Ign"
    · subst hi
      rw [inst_other σ (isGA_of_ne (by decide)),
        inst_other σ' (isGA_of_ne (by decide)), erase_ign, erase_ign]
    by_cases hil : k = "IgnL"
    · subst hil
      have hc := wf_ignL hwf
      have hc' : closed (T.node "IgnL" as ks) = true := by rw [closed]; exact hc
      rw [inst_closed σ _ hc', inst_closed σ' _ hc']
    obtain ⟨hn, hwfL⟩ := wf_node_inv hwf hi hil
    rw [params_node as ks hi hil] at h
    cases hs : isGA k as ks with
    | some n =>
      obtain ⟨rfl, rfl, rfl⟩ := isGA_some hs
      have := h n (by simp [paramsL, params])
      rw [inst, inst, this]
    | none =>
    rw [inst_other σ hs, inst_other σ' hs]
    by_cases hw : isWrapper k = true
    · rw [erase_wrapper _ _ hw, erase_wrapper _ _ hw]
      rcases lastKid_cases ks with rfl | ⟨e, he, hl⟩
      · rw [instL, instL]
      · rw [eraseLast_of_last (lastKid_instL σ hl), eraseLast_of_last (lastKid_instL σ' hl)]
        exact ih e he (wfL_iff.1 hwfL e he) (fun n hn => h n (mem_paramsL.2 ⟨e, he, hn⟩))
    · have hw : isWrapper k = false := by simpa using hw
      rw [erase_plain _ _ hw hi, erase_plain _ _ hw hi, eraseL_instL_congr ks ih hwfL h]

/-- what an answer `yes σ` without lenient arm gives: σ binds every parameter of `a`, and it turns `a` into `b` modulo
    presentation when `b` is well-formed and the ignored children of `a` face ignored children of `b` -/
def Good (a b : T) (σ : Subst) : Prop :=
  Binds a σ ∧ (wf b = true → ignFaces a b = true → erase (inst σ a) = erase b)

theorem Good.ext {a b : T} {σ σ' : Subst} (hwf : wf a = true) (h : Good a b σ) (he : Ext σ σ') :
    Good a b σ' := by
  refine ⟨h.1.ext he, fun hb hf => ?_⟩
  rw [← h.2 hb hf]
  exact (erase_inst_congr σ σ' a hwf (fun n hn => agree_of_binds he (h.1 n hn))).symm

theorem Good.closed {a : T} (h : closed a = true) (σ : Subst) : Good a a σ :=
  ⟨fun n hn => by rw [params_closed a h] at hn; exact absurd hn List.not_mem_nil, fun _ _ => by rw [inst_closed σ a h]⟩

def GoodP (a : T) : Prop := ∀ b σ, wf a = true → supS a b = .yes σ false → Good a b σ

def GoodL (ks ks' : List T) (σ : Subst) : Prop :=
  BindsL ks σ ∧ (wfL ks' = true → ignFacesL ks ks' = true → eraseL (instL σ ks) = eraseL ks')

theorem GoodP.kid {t t' : T} {τ σ : Subst} (hP : GoodP t) (hwf : wf t = true)
    (hs : supS t (stripTop t') = .yes τ false) (he : Ext τ σ) : Good t (stripTop t') σ :=
  (hP _ _ hwf hs).ext hwf he

theorem Good.closed_strip {t : T} (h : DI.closed t = true) (σ : Subst) : Good t (stripTop t) σ :=
  ⟨(Good.closed h σ).1, fun _ _ => by rw [inst_closed σ t h, erase_stripTop]⟩

theorem GoodL.nil (σ : Subst) : GoodL [] [] σ :=
  ⟨fun n hn => by rw [paramsL] at hn; exact absurd hn List.not_mem_nil, fun _ _ => by rw [instL]⟩

/-- `t'` is the child of the target as it stands; the matcher saw `stripTop t'` -/
theorem GoodL.cons {t t' : T} {ts ts' : List T} {σ : Subst} (g : Good t (stripTop t') σ) (gl : GoodL ts ts' σ) :
    GoodL (t :: ts) (t' :: ts') σ := by
  refine ⟨fun n hn => ?_, fun hwb hf => ?_⟩
  · rw [paramsL] at hn
    exact (List.mem_append.1 hn).elim (g.1 n) (gl.1 n)
  · rw [wfL] at hwb; rw [ignFacesL] at hf; simp only [Bool.and_eq_true] at hwb hf
    rw [instL, eraseL, eraseL, g.2 (wf_stripTop _ hwb.1) hf.1, erase_stripTop, gl.2 hwb.2 hf.2]

theorem GoodL.closed {ks : List T} (h : closedL ks = true) (σ : Subst) : GoodL ks ks σ :=
  ⟨fun n hn => by rw [paramsL_closed h] at hn; exact absurd hn List.not_mem_nil, fun _ _ => by rw [instL_closed σ h]⟩

theorem ignFaces_node {k : String} {as as' : List String} {ks ks' : List T} (hw : isWrapper k = false)
    (hi : k ≠ "Ign") (hil : k ≠ "IgnL") :
    ignFaces (.node k as ks) (.node k as' ks') = ignFacesL ks ks' := by
  rw [ignFaces]; simp [hw, hi, hil]

/-- two nodes of one kind whose children correspond pairwise, where `inst` acts on the children -/
theorem GoodL.node {k : String} {as as' : List String} {ks ks' : List T} {σ : Subst} (g : GoodL ks ks' σ)
    (hw : isWrapper k = false) (hi : k ≠ "Ign") (hil : k ≠ "IgnL")
    (hinst : inst σ (.node k as ks) = .node k as (instL σ ks)) (has : wfNode k as' ks' = true → as = as') :
    Good (.node k as ks) (.node k as' ks') σ := by
  refine ⟨by rw [Binds, params_node as ks hi hil]; exact g.1, fun hwb hf => ?_⟩
  obtain ⟨hn', hwfL'⟩ := wf_node_inv hwb hi hil
  rw [ignFaces_node hw hi hil] at hf
  rw [hinst, erase_plain _ _ hw hi, erase_plain _ _ hw hi, g.2 hwfL' hf, has hn']

theorem supL_good : ∀ (as bs : List T) (acc : Subst) (fl : Bool) (σ : Subst),
    (∀ t ∈ as, GoodP t) → wfL as = true → supL as bs acc fl = .yes σ false →
    Ext acc σ ∧ fl = false ∧ GoodL as bs σ := by
  intro as
  induction as with
  | nil =>
    intro bs acc fl σ _ _ h
    obtain ⟨rfl, rfl, hfl⟩ := supL_nil_inv h
    exact ⟨Ext.refl _, hfl.symm, GoodL.nil _⟩
  | cons a as rec =>
    intro bs acc fl σ ih hwf h
    rw [wfL] at hwf; simp only [Bool.and_eq_true] at hwf
    obtain ⟨b, bs, σ1, f, acc', rfl, h1, hm, h⟩ := supL_cons_inv h
    obtain ⟨hext, hfl, gl⟩ := rec bs acc' (fl || f) σ (fun t ht => ih t (List.mem_cons_of_mem _ ht)) hwf.2 h
    obtain ⟨rfl, rfl⟩ : fl = false ∧ f = false := by simpa using hfl
    obtain ⟨e1, e2⟩ := merge_ext σ1 acc acc' hm
    exact ⟨e1.trans hext, rfl, GoodL.cons ((ih a (by simp)).kid hwf.1 h1 (e2.trans hext)) gl⟩

theorem supL_single {a : T} {ks' : List T} {σ : Subst} {l : Bool}
    (h : supL [a] ks' [] false = .yes σ l) :
    ∃ b0 σ1, ks' = [b0] ∧ supS a (stripTop b0) = .yes σ1 l ∧ Ext σ1 σ := by
  obtain ⟨b0, bs, σ1, f, acc', rfl, h1, hm, h⟩ := supL_cons_inv h
  obtain ⟨rfl, rfl, rfl⟩ := supL_nil_inv h
  exact ⟨b0, σ1, rfl, by simpa using h1, (merge_ext σ1 [] _ hm).2⟩

theorem goodP_tparam (n : String) : GoodP (.tparam n) := by
  intro b σ _ h
  rw [supS_tparam_fwd] at h; cases h
  refine ⟨fun m hm => ?_, fun _ _ => ?_⟩
  · simp [params] at hm; subst hm; simp [lookup]
  · by_cases hb : b = .tparam n
    · rw [if_pos hb, hb, inst_tparam_other (by simp [lookup])]
    · rw [if_neg hb, inst_tparam_ty (lookup_single _ _)]

theorem goodP_eparam (n : String) : GoodP (.eparam n) := by
  intro b σ _ h
  rw [supS_eparam_fwd] at h; cases h
  refine ⟨fun m hm => ?_, fun _ _ => ?_⟩
  · simp [params] at hm; subst hm; simp [lookup]
  · by_cases hb : b = .eparam n
    · rw [if_pos hb, hb, inst_eparam_other (by simp [lookup])]
    · rw [if_neg hb, inst_eparam_ex (lookup_single _ _)]

theorem ignFacesLast_of_last {ks : List T} {e : T} (h : lastKid ks = some e) (b : T) :
    ignFacesLast ks b = ignFaces e b :=
  of_lastKid (f := (ignFacesLast · b)) (g := (ignFaces · b)) (fun e => by rw [ignFacesLast])
    (fun a c l => by rw [ignFacesLast]; intro x; cases x) h

/-- in a well-formed wrapper only the last child has visible parameters -/
theorem paramsL_of_last : ∀ {ks : List T} {e : T}, initIgn ks = true → lastKid ks = some e → paramsL ks = params e
  | [], _, _, h => by rw [lastKid] at h; cases h
  | [e'], e, _, h => by rw [lastKid] at h; cases h; rw [paramsL, paramsL, List.append_nil]
  | a :: c :: l, e, hi, h => by
      have hi' : isIgnNode a = true ∧ initIgn (c :: l) = true := by
        rw [initIgn] at hi
        · simpa using hi
        · intro x; cases x
      have h' : lastKid (c :: l) = some e := by
        rw [lastKid] at h
        · exact h
        · intro x; cases x
      obtain ⟨as0, ks0, rfl⟩ := isIgnNode_inv hi'.1
      rw [paramsL, params_ignored _ _ rfl, List.nil_append]
      exact paramsL_of_last hi'.2 h'

theorem ignFaces_wrapper {k : String} (as : List String) (ks : List T) (b : T) (hw : isWrapper k = true) :
    ignFaces (.node k as ks) b = ignFacesLast ks b := by
  unfold ignFaces; simp [hw]
theorem ignFaces_ign (as : List String) (ks : List T) (b : T) :
    ignFaces (.node "Ign" as ks) b = isIgnNode b := by
  unfold ignFaces; simp [isWrapper]

/-- the kinds that `wf` requires to carry no atoms: never the generic-argument position, and the atoms agree -/
theorem GoodL.node_atomFree {k : String} {as as' : List String} {ks ks' : List T} {σ : Subst} (g : GoodL ks ks' σ)
    (hw : isWrapper k = false) (hi : k ≠ "Ign") (hil : k ≠ "IgnL") (hk : atomFree k = true)
    (hn : wfNode k as ks = true) : Good (.node k as ks) (.node k as' ks') σ :=
  g.node hw hi hil (inst_other σ (isGA_of_ne (by rintro rfl; simp [atomFree] at hk)))
    (fun hn' => ((wfNode_parts hn).2.1 hk).trans ((wfNode_parts hn').2.1 hk).symm)

theorem goodP_node (k : String) (as : List String) (ks : List T) (ih : ∀ t ∈ ks, GoodP t) :
    GoodP (.node k as ks) := by
  intro b σ hwf h
  cases supS_node_inv h with
  | wrap hw hl =>
    obtain ⟨hn, hwfL⟩ := wf_node_inv hwf (isWrapper_ne_ign hw) (isWrapper_ne_ignL hw)
    rcases lastKid_cases ks with rfl | ⟨e, he, hk⟩
    · rw [supLast] at hl; cases hl
    rw [supLast_of_last hk] at hl
    have g := ih e he b σ (wfL_iff.1 hwfL e he) hl
    refine ⟨?_, fun hwb hf => ?_⟩
    · rw [Binds, params_node as ks (isWrapper_ne_ign hw) (isWrapper_ne_ignL hw),
        paramsL_of_last ((wfNode_parts hn).1 hw) hk]
      exact g.1
    · rw [ignFaces_wrapper _ _ _ hw, ignFacesLast_of_last hk] at hf
      rw [inst_other σ (isGA_of_ne (isWrapper_ne_ga hw)), erase_wrapper _ _ hw,
        eraseLast_of_last (lastKid_instL σ hk)]
      exact g.2 hwb hf
  | ign hw hk hσ _ =>
    subst hk hσ
    refine ⟨fun n hn => ?_, fun hwb hf => ?_⟩
    · rw [params_ignored _ _ rfl] at hn; cases hn
    · rw [ignFaces_ign] at hf
      obtain ⟨as', ks', rfl⟩ := isIgnNode_inv hf
      rw [inst_other _ (isGA_of_ne (by simp)), erase_ign, erase_ign]
  | ignL hw hk hσ hb =>
    subst hk hσ
    have hb := hb rfl; subst hb
    exact Good.closed (by rw [closed]; exact wf_ignL hwf) _
  | node k' as' ks' hw hi hil hb hnn =>
    subst hb
    obtain ⟨hn, hwfL⟩ := wf_node_inv hwf hi hil
    have kid : ∀ {t t' : T} {τ : Subst}, t ∈ ks → supS t (stripTop t') = .yes τ false → Ext τ σ → Good t (stripTop t') σ :=
      fun ht hs he => (ih _ ht).kid (wfL_iff.1 hwfL _ ht) hs he
    cases hnn with
    | wildSame hk hk' hs =>
      obtain rfl : k' = k := hk'.trans hk.symm
      exact (supL_good ks ks' [] false σ ih hwfL hs).2.2.node_atomFree hw hi hil (by simp [atomFree, hk]) hn
    | lossy _ _ hl => cases hl
    | gaConst n e hk has hks hk' has' hks' hσ _ =>
      subst hk has hks hk' has' hks' hσ
      refine ⟨?_, fun _ _ => ?_⟩
      · rw [Binds, params_node _ _ hi hil]; intro m hm
        simp [paramsL, params] at hm; subst hm; simp [lookup]
      · exact congrArg erase (instGa_ex (lookup_single _ _))
    | lifetime x y hkk _ hx hy _ _ hxy =>
      obtain rfl := hxy rfl
      rw [lifetimeIdent_inv hx, lifetimeIdent_inv hy]
      exact Good.closed (by simp [closed, closedL]) σ
    | pathParam n hkk hpa hpb _ _ =>
      rw [pathParam_inv hpa, pathParam_inv hpb]
      exact Good.closed (by simp [closed, closedL]) σ
    | qself ty rest ty' hkk hk hks hks' hs _ =>
      subst hkk hks hks'
      exact (GoodL.cons (kid (by simp) hs (Ext.refl σ)) (GoodL.closed ((wfNode_parts hn).2.2.1 hk) σ)).node_atomFree hw hi hil (by simp [atomFree, hk]) hn
    | binary op lft r att lft' r' att' σ1 f1 σ2 f2 σ12 σ3 f3 hkk hk hks hks' h1 h2 hm12 h3 hm3 hl =>
      subst hkk hks hks'
      obtain ⟨⟨rfl, rfl⟩, rfl⟩ : (f1 = false ∧ f2 = false) ∧ f3 = false := by simpa using hl.symm
      obtain ⟨e1, e2⟩ := merge_ext σ2 σ1 σ12 hm12
      obtain ⟨e12, e3⟩ := merge_ext σ3 σ12 σ hm3
      have hop : closed op = true := by simpa [closedL] using (wfNode_parts hn).2.2.2 hk
      exact (GoodL.cons (Good.closed_strip hop σ) (GoodL.cons (kid (by simp) h1 (e1.trans e12))
        (GoodL.cons (kid (by simp) h2 (e2.trans e12)) (GoodL.cons (kid (by simp) h3 e3) (GoodL.nil σ))))).node_atomFree hw hi hil (by simp [atomFree, hk]) hn
    | binarySwap => rename_i hl; cases hl
    | optNone x y hkk hk hks hks' hnone _ hxy =>
      obtain rfl := hxy rfl
      subst hkk hks hks'
      obtain rfl := isNoneNode_inv (by simpa using hnone : isNoneNode x = true)
      exact (GoodL.closed (ks := [.node "None" [] []]) rfl σ).node_atomFree hw hi hil (by simp [atomFree, hk]) hn
    | optSome x y hkk hk hks hks' hs =>
      subst hkk hks hks'
      exact (GoodL.cons (kid (by simp) hs (Ext.refl σ)) (GoodL.nil σ)).node_atomFree hw hi hil (by simp [atomFree, hk]) hn
    | dflt hkk _ _ has hs =>
      subst hkk has
      cases hsp : isGA k as ks with
      | some n =>
        -- `GenericArgument::Type [] [tparam n]` against a type argument: `n` is not bound to a const value
        obtain ⟨rfl, rfl, rfl⟩ := isGA_some hsp
        obtain ⟨b0, σ1, rfl, hs1, he⟩ := supL_single hs
        have hv : ∀ e, lookup σ n ≠ some (.ex e) := by
          intro e he'
          rw [supS_tparam_fwd] at hs1; cases hs1
          rw [he n _ (lookup_single _ _)] at he'
          split at he' <;> cases he'
        exact (GoodL.cons ((goodP_tparam n).kid (t' := b0) (by rw [wf]) hs1 he) (GoodL.nil σ)).node hw hi hil
          (by rw [inst_ga_other hv, instL, instL]) (fun _ => rfl)
      | none => exact (supL_good ks ks' [] false σ ih hwfL hs).2.2.node hw hi hil (inst_other σ hsp) (fun _ => rfl)

theorem supS_good : ∀ a : T, GoodP a := T.ind goodP_tparam goodP_eparam goodP_node

end DI

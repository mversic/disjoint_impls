/-
  Lemmas for the C14 theorems (`Props/C14.lean`) over the model of `validate.rs` (`Validate.lean`). Core-only.
  `compare_trait_items` on a table is the first error of a list of independent checks, one per trait item and one for
  left-over entries (`compareTraitItemsLoop_eq_firstError`); acceptance and the diagnostics of the single-defect mutations
  are read off that list. An entry nobody asks for is inert (`compareTraitItemsLoop_unasked`): this needs no condition
  on the lists. Inherent mode is trait mode on `ItemSig.strict` items (`compareInherentItemsLoop_eq`); a block enters
  through its look-up table `itemMap`.
-/
import DisjointImpls.Validate
namespace DI

instance : DecidableEq (Except Diag Unit)
  | .ok (), .ok () => isTrue rfl
  | .ok (), .error _ => isFalse (fun h => by cases h)
  | .error _, .ok () => isFalse (fun h => by cases h)
  | .error a, .error b => if h : a = b then isTrue (by rw [h]) else isFalse (fun e => h (by cases e; rfl))

/-! ### `firstError` -/

theorem firstError_cons (r : Except Diag Unit) (l : List (Except Diag Unit)) :
    firstError (r :: l) = match r with | .error d => .error d | .ok () => firstError l := by
  cases r with
  | error d => rfl
  | ok u => rfl

theorem firstError_ok_iff {l : List (Except Diag Unit)} : firstError l = .ok () ↔ ∀ r ∈ l, r = .ok () := by
  induction l with
  | nil => simp [firstError]
  | cons r rest ih =>
    rw [firstError_cons, List.forall_mem_cons, ← ih]
    cases r with
    | error d => simp
    | ok u => simp

theorem firstError_append (l1 l2 : List (Except Diag Unit)) :
    firstError (l1 ++ l2) = match firstError l1 with | .error d => .error d | .ok () => firstError l2 := by
  induction l1 with
  | nil => rfl
  | cons r l1 ih =>
    cases r with
    | error d => rfl
    | ok u => exact ih

theorem firstError_append_error {d : Diag} {l1 l2 : List (Except Diag Unit)} (h : ∀ r ∈ l1, r = .ok ()) :
    firstError (l1 ++ .error d :: l2) = .error d := by
  rw [firstError_append, firstError_ok_iff.2 h]
  rfl

theorem firstError_append_of_ok {l1 : List (Except Diag Unit)} (h : firstError l1 = .ok ())
    (l2 : List (Except Diag Unit)) : firstError (l1 ++ l2) = firstError l2 := by
  rw [firstError_append, h]

theorem firstError_append_ok_iff {l1 l2 : List (Except Diag Unit)} :
    firstError (l1 ++ l2) = .ok () ↔ firstError l1 = .ok () ∧ firstError l2 = .ok () := by
  rw [firstError_ok_iff, firstError_ok_iff, firstError_ok_iff, List.forall_mem_append]

/-- the answer is the first error of the list -/
theorem firstError_map_error_iff {α : Type} {f : α → Except Diag Unit} {d : Diag} {l : List α} :
    firstError (l.map f) = .error d ↔
      ∃ pre x post, l = pre ++ x :: post ∧ f x = .error d ∧ ∀ y ∈ pre, f y = .ok () := by
  constructor
  · intro h
    induction l with
    | nil => cases h
    | cons a l ih =>
      rw [List.map_cons, firstError_cons] at h
      cases ha : f a with
      | error e =>
        rw [ha] at h
        exact ⟨[], a, l, rfl, ha.trans h, fun _ hy => (List.not_mem_nil hy).elim⟩
      | ok u =>
        rw [ha] at h
        obtain ⟨pre, x, post, rfl, hx, hpre⟩ := ih h
        exact ⟨a :: pre, x, post, rfl, hx, List.forall_mem_cons.2 ⟨ha, hpre⟩⟩
  · rintro ⟨pre, x, post, rfl, hx, hpre⟩
    rw [List.map_append, List.map_cons, hx]
    exact firstError_append_error (List.forall_mem_map.2 hpre)

theorem firstError_error_iff {d : Diag} {l : List (Except Diag Unit)} :
    firstError l = .error d ↔ ∃ l1 l2, l = l1 ++ .error d :: l2 ∧ ∀ r ∈ l1, r = .ok () := by
  constructor
  · intro h
    obtain ⟨l1, x, l2, rfl, hx, hl⟩ := (firstError_map_error_iff (f := id)).1 ((List.map_id l).symm ▸ h)
    exact ⟨l1, l2, congrArg (l1 ++ · :: l2) hx, hl⟩
  · rintro ⟨l1, l2, rfl, hl⟩
    exact firstError_append_error hl

theorem firstError_map_ok_iff {α : Type} {f : α → Except Diag Unit} {l : List α} :
    firstError (l.map f) = .ok () ↔ ∀ x ∈ l, f x = .ok () := by
  rw [firstError_ok_iff, List.forall_mem_map]

/-- a list of checks that can only fail in one way -/
theorem firstError_eq_of_all {d : Diag} {l : List (Except Diag Unit)} (hall : ∀ r ∈ l, r = .ok () ∨ r = .error d)
    (hex : ∃ r ∈ l, r = .error d) : firstError l = .error d := by
  cases hf : firstError l with
  | ok u =>
    obtain ⟨r, hr, rfl⟩ := hex
    cases firstError_ok_iff.1 hf _ hr
  | error e =>
    obtain ⟨l1, l2, rfl, _⟩ := firstError_error_iff.1 hf
    rcases hall _ (List.mem_append_right _ List.mem_cons_self) with h | h
    · cases h
    · rw [h]

/-! ### Items: keys, lists without repeated keys, clean lists -/

/-- what identifies an item: its kind and name -/
def ItemSig.key (i : ItemSig) : ItemKind × String := (i.kind, i.ident)

/-- `i` is the item of kind `k` called `x` -/
abbrev ItemSig.is (i : ItemSig) (k : ItemKind) (x : String) : Prop := i.kind = k ∧ i.ident = x

theorem ItemSig.is_iff_key {i : ItemSig} {k : ItemKind} {x : String} : i.is k x ↔ i.key = (k, x) := by
  simp [ItemSig.is, ItemSig.key]

theorem key_eq_iff {a b : ItemSig} : a.key = b.key ↔ a.kind = b.kind ∧ a.ident = b.ident :=
  ItemSig.is_iff_key.symm

/-- items without `other` kind and without duplicate (kind, ident) pairs -/
def cleanItems (xs : List ItemSig) : Bool :=
  xs.all (fun i => i.kind != .other) && decide (xs.map ItemSig.key).Nodup

theorem cleanItems_iff {xs : List ItemSig} :
    cleanItems xs = true ↔ (∀ i ∈ xs, i.kind ≠ .other) ∧ (xs.map ItemSig.key).Nodup := by
  simp [cleanItems]

theorem no_other_iff {xs : List ItemSig} :
    xs.any (fun i => i.kind = .other) = false ↔ ∀ i ∈ xs, i.kind ≠ .other := by
  simp only [List.any_eq_false, decide_eq_true_eq]

theorem clean_no_other {xs : List ItemSig} (h : cleanItems xs = true) :
    xs.any (fun i => i.kind = .other) = false :=
  no_other_iff.2 (cleanItems_iff.1 h).1

theorem clean_of {xs : List ItemSig} (ho : xs.any (fun i => i.kind = .other) = false)
    (hn : (xs.map ItemSig.key).Nodup) : cleanItems xs = true :=
  cleanItems_iff.2 ⟨no_other_iff.1 ho, hn⟩

/-- taking `s` out of a list without repeated keys leaves no item with the key of `s` -/
theorem nodup_keys_middle {l1 l2 : List ItemSig} {s : ItemSig} (h : ((l1 ++ s :: l2).map ItemSig.key).Nodup) :
    ((l1 ++ l2).map ItemSig.key).Nodup ∧ ∀ y ∈ l1 ++ l2, ¬ y.is s.kind s.ident := by
  have := (List.nodup_cons.1 ((List.perm_middle.map ItemSig.key).nodup_iff.1 h))
  exact ⟨this.2, fun y hy hk => this.1 (List.mem_map.2 ⟨y, hy, key_eq_iff.2 hk⟩)⟩

/-- in a list without repeated keys an item is determined by its key -/
theorem key_inj {xs : List ItemSig} (h : (xs.map ItemSig.key).Nodup) {a b : ItemSig} (ha : a ∈ xs) (hb : b ∈ xs)
    (hk : a.is b.kind b.ident) : a = b := by
  obtain ⟨l1, l2, rfl⟩ := List.append_of_mem hb
  rcases List.mem_append.1 ha with ha | ha
  · exact absurd hk ((nodup_keys_middle h).2 a (List.mem_append_left _ ha))
  · rcases List.mem_cons.1 ha with ha | ha
    · exact ha
    · exact absurd hk ((nodup_keys_middle h).2 a (List.mem_append_right _ ha))

/-! ### `removeItem` and `dropItem` -/

theorem removeItem_none {k : ItemKind} {x : String} {xs : List ItemSig} :
    removeItem k x xs = none ↔ ∀ s ∈ xs, ¬ s.is k x := by
  induction xs with
  | nil => simp [removeItem]
  | cons i is ih =>
    rw [removeItem, List.forall_mem_cons, ← ih]
    by_cases hi : i.kind = k ∧ i.ident = x
    · simp [hi]
    · rw [if_neg hi]
      cases removeItem k x is <;> simp [hi]

/-- the item found and what is left: the list splits around it, and nothing before it matches -/
theorem removeItem_some {k : ItemKind} {x : String} {xs : List ItemSig} {s : ItemSig} {rest : List ItemSig}
    (h : removeItem k x xs = some (s, rest)) :
    ∃ l1 l2, xs = l1 ++ s :: l2 ∧ rest = l1 ++ l2 ∧ s.is k x ∧ ∀ y ∈ l1, ¬ y.is k x := by
  induction xs generalizing rest with
  | nil => cases h
  | cons i is ih =>
    rw [removeItem] at h
    by_cases hi : i.kind = k ∧ i.ident = x
    · rw [if_pos hi] at h; cases h
      exact ⟨[], is, rfl, rfl, hi, fun _ hy => (List.not_mem_nil hy).elim⟩
    · rw [if_neg hi] at h
      cases hr : removeItem k x is with
      | none => rw [hr] at h; cases h
      | some p =>
        obtain ⟨j, r⟩ := p
        rw [hr] at h; cases h
        obtain ⟨l1, l2, h1, h2, h3, h4⟩ := ih hr
        exact ⟨i :: l1, l2, congrArg (i :: ·) h1, congrArg (i :: ·) h2, h3, List.forall_mem_cons.2 ⟨hi, h4⟩⟩

/-- conversely, a split around the first match computes `removeItem` -/
theorem removeItem_split {k : ItemKind} {x : String} {s : ItemSig} (l1 l2 : List ItemSig)
    (hs : s.is k x) (h : ∀ y ∈ l1, ¬ y.is k x) : removeItem k x (l1 ++ s :: l2) = some (s, l1 ++ l2) := by
  induction l1 with
  | nil => rw [List.nil_append, removeItem, if_pos hs]; rfl
  | cons i l1 ih =>
    rw [List.cons_append, removeItem, if_neg (h i List.mem_cons_self),
      ih (fun y hy => h y (List.mem_cons_of_mem _ hy))]
    rfl

theorem removeItem_perm {k : ItemKind} {x : String} {xs : List ItemSig} {p : ItemSig × List ItemSig}
    (h : removeItem k x xs = some p) : (p.1 :: p.2).Perm xs := by
  obtain ⟨l1, l2, rfl, hrest, _, _⟩ := removeItem_some h
  rw [hrest]
  exact List.perm_middle.symm

/-- the list without the item of kind `k` called `x` -/
def dropItem (k : ItemKind) (x : String) (xs : List ItemSig) : List ItemSig :=
  xs.filter (fun s => decide (¬ s.is k x))

theorem mem_dropItem {k : ItemKind} {x : String} {xs : List ItemSig} {y : ItemSig} :
    y ∈ dropItem k x xs ↔ y ∈ xs ∧ ¬ y.is k x := by
  simp only [dropItem, List.mem_filter, decide_eq_true_eq]

theorem dropItem_append (k : ItemKind) (x : String) (l1 l2 : List ItemSig) :
    dropItem k x (l1 ++ l2) = dropItem k x l1 ++ dropItem k x l2 :=
  List.filter_append l1 l2

theorem dropItem_cons_ne {k : ItemKind} {x : String} {s : ItemSig} (h : ¬ s.is k x) (l : List ItemSig) :
    dropItem k x (s :: l) = s :: dropItem k x l :=
  List.filter_cons_of_pos (decide_eq_true h)

theorem dropItem_cons_eq {k : ItemKind} {x : String} {s : ItemSig} (h : s.is k x) (l : List ItemSig) :
    dropItem k x (s :: l) = dropItem k x l :=
  List.filter_cons_of_neg (by rw [decide_eq_true_eq]; exact fun hn => hn h)

theorem dropItem_eq_self {k : ItemKind} {x : String} {xs : List ItemSig} (h : ∀ s ∈ xs, ¬ s.is k x) :
    dropItem k x xs = xs :=
  List.filter_eq_self.2 (fun s hs => decide_eq_true (h s hs))

/-- all copies of a name taken out of a list in which it is given once -/
theorem dropItem_middle {k : ItemKind} {x : String} {l1 l2 : List ItemSig} {s : ItemSig} (hs : s.is k x)
    (h : ∀ y ∈ l1 ++ l2, ¬ y.is k x) : dropItem k x (l1 ++ s :: l2) = l1 ++ l2 := by
  rw [dropItem_append, dropItem_cons_eq hs, ← dropItem_append, dropItem_eq_self h]

theorem nodup_dropItem {k : ItemKind} {x : String} {xs : List ItemSig} (h : (xs.map ItemSig.key).Nodup) :
    ((dropItem k x xs).map ItemSig.key).Nodup :=
  h.sublist (List.filter_sublist.map _)

theorem no_other_dropItem {k : ItemKind} {x : String} {xs : List ItemSig}
    (h : xs.any (fun i => i.kind = .other) = false) : (dropItem k x xs).any (fun i => i.kind = .other) = false :=
  no_other_iff.2 (fun i hi => no_other_iff.1 h i (mem_dropItem.1 hi).1)

theorem clean_dropItem {k : ItemKind} {x : String} {xs : List ItemSig} (h : cleanItems xs = true) :
    cleanItems (dropItem k x xs) = true :=
  clean_of (no_other_dropItem (clean_no_other h)) (nodup_dropItem (cleanItems_iff.1 h).2)

/-- in a list without repeated keys, what `removeItem` leaves is the list without that name -/
theorem removeItem_rest {k : ItemKind} {x : String} {xs rest : List ItemSig} {s : ItemSig}
    (hn : (xs.map ItemSig.key).Nodup) (h : removeItem k x xs = some (s, rest)) : rest = dropItem k x xs := by
  obtain ⟨l1, l2, rfl, rfl, hs, _⟩ := removeItem_some h
  exact (dropItem_middle hs (fun y hy hy' => (nodup_keys_middle hn).2 y hy
    ⟨hy'.1.trans hs.1.symm, hy'.2.trans hs.2.symm⟩)).symm

/-- looking up one name in the list without another -/
theorem removeItem_dropItem {k k' : ItemKind} {x x' : String} (hne : ¬ (k' = k ∧ x' = x)) (m : List ItemSig) :
    removeItem k' x' (dropItem k x m) = (removeItem k' x' m).map (fun p => (p.1, dropItem k x p.2)) := by
  cases hr : removeItem k' x' m with
  | none =>
    exact removeItem_none.2 (fun s hs => removeItem_none.1 hr s (mem_dropItem.1 hs).1)
  | some p =>
    obtain ⟨s, rest⟩ := p
    obtain ⟨l1, l2, rfl, rfl, hst, hl1⟩ := removeItem_some hr
    have hs' : ¬ s.is k x := fun h => hne ⟨hst.1.symm.trans h.1, hst.2.symm.trans h.2⟩
    rw [dropItem_append, dropItem_cons_ne hs', Option.map_some, dropItem_append]
    exact removeItem_split _ _ hst (fun y hy => hl1 y (mem_dropItem.1 hy).1)

/-! ### The loop of `compare_trait_items`: the first defect decides -/

theorem compareTraitItemsLoop_other (ts : List ItemSig) {second : List ItemSig}
    (h : second.any (fun i => i.kind = .other) = true) : compareTraitItemsLoop ts second = .error .notSupported := by
  cases ts <;> rw [compareTraitItemsLoop, if_pos h]

/-- an accepted run never sees an unsupported item -/
theorem ok_no_other {ts second : List ItemSig} (h : compareTraitItemsLoop ts second = .ok ()) :
    second.any (fun i => i.kind = .other) = false := by
  cases ho : second.any (fun i => i.kind = .other) with
  | false => rfl
  | true => rw [compareTraitItemsLoop_other ts ho] at h; cases h

/-- what the loop answers for the trait item `t` while `second` is the table -/
def itemCheck (second : List ItemSig) (t : ItemSig) : Except Diag Unit :=
  if t.kind = .other then .error .notSupported
  else match removeItem t.kind t.ident second with
    | some (s, _) => if t.kind = .const ∧ t.arity ≠ s.arity then .error .noMatch else .ok ()
    | none => if t.hasDefault then .ok () else .error .missing

/-- what the loop answers when the trait items are used up: every entry of the table must have been asked for -/
def extraCheck (ts second : List ItemSig) : Except Diag Unit :=
  if ∀ s ∈ second, ∃ t ∈ ts, t.kind = s.kind ∧ t.ident = s.ident then .ok () else .error .notInTrait

theorem compareTraitItemsLoop_nil {second : List ItemSig} (h : second.any (fun i => i.kind = .other) = false) :
    compareTraitItemsLoop [] second = extraCheck [] second := by
  rw [compareTraitItemsLoop, h, extraCheck]
  cases second with
  | nil => simp
  | cons s l =>
    have : ¬ ∀ s' ∈ s :: l, ∃ t ∈ ([] : List ItemSig), t.kind = s'.kind ∧ t.ident = s'.ident := fun hall => by
      obtain ⟨_, ht, _⟩ := hall s List.mem_cons_self
      cases ht
    rw [if_neg this]
    rfl

/-- the table after the loop has asked for `t`: without the first entry of that name, if there is one -/
def tableAfter (t : ItemSig) (second : List ItemSig) : List ItemSig :=
  match removeItem t.kind t.ident second with
  | some (_, rest) => rest
  | none => second

/-- one round of the loop -/
theorem compareTraitItemsLoop_cons (t : ItemSig) (ts second : List ItemSig) :
    compareTraitItemsLoop (t :: ts) second =
      if second.any (fun i => i.kind = .other) then .error .notSupported
      else match itemCheck second t with
        | .error d => .error d
        | .ok () => compareTraitItemsLoop ts (tableAfter t second) := by
  rw [compareTraitItemsLoop, itemCheck, tableAfter]
  cases second.any (fun i => i.kind = .other) with
  | true => rfl
  | false =>
    by_cases hto : t.kind = .other
    · simp only [if_pos hto]
    simp only [if_neg hto, Bool.false_eq_true, if_false]
    cases removeItem t.kind t.ident second with
    | none => cases t.hasDefault <;> rfl
    | some p =>
      by_cases har : t.kind = .const ∧ t.arity ≠ p.1.arity
      · simp only [if_pos har]
      · simp only [if_neg har]

/-- in a table the entry asked for, found or not, is not there afterwards -/
theorem tableAfter_of_nodup {t : ItemSig} {second : List ItemSig} (hn : (second.map ItemSig.key).Nodup) :
    tableAfter t second = dropItem t.kind t.ident second := by
  rw [tableAfter]
  cases hr : removeItem t.kind t.ident second with
  | none => exact (dropItem_eq_self (removeItem_none.1 hr)).symm
  | some p => exact removeItem_rest hn hr

theorem tableAfter_dropItem {k : ItemKind} {x : String} {t : ItemSig} (h : ¬ t.is k x) (second : List ItemSig) :
    tableAfter t (dropItem k x second) = dropItem k x (tableAfter t second) := by
  rw [tableAfter, tableAfter, removeItem_dropItem h]
  cases removeItem t.kind t.ident second <;> rfl

theorem mem_tableAfter {t s : ItemSig} {second : List ItemSig} (hs : s ∈ second) (h : ¬ s.is t.kind t.ident) :
    s ∈ tableAfter t second := by
  rw [tableAfter]
  cases hr : removeItem t.kind t.ident second with
  | none => exact hs
  | some p =>
    obtain ⟨_, _, _, _, hp, _⟩ := removeItem_some hr
    rcases List.mem_cons.1 ((removeItem_perm hr).mem_iff.2 hs) with rfl | hs
    · exact absurd hp h
    · exact hs

theorem itemCheck_dropItem_ne {k : ItemKind} {x : String} {t : ItemSig} (h : ¬ t.is k x) (second : List ItemSig) :
    itemCheck (dropItem k x second) t = itemCheck second t := by
  rw [itemCheck, itemCheck, removeItem_dropItem h]
  cases removeItem t.kind t.ident second <;> rfl

theorem itemCheck_dropItem_self {t : ItemSig} (ht : t.kind ≠ .other) (second : List ItemSig) :
    itemCheck (dropItem t.kind t.ident second) t = if t.hasDefault then .ok () else .error .missing := by
  rw [itemCheck, if_neg ht, removeItem_none.2 (fun s hs => (mem_dropItem.1 hs).2)]

theorem extraCheck_cons_dropItem (t : ItemSig) (ts second : List ItemSig) :
    extraCheck ts (dropItem t.kind t.ident second) = extraCheck (t :: ts) second := by
  have : (∀ s ∈ dropItem t.kind t.ident second, ∃ t' ∈ ts, t'.kind = s.kind ∧ t'.ident = s.ident) ↔
      ∀ s ∈ second, ∃ t' ∈ t :: ts, t'.kind = s.kind ∧ t'.ident = s.ident := by
    constructor
    · intro h s hs
      by_cases hst : s.is t.kind t.ident
      · exact ⟨t, List.mem_cons_self, hst.1.symm, hst.2.symm⟩
      · obtain ⟨t', ht', hm⟩ := h s (mem_dropItem.2 ⟨hs, hst⟩)
        exact ⟨t', List.mem_cons_of_mem _ ht', hm⟩
    · intro h s hs
      obtain ⟨hs, hst⟩ := mem_dropItem.1 hs
      obtain ⟨t', ht', hm⟩ := h s hs
      rcases List.mem_cons.1 ht' with rfl | ht'
      · exact absurd ⟨hm.1.symm, hm.2.symm⟩ hst
      · exact ⟨t', ht', hm⟩
  simp only [extraCheck, this]

/-- The first defect decides. On a table (no unsupported item, no name twice), for a trait that declares no name twice,
    `compare_trait_items` answers what the first failing check of this list answers: one check per trait item, in the
    trait's order, each against the whole table; then the check that nothing is left over. -/
theorem compareTraitItemsLoop_eq_firstError (ts : List ItemSig) {second : List ItemSig}
    (hts : (ts.map ItemSig.key).Nodup) (hs : cleanItems second = true) :
    compareTraitItemsLoop ts second = firstError (ts.map (itemCheck second) ++ [extraCheck ts second]) := by
  induction ts generalizing second with
  | nil =>
    rw [compareTraitItemsLoop_nil (clean_no_other hs), List.map_nil, List.nil_append, firstError_cons]
    cases extraCheck [] second <;> rfl
  | cons t ts ih =>
    obtain ⟨ht, hts⟩ := List.nodup_cons.1 hts
    rw [compareTraitItemsLoop_cons, if_neg (Bool.not_eq_true _ ▸ clean_no_other hs),
      tableAfter_of_nodup (cleanItems_iff.1 hs).2, List.map_cons, List.cons_append, firstError_cons]
    cases itemCheck second t with
    | error d => rfl
    | ok u =>
      -- the later checks do not see that the entry of `t` is gone; the left-over check does not miss it
      rw [ih hts (clean_dropItem hs), extraCheck_cons_dropItem,
        List.map_congr_left (fun t' ht' => itemCheck_dropItem_ne
          (fun h => ht (List.mem_map.2 ⟨t', ht', key_eq_iff.2 h⟩)) second)]

/-- acceptance: every check passes -/
theorem compareTraitItemsLoop_ok_iff_checks {ts second : List ItemSig} (hts : (ts.map ItemSig.key).Nodup)
    (hs : cleanItems second = true) :
    compareTraitItemsLoop ts second = .ok () ↔
      (∀ t ∈ ts, itemCheck second t = .ok ()) ∧ ∀ s ∈ second, ∃ t ∈ ts, t.kind = s.kind ∧ t.ident = s.ident := by
  rw [compareTraitItemsLoop_eq_firstError ts hts hs, firstError_ok_iff]
  simp only [List.mem_append, List.mem_map, List.mem_singleton, or_imp, forall_and, forall_exists_index, and_imp,
    forall_apply_eq_imp_iff₂, forall_eq, extraCheck, ite_eq_left_iff, reduceCtorEq, imp_false, Decidable.not_not]

/-- rejection: the first trait item whose check fails gives the diagnostic -/
theorem compareTraitItemsLoop_first_defect {pre post second : List ItemSig} {t : ItemSig} {d : Diag}
    (hts : ((pre ++ t :: post).map ItemSig.key).Nodup) (hs : cleanItems second = true)
    (hpre : ∀ t' ∈ pre, itemCheck second t' = .ok ()) (ht : itemCheck second t = .error d) :
    compareTraitItemsLoop (pre ++ t :: post) second = .error d := by
  rw [compareTraitItemsLoop_eq_firstError _ hts hs, List.map_append, List.map_cons, ht, List.append_assoc,
    List.cons_append]
  exact firstError_append_error (List.forall_mem_map.2 hpre)

/-- the check of one trait item on a table, read on the table's entry of that name -/
theorem itemCheck_ok_iff {second : List ItemSig} {t : ItemSig} (hs : (second.map ItemSig.key).Nodup)
    (ht : t.kind ≠ .other) :
    itemCheck second t = .ok () ↔
      (t.hasDefault = false → ∃ s ∈ second, s.kind = t.kind ∧ s.ident = t.ident) ∧
      ∀ s ∈ second, t.kind = .const → s.kind = .const → s.ident = t.ident → t.arity = s.arity := by
  rw [itemCheck, if_neg ht]
  cases hr : removeItem t.kind t.ident second with
  | none =>
    have hnone := removeItem_none.1 hr
    constructor
    · intro h
      refine ⟨fun hd => ?_, fun s hs' hk hk' hi => absurd ⟨hk'.trans hk.symm, hi⟩ (hnone s hs')⟩
      rw [hd] at h; cases h
    · intro h
      cases hd : t.hasDefault with
      | true => rfl
      | false => obtain ⟨s, hs', hm⟩ := h.1 hd; exact absurd hm (hnone s hs')
  | some p =>
    obtain ⟨l1, l2, rfl, _, hp, _⟩ := removeItem_some hr
    simp only [ite_eq_right_iff, reduceCtorEq, imp_false, not_and, Decidable.not_not]
    constructor
    · intro h
      refine ⟨fun _ => ⟨p.1, by simp, hp⟩, fun s hs' hk hk' hi => ?_⟩
      rw [key_inj hs hs' (List.mem_append_right _ List.mem_cons_self) ⟨hk'.trans (hk.symm.trans hp.1.symm),
        hi.trans hp.2.symm⟩]
      exact h hk
    · intro h hk
      exact h.2 p.1 (by simp) hk (hp.1.trans hk) hp.2

/-- the acceptance condition of `compare_trait_items` -/
def TraitAccept (ts second : List ItemSig) : Prop :=
  (∀ t ∈ ts, t.hasDefault = false → ∃ s ∈ second, s.kind = t.kind ∧ s.ident = t.ident) ∧
  (∀ s ∈ second, ∃ t ∈ ts, t.kind = s.kind ∧ t.ident = s.ident) ∧
  (∀ t ∈ ts, ∀ s ∈ second, t.kind = .const → s.kind = .const → s.ident = t.ident → t.arity = s.arity)

theorem compareTraitItemsLoop_ok_iff (ts second : List ItemSig) (hts : cleanItems ts = true)
    (hs : cleanItems second = true) : compareTraitItemsLoop ts second = .ok () ↔ TraitAccept ts second := by
  obtain ⟨hto, htn⟩ := cleanItems_iff.1 hts
  rw [compareTraitItemsLoop_ok_iff_checks htn hs]
  have := fun t ht => itemCheck_ok_iff (t := t) (cleanItems_iff.1 hs).2 (hto t ht)
  exact ⟨fun ⟨h1, h2⟩ => ⟨fun t ht => ((this t ht).1 (h1 t ht)).1, h2, fun t ht => ((this t ht).1 (h1 t ht)).2⟩,
    fun ⟨h1, h2, h3⟩ => ⟨fun t ht => (this t ht).2 ⟨h1 t ht, h3 t ht⟩, h2⟩⟩

/-! ### Single-defect mutations of an accepted table -/

/-- omitting an item that has a trait default keeps the impl accepted -/
theorem compareTraitItemsLoop_default_omitted (ts second : List ItemSig) (t : ItemSig) (hts : cleanItems ts = true)
    (hs : cleanItems second = true) (hok : compareTraitItemsLoop ts second = .ok ()) (ht : t ∈ ts)
    (hd : t.hasDefault = true) : compareTraitItemsLoop ts (dropItem t.kind t.ident second) = .ok () := by
  obtain ⟨hto, htn⟩ := cleanItems_iff.1 hts
  obtain ⟨h1, h2⟩ := (compareTraitItemsLoop_ok_iff_checks htn hs).1 hok
  refine (compareTraitItemsLoop_ok_iff_checks htn (clean_dropItem hs)).2 ⟨fun t' ht' => ?_, fun s hs' => ?_⟩
  · by_cases hk : t'.is t.kind t.ident
    · obtain rfl := key_inj htn ht' ht hk
      rw [itemCheck_dropItem_self (hto t' ht'), hd]; rfl
    · rw [itemCheck_dropItem_ne hk, h1 t' ht']
  · exact h2 s (mem_dropItem.1 hs').1

/-- removing the item a required trait item asks for: `Missing in one of the impls` -/
theorem compareTraitItemsLoop_missing (ts second : List ItemSig) (t : ItemSig) (hts : cleanItems ts = true)
    (hs : cleanItems second = true) (hok : compareTraitItemsLoop ts second = .ok ()) (ht : t ∈ ts)
    (hd : t.hasDefault = false) : compareTraitItemsLoop ts (dropItem t.kind t.ident second) = .error .missing := by
  obtain ⟨hto, htn⟩ := cleanItems_iff.1 hts
  have h1 := ((compareTraitItemsLoop_ok_iff_checks htn hs).1 hok).1
  obtain ⟨pre, post, rfl⟩ := List.append_of_mem ht
  refine compareTraitItemsLoop_first_defect htn (clean_dropItem hs) (fun t' ht' => ?_) ?_
  · rw [itemCheck_dropItem_ne ((nodup_keys_middle htn).2 t' (List.mem_append_left _ ht')),
      h1 t' (List.mem_append_left _ ht')]
  · rw [itemCheck_dropItem_self (hto t ht), hd]; rfl

/-- changing the number of generic parameters of an associated const: `Doesn't match trait definition` -/
theorem compareTraitItemsLoop_arity (ts l1 l2 : List ItemSig) (s s' : ItemSig) (hts : cleanItems ts = true)
    (hcl : cleanItems (l1 ++ s :: l2) = true) (hok : compareTraitItemsLoop ts (l1 ++ s :: l2) = .ok ())
    (hsk : s.kind = .const) (hk' : s'.kind = s.kind) (hi' : s'.ident = s.ident) (har' : s'.arity ≠ s.arity) :
    compareTraitItemsLoop ts (l1 ++ s' :: l2) = .error .noMatch := by
  obtain ⟨_, htn⟩ := cleanItems_iff.1 hts
  have hsn := (cleanItems_iff.1 hcl).2
  obtain ⟨h1, h2⟩ := (compareTraitItemsLoop_ok_iff_checks htn hcl).1 hok
  have hfresh := (nodup_keys_middle hsn).2
  have hcl' : cleanItems (l1 ++ s' :: l2) = true := by
    simp only [cleanItems_iff, List.forall_mem_append, List.forall_mem_cons, List.map_append, List.map_cons,
      key_eq_iff.2 ⟨hk', hi'⟩] at hcl ⊢
    exact ⟨⟨hcl.1.1, by rw [hk', hsk]; decide, hcl.1.2.2⟩, hcl.2⟩
  -- the trait item that declares the const is the first whose check fails
  obtain ⟨t, ht, hm⟩ := h2 s (List.mem_append_right _ List.mem_cons_self)
  obtain ⟨pre, post, rfl⟩ := List.append_of_mem ht
  refine compareTraitItemsLoop_first_defect htn hcl' (fun t' ht' => ?_) ?_
  · have hne : ¬ t'.is s.kind s.ident := fun h =>
      (nodup_keys_middle htn).2 t' (List.mem_append_left _ ht') ⟨h.1.trans hm.1.symm, h.2.trans hm.2.symm⟩
    rw [← h1 t' (List.mem_append_left _ ht'), ← itemCheck_dropItem_ne hne, ← itemCheck_dropItem_ne hne (l1 ++ s :: l2),
      dropItem_middle ⟨rfl, rfl⟩ hfresh, dropItem_middle ⟨hk', hi'⟩ hfresh]
  · have hl1 : ∀ y ∈ l1, ¬ y.is t.kind t.ident := fun y hy h =>
      hfresh y (List.mem_append_left _ hy) ⟨h.1.trans hm.1, h.2.trans hm.2⟩
    have htc : t.kind = .const := hm.1.trans hsk
    have hto : t.kind ≠ .other := by rw [htc]; decide
    have hta : t.arity = s.arity := ((itemCheck_ok_iff hsn hto).1 (h1 t ht)).2 s
      (List.mem_append_right _ List.mem_cons_self) htc hsk hm.2.symm
    rw [itemCheck, if_neg hto,
      removeItem_split l1 l2 ⟨hk'.trans hm.1.symm, hi'.trans hm.2.symm⟩ hl1]
    exact if_pos ⟨htc, hta ▸ har'.symm⟩

theorem any_other_dropItem {k : ItemKind} (hk : k ≠ .other) (x : String) (xs : List ItemSig) :
    (dropItem k x xs).any (fun i => i.kind = .other) = xs.any (fun i => i.kind = .other) := by
  rw [dropItem, List.any_filter]
  congr 1
  funext a
  by_cases ha : a.kind = .other
  · simp [ha, Ne.symm hk]
  · simp [ha]

/-- An entry no trait item asks for stays in the table to the end: the run is the run on the table without it, except that
    it cannot be accepted. No condition on the trait's items or on the table. -/
theorem compareTraitItemsLoop_unasked {k : ItemKind} {x : String} (hk : k ≠ .other) (ts second : List ItemSig)
    (hts : ∀ t ∈ ts, ¬ t.is k x) (hs : ∃ s ∈ second, s.is k x) :
    compareTraitItemsLoop ts second =
      match compareTraitItemsLoop ts (dropItem k x second) with
      | .error d => .error d
      | .ok () => .error .notInTrait := by
  induction ts generalizing second with
  | nil =>
    obtain ⟨s, hs, _⟩ := hs
    rw [compareTraitItemsLoop, compareTraitItemsLoop, any_other_dropItem hk]
    cases second.any (fun i => i.kind = .other) with
    | true => rfl
    | false =>
      cases second with
      | nil => cases hs
      | cons i is => cases (dropItem k x (i :: is)).isEmpty <;> rfl
  | cons t ts ih =>
    obtain ⟨ht, hts⟩ := List.forall_mem_cons.1 hts
    obtain ⟨s, hs, hsk⟩ := hs
    rw [compareTraitItemsLoop_cons, compareTraitItemsLoop_cons, any_other_dropItem hk, itemCheck_dropItem_ne ht,
      tableAfter_dropItem ht, ih _ hts ⟨s, mem_tableAfter hs (fun h => ht ⟨h.1.symm.trans hsk.1, h.2.symm.trans hsk.2⟩), hsk⟩]
    cases second.any (fun i => i.kind = .other) with
    | true => rfl
    | false => cases itemCheck second t <;> rfl

/-- an accepted run: every entry of the table was asked for by a trait item -/
theorem compareTraitItemsLoop_ok_covered {ts second : List ItemSig} (hok : compareTraitItemsLoop ts second = .ok ())
    (s : ItemSig) (hs : s ∈ second) : ∃ t ∈ ts, t.kind = s.kind ∧ t.ident = s.ident := by
  refine Decidable.by_contra (fun hn => ?_)
  have hso : s.kind ≠ .other := no_other_iff.1 (ok_no_other hok) s hs
  rw [compareTraitItemsLoop_unasked hso ts second (fun t ht hm => hn ⟨t, ht, hm⟩) ⟨s, hs, rfl, rfl⟩] at hok
  split at hok <;> cases hok

/-- an item the trait does not declare, inserted anywhere: `Not found in trait definition` -/
theorem compareTraitItemsLoop_extra (ts l1 l2 : List ItemSig) (x : ItemSig)
    (hok : compareTraitItemsLoop ts (l1 ++ l2) = .ok ()) (hxo : x.kind ≠ .other)
    (hn : ∀ t ∈ ts, ¬ (t.kind = x.kind ∧ t.ident = x.ident)) :
    compareTraitItemsLoop ts (l1 ++ x :: l2) = .error .notInTrait := by
  rw [compareTraitItemsLoop_unasked hxo ts _ hn ⟨x, List.mem_append_right _ List.mem_cons_self, rfl, rfl⟩,
    dropItem_middle ⟨rfl, rfl⟩ (fun y hy hyx => ?_), hok]
  obtain ⟨t, ht, hm⟩ := compareTraitItemsLoop_ok_covered hok y hy
  exact hn t ht ⟨hm.1.trans hyx.1, hm.2.trans hyx.2⟩

/-! ### Inherent mode is trait mode without defaults, with its own messages -/

def ItemSig.strict (i : ItemSig) : ItemSig := { i with hasDefault := false }

theorem ItemSig.strict_kind (i : ItemSig) : i.strict.kind = i.kind := rfl
theorem ItemSig.strict_ident (i : ItemSig) : i.strict.ident = i.ident := rfl
theorem ItemSig.strict_arity (i : ItemSig) : i.strict.arity = i.arity := rfl
theorem ItemSig.strict_hasDefault (i : ItemSig) : i.strict.hasDefault = false := rfl

def inhDiag : Diag → Diag
  | .missing => .notInOneImpl
  | .notInTrait => .notInOneImpl
  | .noMatch => .genericsMismatch
  | d => d

def inhResult : Except Diag Unit → Except Diag Unit
  | .ok () => .ok ()
  | .error d => .error (inhDiag d)

theorem compareInherentItemsLoop_eq (fs second : List ItemSig) :
    compareInherentItemsLoop fs second = inhResult (compareTraitItemsLoop (fs.map ItemSig.strict) second) := by
  induction fs generalizing second with
  | nil =>
    rw [compareInherentItemsLoop, List.map_nil, compareTraitItemsLoop]
    cases second.any (fun i => i.kind = .other) <;> cases second.isEmpty <;> rfl
  | cons f fs ih =>
    rw [compareInherentItemsLoop, List.map_cons, compareTraitItemsLoop, ItemSig.strict_kind, ItemSig.strict_ident,
      ItemSig.strict_arity, ItemSig.strict_hasDefault]
    cases second.any (fun i => i.kind = .other)
    · by_cases hfo : f.kind = .other
      · simp only [if_pos hfo]; rfl
      · simp only [if_neg hfo, Bool.false_eq_true, if_false]
        cases removeItem f.kind f.ident second with
        | none => rfl
        | some p =>
          by_cases har : f.kind = .const ∧ f.arity ≠ p.1.arity
          · simp only [if_pos har]; rfl
          · simp only [if_neg har]
            exact ih p.2
    · rfl

theorem clean_strict {fs : List ItemSig} : cleanItems (fs.map ItemSig.strict) = cleanItems fs := by
  have h1 : (fs.map ItemSig.strict).map ItemSig.key = fs.map ItemSig.key := by
    rw [List.map_map]; rfl
  simp only [cleanItems, h1, List.all_map]
  rfl

theorem inhResult_ok {r : Except Diag Unit} : inhResult r = .ok () ↔ r = .ok () := by
  cases r with
  | ok u => exact ⟨fun _ => rfl, fun _ => rfl⟩
  | error d => exact ⟨nofun, nofun⟩

/-- the acceptance condition of `compare_inherent_items` -/
def InherentAccept (fs second : List ItemSig) : Prop :=
  (∀ f ∈ fs, ∃ s ∈ second, s.kind = f.kind ∧ s.ident = f.ident) ∧
  (∀ s ∈ second, ∃ f ∈ fs, f.kind = s.kind ∧ f.ident = s.ident) ∧
  (∀ f ∈ fs, ∀ s ∈ second, f.kind = .const → s.kind = .const → s.ident = f.ident → f.arity = s.arity)

theorem traitAccept_strict {fs second : List ItemSig} :
    TraitAccept (fs.map ItemSig.strict) second ↔ InherentAccept fs second := by
  unfold TraitAccept InherentAccept
  rw [List.forall_mem_map, List.forall_mem_map]
  refine and_congr ⟨fun h f hf => h f hf rfl, fun h f hf _ => h f hf⟩ (and_congr (forall₂_congr fun s _ => ?_) Iff.rfl)
  exact ⟨fun ⟨_, ht, hm⟩ => by obtain ⟨f, hf, rfl⟩ := List.mem_map.1 ht; exact ⟨f, hf, hm⟩,
    fun ⟨f, hf, hm⟩ => ⟨_, List.mem_map_of_mem hf, hm⟩⟩

theorem compareInherentItemsLoop_extra (fs l1 l2 : List ItemSig) (x : ItemSig)
    (hok : compareInherentItemsLoop fs (l1 ++ l2) = .ok ()) (hx : x.kind ≠ .other)
    (hn : ∀ f ∈ fs, ¬ (f.kind = x.kind ∧ f.ident = x.ident)) :
    compareInherentItemsLoop fs (l1 ++ x :: l2) = .error .notInOneImpl := by
  rw [compareInherentItemsLoop_eq] at hok ⊢
  exact congrArg inhResult (compareTraitItemsLoop_extra _ l1 l2 x (inhResult_ok.1 hok) hx
    (List.forall_mem_map.2 hn))

theorem compareInherentItemsLoop_arity (fs l1 l2 : List ItemSig) (s s' : ItemSig) (hfs : cleanItems fs = true)
    (hcl : cleanItems (l1 ++ s :: l2) = true) (hok : compareInherentItemsLoop fs (l1 ++ s :: l2) = .ok ())
    (hsk : s.kind = .const) (hk' : s'.kind = s.kind) (hi' : s'.ident = s.ident) (har : s'.arity ≠ s.arity) :
    compareInherentItemsLoop fs (l1 ++ s' :: l2) = .error .genericsMismatch := by
  rw [compareInherentItemsLoop_eq] at hok ⊢
  exact congrArg inhResult (compareTraitItemsLoop_arity _ l1 l2 s s' (clean_strict.trans hfs) hcl
    (inhResult_ok.1 hok) hsk hk' hi' har)

/-! ### Family level -/

/-- the header check of one impl in trait mode (first loop of `validate_trait_impls`) -/
def traitHeader (trait_ item : T) : Except Diag Unit :=
  match implTraitPath item with
  | none => .error .expectedTraitImpl
  | some p =>
      if lastSegIdent p ≠ traitIdent trait_ then .error .noMatch
      else if traitUnsafety trait_ ≠ implUnsafety item then .error .noMatch
      else .ok ()

/-- the item check of one impl in trait mode (second loop) -/
def traitItemsCheck (trait_ item : T) : Except Diag Unit :=
  compareTraitItems (traitItems trait_) (implItemSigs item)

def inherentHeader (item : T) : Except Diag Unit :=
  match implTraitPath item with
  | some _ => .error .expectedInherent
  | none => .ok ()

/-- one family in trait mode: the first error among all header checks, then all item checks -/
theorem validateTraitImpls_eq (trait_ : T) (impls : List T) :
    validateTraitImpls trait_ impls =
      firstError (impls.map (traitHeader trait_) ++ impls.map (traitItemsCheck trait_)) :=
  (firstError_append _ _).symm

theorem validateInherentImpls_eq (impls : List T) :
    validateInherentImpls impls =
      match firstError (impls.map inherentHeader) with
      | .error d => .error d
      | .ok () =>
          match impls with
          | [] => .ok ()
          | first :: rest =>
              match firstError (rest.map (fun item => compareInherentItems (implItemSigs first) (implItemSigs item))) with
              | .error d => .error d
              | .ok () => firstError (rest.map (fun item => compareInherentVis (implItems first) (implItems item))) := rfl

/-- one family in inherent mode: the first error among all header checks, then the item sets of the other blocks against
    the first, then their visibilities -/
theorem validateInherentImpls_cons (first : T) (rest : List T) :
    validateInherentImpls (first :: rest) =
      firstError ((first :: rest).map inherentHeader ++
        (rest.map (fun item => compareInherentItems (implItemSigs first) (implItemSigs item)) ++
          rest.map (fun item => compareInherentVis (implItems first) (implItems item)))) := by
  rw [firstError_append, firstError_append]; rfl

theorem inherentHeader_ok_iff (item : T) : inherentHeader item = .ok () ↔ implTraitPath item = none := by
  unfold inherentHeader; cases implTraitPath item <;> simp

theorem traitHeader_cases (trait_ item : T) :
    traitHeader trait_ item = .ok () ∨ traitHeader trait_ item = .error .expectedTraitImpl ∨
    traitHeader trait_ item = .error .noMatch := by
  unfold traitHeader
  split
  · exact Or.inr (Or.inl rfl)
  · split
    · exact Or.inr (Or.inr rfl)
    · split
      · exact Or.inr (Or.inr rfl)
      · exact Or.inl rfl

theorem traitHeader_ok_iff (trait_ item : T) :
    traitHeader trait_ item = .ok () ↔
      ∃ p, implTraitPath item = some p ∧ lastSegIdent p = traitIdent trait_ ∧
        traitUnsafety trait_ = implUnsafety item := by
  unfold traitHeader
  cases implTraitPath item with
  | none => simp
  | some p =>
    simp only [Option.some.injEq, exists_eq_left']
    by_cases h1 : lastSegIdent p = traitIdent trait_
    · by_cases h2 : traitUnsafety trait_ = implUnsafety item
      · simp [h1, h2]
      · simp [h1, h2]
    · simp [h1]


/-- one family, in the mode `ImplGroups::new` selects -/
def validateFamily (trait_ : Option T) (fam : List T) : Except Diag Unit :=
  match trait_ with
  | some t => validateTraitImpls t fam
  | none => validateInherentImpls fam

theorem validateAll_eq (trait_ : Option T) (fams : List (List T)) :
    validateAll trait_ fams = firstError (fams.map (validateFamily trait_)) := by
  unfold validateAll
  congr 1
  apply List.map_congr_left
  intro fam _
  cases trait_ <;> rfl

/-! ### The look-up table `itemMap` (IndexMap semantics: a repeated name overwrites the value, keeps the first position) -/

/-- the keys of the table are the keys of the block -/
theorem itemMap_exists_iff (P : ItemKind → String → Prop) (xs : List ItemSig) :
    (∃ s ∈ itemMap xs, P s.kind s.ident) ↔ (∃ s ∈ xs, P s.kind s.ident) := by
  induction xs with
  | nil => rfl
  | cons i is ih =>
    rw [itemMap]
    cases hr : removeItem i.kind i.ident (itemMap is) with
    | none => simp only [List.mem_cons, exists_eq_or_imp, ih]
    | some p =>
      -- the entry of `i`'s name moves to the front; `i` itself brings no new name
      have hperm := removeItem_perm hr
      obtain ⟨_, _, _, _, hp, _⟩ := removeItem_some hr
      refine (exists_congr fun s => and_congr_left fun _ => hperm.mem_iff).trans (ih.trans ?_)
      simp only [List.mem_cons, exists_eq_or_imp]
      exact (or_iff_right_of_imp fun hP =>
        ih.1 ⟨p.1, hperm.subset List.mem_cons_self, by rw [hp.1, hp.2]; exact hP⟩).symm

theorem itemMap_any_other (xs : List ItemSig) :
    (itemMap xs).any (fun i => i.kind = .other) = xs.any (fun i => i.kind = .other) := by
  have := itemMap_exists_iff (fun k _ => k = .other) xs
  rw [Bool.eq_iff_iff]
  simpa only [List.any_eq_true, decide_eq_true_eq] using this

/-- no key occurs twice in the table -/
theorem itemMap_nodup (xs : List ItemSig) : ((itemMap xs).map ItemSig.key).Nodup := by
  induction xs with
  | nil => exact List.nodup_nil
  | cons i is ih =>
    rw [itemMap]
    cases hr : removeItem i.kind i.ident (itemMap is) with
    | none =>
      exact List.nodup_cons.2 ⟨fun h => by
        obtain ⟨s, hs, hk⟩ := List.mem_map.1 h
        exact removeItem_none.1 hr s hs (key_eq_iff.1 hk), ih⟩
    | some p => exact ((removeItem_perm hr).map ItemSig.key).nodup_iff.2 ih

/-- a block without repeated names is its own table -/
theorem itemMap_of_nodup {xs : List ItemSig} (h : (xs.map ItemSig.key).Nodup) : itemMap xs = xs := by
  induction xs with
  | nil => rfl
  | cons i is ih =>
    obtain ⟨hi, his⟩ := List.nodup_cons.1 h
    rw [itemMap, ih his, removeItem_none.2 (fun s hs hk => hi (List.mem_map.2 ⟨s, hs, key_eq_iff.2 hk⟩))]

theorem itemMap_of_clean {xs : List ItemSig} (h : cleanItems xs = true) : itemMap xs = xs :=
  itemMap_of_nodup (cleanItems_iff.1 h).2

theorem clean_itemMap {xs : List ItemSig} (h : xs.any (fun i => i.kind = .other) = false) :
    cleanItems (itemMap xs) = true := by
  rw [cleanItems_iff]
  refine ⟨?_, itemMap_nodup xs⟩
  rw [← itemMap_any_other] at h
  simpa only [List.any_eq_false, decide_eq_true_eq] using h

/-- removing a name from the block removes its entry from the table -/
theorem itemMap_dropItem (k : ItemKind) (x : String) (xs : List ItemSig) :
    itemMap (dropItem k x xs) = dropItem k x (itemMap xs) := by
  induction xs with
  | nil => rfl
  | cons i is ih =>
    by_cases hi : i.is k x
    · rw [dropItem_cons_eq hi, ih, itemMap]
      cases hr : removeItem i.kind i.ident (itemMap is) with
      | none => exact (dropItem_cons_eq hi _).symm
      | some p =>
        -- the entry that moves to the front has the name that is dropped
        obtain ⟨l1, l2, h1, h2, hp, _⟩ := removeItem_some hr
        have hpk : p.1.is k x := ⟨hp.1.trans hi.1, hp.2.trans hi.2⟩
        show _ = dropItem k x (p.1 :: p.2)
        rw [h1, h2, dropItem_cons_eq hpk, dropItem_append, dropItem_cons_eq hpk, dropItem_append]
    · rw [dropItem_cons_ne hi, itemMap, ih, removeItem_dropItem hi, itemMap]
      cases hr : removeItem i.kind i.ident (itemMap is) with
      | none => exact (dropItem_cons_ne hi _).symm
      | some p =>
        obtain ⟨_, _, _, _, hp, _⟩ := removeItem_some hr
        exact (dropItem_cons_ne (fun h => hi ⟨hp.1.symm.trans h.1, hp.2.symm.trans h.2⟩) _).symm

/-! ### `itemMap` is the table the code builds: `IndexMap::insert` for every item of the block, from the left -/

/-- `IndexMap::insert`: the value of a key that is present is overwritten in place, a new key is appended -/
def insertItem : List ItemSig → ItemSig → List ItemSig
  | [], i => [i]
  | j :: m, i => if j.kind = i.kind ∧ j.ident = i.ident then i :: m else j :: insertItem m i

theorem removeItem_insertItem_ne {k : ItemKind} {x : String} {z : ItemSig} (hz : ¬ z.is k x) (m : List ItemSig) :
    removeItem k x (insertItem m z) = (removeItem k x m).map (fun p => (p.1, insertItem p.2 z)) := by
  induction m with
  | nil => simp only [insertItem, removeItem, if_neg hz, Option.map_none]
  | cons j m ih =>
    rw [insertItem]
    by_cases hjz : j.kind = z.kind ∧ j.ident = z.ident
    · have hj : ¬ (j.kind = k ∧ j.ident = x) := fun h => hz ⟨hjz.1.symm.trans h.1, hjz.2.symm.trans h.2⟩
      rw [if_pos hjz, removeItem, if_neg hz, removeItem, if_neg hj]
      cases removeItem k x m with
      | none => rfl
      | some p => simp only [Option.map_some, insertItem, if_pos hjz]
    · rw [if_neg hjz, removeItem, removeItem]
      by_cases hj : j.kind = k ∧ j.ident = x
      · rw [if_pos hj, if_pos hj]; rfl
      · rw [if_neg hj, if_neg hj, ih]
        cases removeItem k x m with
        | none => rfl
        | some p => simp only [Option.map_some, insertItem, if_neg hjz]

theorem removeItem_insertItem_eq {k : ItemKind} {x : String} {z : ItemSig} (hz : z.is k x) (m : List ItemSig) :
    removeItem k x (insertItem m z) = some (z, match removeItem k x m with | some p => p.2 | none => m) := by
  induction m with
  | nil => simp only [insertItem, removeItem, if_pos hz]
  | cons j m ih =>
    rw [insertItem]
    by_cases hjz : j.kind = z.kind ∧ j.ident = z.ident
    · have hj : j.kind = k ∧ j.ident = x := ⟨hjz.1.trans hz.1, hjz.2.trans hz.2⟩
      rw [if_pos hjz, removeItem, if_pos hz, removeItem, if_pos hj]
    · have hj : ¬ (j.kind = k ∧ j.ident = x) := fun h => hjz ⟨h.1.trans hz.1.symm, h.2.trans hz.2.symm⟩
      rw [if_neg hjz, removeItem, if_neg hj, ih, removeItem, if_neg hj]
      cases removeItem k x m <;> rfl

theorem itemMap_snoc (z : ItemSig) (ys : List ItemSig) : itemMap (ys ++ [z]) = insertItem (itemMap ys) z := by
  induction ys with
  | nil => simp [itemMap, removeItem, insertItem]
  | cons i ys ih =>
      rw [List.cons_append, itemMap, ih, itemMap]
      by_cases hz : z.is i.kind i.ident
      · rw [removeItem_insertItem_eq hz]
        cases hr : removeItem i.kind i.ident (itemMap ys) with
        | none => simp only [insertItem, if_pos (show i.kind = z.kind ∧ i.ident = z.ident from ⟨hz.1.symm, hz.2.symm⟩)]
        | some p =>
          obtain ⟨j, rest⟩ := p
          obtain ⟨_, _, _, _, hj, _⟩ := removeItem_some hr
          simp only [insertItem, if_pos (show j.kind = z.kind ∧ j.ident = z.ident from
            ⟨hj.1.trans hz.1.symm, hj.2.trans hz.2.symm⟩)]
      · rw [removeItem_insertItem_ne hz]
        cases hr : removeItem i.kind i.ident (itemMap ys) with
        | none =>
          simp only [Option.map_none, insertItem,
            if_neg (show ¬ (i.kind = z.kind ∧ i.ident = z.ident) from fun h => hz ⟨h.1.symm, h.2.symm⟩)]
        | some p =>
          obtain ⟨j, rest⟩ := p
          obtain ⟨_, _, _, _, hj, _⟩ := removeItem_some hr
          simp only [Option.map_some, insertItem, if_neg (show ¬ (j.kind = z.kind ∧ j.ident = z.ident) from
            fun h => hz ⟨h.1.symm.trans hj.1, h.2.symm.trans hj.2⟩)]

theorem foldl_insertItem_itemMap (xs ys : List ItemSig) : xs.foldl insertItem (itemMap ys) = itemMap (ys ++ xs) := by
  induction xs generalizing ys with
  | nil => rw [List.foldl_nil, List.append_nil]
  | cons z xs ih =>
    rw [List.foldl_cons, ← itemMap_snoc, ih (ys ++ [z]), List.append_assoc]
    rfl

/-- the structural `itemMap` of the model IS the loop of the code: every item of the block, from the left, entered
    with `IndexMap::insert` into an empty table (same entries, same order) -/
theorem itemMap_eq_foldl_insert (xs : List ItemSig) : itemMap xs = xs.foldl insertItem [] :=
  (foldl_insertItem_itemMap xs []).symm

/-! ### `compare_trait_items` / `compare_inherent_items` on the block (table built first) -/

/-- The first defect decides, with no condition on the block: an unsupported item anywhere in the block, else the first
    trait item whose check against the block's table fails, else an entry of the table that no trait item asked for.
    Side condition: the trait declares no name twice. -/
theorem compareTraitItems_eq_firstError (ts second : List ItemSig) (hts : (ts.map ItemSig.key).Nodup) :
    compareTraitItems ts second =
      if second.any (fun i => i.kind = .other) then .error .notSupported
      else firstError (ts.map (itemCheck (itemMap second)) ++ [extraCheck ts (itemMap second)]) := by
  rw [compareTraitItems]
  cases ho : second.any (fun i => i.kind = .other) with
  | true => rw [compareTraitItemsLoop_other ts ((itemMap_any_other second).trans ho)]; rfl
  | false => rw [compareTraitItemsLoop_eq_firstError ts hts (clean_itemMap ho)]; rfl

theorem compareTraitItems_ok_no_other {ts second : List ItemSig} (h : compareTraitItems ts second = .ok ()) :
    second.any (fun i => i.kind = .other) = false :=
  (itemMap_any_other second).symm.trans (ok_no_other h)


/-- an accepted comparison: the first block has no unsupported item -/
theorem compareInherentItems_ok_no_other_first {fs second : List ItemSig}
    (h : compareInherentItems fs second = .ok ()) : fs.any (fun i => i.kind = .other) = false := by
  cases ho : fs.any (fun i => i.kind = .other) with
  | false => rfl
  | true => rw [compareInherentItems, if_pos ho] at h; cases h

end DI

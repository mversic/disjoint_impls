/-
  `mainSizedParams_uz` (Lemmas/UnsizedSearch.lean) against the model of the generator (`mainImplOfTrait`, Expand.lean):
  the `Sized` parameters `Bounds.mkBlock` reads off the generated main impl are among `mainSizedParams_uz e`
  (the main impl may require `Sized` of FEWER parameters: it drops the parameters it does not use, and the trait's own
  where-clause may relax more; `sizedCompatB` is antitone in this set, `sizedCompatB_mono_uz`).
-/
import DisjointImpls.Lemmas.UnsizedSearch
import DisjointImpls.Lemmas.ExpandEmit
namespace DI

theorem typeParamBounds_newLifetime_uz (x : String) : typeParamBounds (newLifetimeParam x) = none := by
  simp [typeParamBounds, newLifetimeParam]
theorem typeParamBounds_newType_uz (x : String) : typeParamBounds (newTypeParam x) = some (x, []) := by
  simp [typeParamBounds, newTypeParam, tIdent, tList]

theorem typeParamBounds_newConst_uz {eg : T} {x : String} {q : T} (h : newConstParam eg x = some q) :
    typeParamBounds q = none := by
  unfold newConstParam at h
  split at h
  · cases h; rfl
  · cases h

/-- the type parameters of the generated main impl are those the indexer reached -/
theorem typeParamNames_main_uz {s : IxState} {eg : T} {cps : List T} {lt gt wc : T}
    (hc : allSome (s.ixCo.map (fun xi => newConstParam eg xi.1)) = some cps) {p : String}
    (hp : p ∈ typeParamNames (.node "Generics" [] [lt, tList (s.ixLt.map (fun xi => newLifetimeParam xi.1) ++
          s.ixTy.map (fun xi => newTypeParam xi.1) ++ cps), gt, wc])) : p ∈ s.ixTy.map Prod.fst := by
  have hgp : genericsParams (.node "Generics" [] [lt, tList (s.ixLt.map (fun xi => newLifetimeParam xi.1) ++
          s.ixTy.map (fun xi => newTypeParam xi.1) ++ cps), gt, wc]) =
      s.ixLt.map (fun xi => newLifetimeParam xi.1) ++ s.ixTy.map (fun xi => newTypeParam xi.1) ++ cps := rfl
  unfold typeParamNames at hp
  rw [hgp] at hp
  obtain ⟨q, hq, hfq⟩ := List.mem_filterMap.1 hp
  rcases List.mem_append.1 hq with hq | hq
  · rcases List.mem_append.1 hq with hq | hq
    · obtain ⟨xi, _, rfl⟩ := List.mem_map.1 hq
      rw [typeParamBounds_newLifetime_uz] at hfq
      cases hfq
    · obtain ⟨xi, hxi, rfl⟩ := List.mem_map.1 hq
      rw [typeParamBounds_newType_uz] at hfq
      cases hfq
      exact List.mem_map.2 ⟨xi, hxi, rfl⟩
  · have hinv := allSome_inv_inh hc
    have : some q ∈ s.ixCo.map (fun xi => newConstParam eg xi.1) := by
      rw [hinv]; exact List.mem_map.2 ⟨q, hq, rfl⟩
    obtain ⟨xi, _, hxi⟩ := List.mem_map.1 this
    rw [typeParamBounds_newConst_uz hxi] at hfq
    cases hfq

theorem boundsOf_maybeSized_uz (b : T) (rest : List T) :
    ∃ rb ∈ boundsOf b (maybeSizedBound :: rest), rb.maybe = true ∧ rb.bounded = b := by
  refine ⟨⟨b, pathNode noLead [seg "Sized"], assocBinds (pathNode noLead [seg "Sized"]), true⟩, ?_, rfl, rfl⟩
  simp [boundsOf, maybeSizedBound]

/-- the main impl relaxes (in the sense of `Bounds.isMaybeSizedOn`) every parameter `x` that is in the group's `unsized`
    set and is the bounded type of a key with an associated-type identifier -/
theorem isMaybeSizedOn_main_uz (abg : ABG) (href : T) (lt ps gt : T) (preds0 : List T) (x : String)
    (hu : abg.unsized.contains (mkTypeIdent x) = true) (hk : mkTypeIdent x ∈ identTypes_uz abg) :
    isMaybeSizedOn (findBounds (.node "Generics" [] [lt, ps, gt, mkWhere (preds0 ++ assocBoundPredicates abg href)])) x = true := by
  have hgw : genericsWhere (.node "Generics" [] [lt, ps, gt, mkWhere (preds0 ++ assocBoundPredicates abg href)]) =
      preds0 ++ assocBoundPredicates abg href := rfl
  -- the predicate `x: ?Sized + …` the generator writes for the bounded type `x`
  have hpred : keyPredicate_em abg (mkTypeIdent x) = whereType (mkTypeIdent x) (maybeSizedBound ::
      (keyPathsFor_em abg (mkTypeIdent x)).map (fun p => traitBoundOf (tbTokens p))) := by
    unfold keyPredicate_em; rw [hu]; rfl
  obtain ⟨rb, hrb, hm, hb⟩ := boundsOf_maybeSized_uz (mkTypeIdent x)
    ((keyPathsFor_em abg (mkTypeIdent x)).map (fun p => traitBoundOf (tbTokens p)))
  unfold isMaybeSizedOn
  rw [List.any_eq_true]
  refine ⟨rb, ?_, by rw [hm, hb, beq_self_eq_true]; rfl⟩
  unfold findBounds
  simp only
  rw [hgw, assocBoundPredicates_eq_em]
  exact List.mem_append_right _ (List.mem_flatMap.2
    ⟨_, List.mem_append_right _ (List.mem_append_left _ (List.mem_map.2 ⟨_, mem_dedupKeys hk, hpred⟩)), hrb⟩)

/-- **the `Sized` parameters of the generated main impl are among `mainSizedParams_uz e`**, for every group `e` for which
    the model's generator `mainImplOfTrait` returns a main impl -/
theorem mainImpl_sizedParams_sub_uz {trait_ : T} {idx : Nat} {e : T × ABG × List Blk} {m : T}
    (h : mainImplOfTrait trait_ idx e = .ok m) : ∀ p ∈ (mkBlock m).sizedParams, p ∈ mainSizedParams_uz e := by
  obtain ⟨first, rest, tp, st, eg, usf, lt, _, gt, wc, _, tname, targs, href, finals, _, hg, _, _, he, _, _, _, _,
    ⟨s, cps, hsame, hc, rfl⟩, rfl⟩ := mainImplOfTrait_inv h
  have hperm : s.namesTy.Perm (kindNames eg "GenericParam::Type") := hsame.2.1
  intro p hp
  -- `mkBlock` reads the type parameters of the impl's generics that its bounds do not relax
  change p ∈ (typeParamNames (.node "Generics" [] [lt, _, gt, _])).filter (fun x => !isMaybeSizedOn
    (findBounds (.node "Generics" [] [lt, _, gt, mkWhere (_ ++ assocBoundPredicates e.2.1 _)])) x) at hp
  rw [List.mem_filter] at hp
  obtain ⟨hp1, hp2⟩ := hp
  have hix := typeParamNames_main_uz hc hp1
  have hkn : p ∈ kindNames eg "GenericParam::Type" :=
    hperm.mem_iff.1 (List.mem_append.2 (Or.inl hix))
  have hbg : blkGenerics_uz first = eg := by unfold blkGenerics_uz; rw [he]; rfl
  refine (mem_mainSizedParams_uz hg).2 ⟨hbg ▸ hkn, fun hu hk => ?_⟩
  rw [isMaybeSizedOn_main_uz e.2.1 _ lt _ gt _ p (List.contains_iff_mem.2 hu) hk] at hp2
  cases hp2

/-- hence, for the flat families that pass the checks, `sizedCompatB` holds for the family abstracted with the `Sized`
    parameters READ OFF THE GENERATED MAIN IMPL (what `Bounds.mkFamily` / the driver's `family` command do) -/
theorem flat_sizedCompatB_mainImpl_uz {items : List T} {groups : Groups} (h : parseGroups items = .ok groups)
    (hns : ∀ id, (parseEnv items).subsets.get id = []) {e : T × ABG × List Blk} (he : e ∈ groups)
    (hself : selfIdentity e.1 = true) (hpar : mainParamsOK_uz e = true) (hrel : relaxedAreKeys_uz e = true)
    {trait_ : T} {idx : Nat} {m : T} (hm : mainImplOfTrait trait_ idx e = .ok m) (W : World) :
    ∀ mem ∈ (familyOfGroup (mkBlock m).sizedParams e).members,
      sizedCompatB (familyOfGroup (mkBlock m).sizedParams e) mem = true ∧
      SizedCompat W (familyOfGroup (mkBlock m).sizedParams e) mem :=
  fun mem hmem =>
    ⟨flat_sizedCompatB_sub_uz h hns he hself hpar hrel _ (mainImpl_sizedParams_sub_uz hm) mem hmem,
     flat_sizedCompat_uz h hns he hself hpar hrel _ (mainImpl_sizedParams_sub_uz hm) W mem hmem⟩

end DI

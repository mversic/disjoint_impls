/-
  The helper trait is named by the LAST path segment only (/repo commit ccb06e8 "fix: helper traits are named by the last
  path segment only"): whatever qualifiers the user wrote on the trait path of a member (`self::Kita`, `::krate::Kita`) or
  on the self type of an inherent block (`meters::Wrapper<T>`), every helper impl names the helper trait by the single
  segment `_<Name><idx><…>` without a leading `::` (`helperImpl`, disjoint.rs: `*trait_ = path.clone().into()`), and the
  helper trait of inherent mode is declared under the identifier of the last segment (`helperTraitOfInherent`,
  helper_trait.rs). Used by `Props/C08.lean` (scope hygiene) and `Props/C17.lean`. Core-only.

  Names declared here carry the suffix `_hp`.
-/
import DisjointImpls.Lemmas.ExpandItems
import DisjointImpls.Validate
namespace DI

open XOK

/-- the path whose last segment names the helper trait of a helper impl: the generated inherent path when there is one
    (inherent mode), the member's own trait path otherwise (trait mode) -/
def helperSourcePath_hp (ip : Option T) (member : T) : Option T :=
  match ip with
  | some p => some p
  | none => implTraitPath member

/-- the arguments of the helper segment: the printed row in front of the old arguments of the last segment
    (`none`: parenthesised arguments, the generator aborts) -/
def helperSegArgs_hp (rowA : List T) : T → Option T
  | .node "PathArguments::None" [] [] => some (angle rowA)
  | .node "PathArguments::AngleBracketed" [] [c2, .node "List" [] old] =>
      some (.node "PathArguments::AngleBracketed" [] [c2, tList (rowA ++ old)])
  | _ => none

/-- the helper path: ONE segment, no leading `::` -/
def helperPathOf_hp (x : String) (idx : Nat) (na : T) : T :=
  pathNode noLead [.node "PathSegment" [] [tIdent (genIdentStr x idx), na]]

/-- executable: the trait path of the helper impl `h` is a single segment without a leading `::` whose identifier is
    `_<x><idx>`, `x` the identifier of the last segment of the source path (reads the given trees only) -/
def helperPathUnqualified_hp (idx : Nat) (ip : Option T) (member h : T) : Bool :=
  match (helperSourcePath_hp ip member).bind lastSegIdentOf, implTraitPath h with
  | some x, some (.node "Path" [] [lc, .node "List" [] [.node "PathSegment" [] [.node "Ident" [y] [], _]]]) =>
      lc == noLead && y == genIdentStr x idx
  | _, _ => false

/-- executable, without reference to the member: the trait path of `h` is a single segment without a leading `::` -/
def pathUnqualified_hp (h : T) : Bool :=
  match implTraitPath h with
  | some (.node "Path" [] [lc, .node "List" [] [.node "PathSegment" [] [.node "Ident" [_] [], _]]]) => lc == noLead
  | _ => false

theorem helperSegArgs_of_cases_hp {rowA : List T} {args na : T}
    (h : (args = noArgs ∧ na = angle rowA) ∨
      (∃ c2 old, args = .node "PathArguments::AngleBracketed" [] [c2, .node "List" [] old] ∧
        na = .node "PathArguments::AngleBracketed" [] [c2, tList (rowA ++ old)])) :
    helperSegArgs_hp rowA args = some na := by
  rcases h with ⟨rfl, rfl⟩ | ⟨c2, old, rfl, rfl⟩
  · rfl
  · rfl

theorem implTraitPath_impl_hp (a d u g s items P : T) :
    implTraitPath (.node "ItemImpl" [] [a, d, u, g, tSome (.node "Tuple" [] [tNone, P]), s, items]) = some P := rfl

/-- both modes: the trait path of a helper impl is the single segment `_<x><idx><row ++ old arguments>` with no leading
    `::`, where `x` is the identifier of the LAST segment of the source path (`helperSourcePath_hp`: the member's trait
    path in trait mode, the generated self-type path in inherent mode) and the old arguments are those of that last
    segment; leading segments and a leading `::` of the source path do not reach the helper impl -/
theorem helperImpl_path_hp {idx : Nat} {ip : Option T} {idents : List (BKey × String)} {row : List (Option T)}
    {member h : T} (hh : helperImpl idx ip idents row member = some h) :
    ∃ p x args na, helperSourcePath_hp ip member = some p ∧
      lastSegOf p = some (.node "PathSegment" [] [.node "Ident" [x] [], args]) ∧
      helperSegArgs_hp (rowArgs idents row) args = some na ∧
      implTraitPath h = some (helperPathOf_hp x idx na) ∧ traitPathOf h = some (helperPathOf_hp x idx na) := by
  cases ip with
  | none =>
    obtain ⟨a, d, u, g, b, p, s, items, x, args, na, rfl, hl, hna, rfl⟩ := helperImpl_trait_inv hh
    exact ⟨p, x, args, na, rfl, hl, helperSegArgs_of_cases_hp hna, rfl, traitPathOf_impl_inh _ _ _ _ _ _ _⟩
  | some p0 =>
    obtain ⟨a, d, u, g, tr, s, items, x, args, na, rfl, hl, hna, rfl⟩ := helperImpl_inherent_shape_inh hh
    exact ⟨p0, x, args, na, rfl, hl, helperSegArgs_of_cases_hp hna, rfl, traitPathOf_impl_inh _ _ _ _ _ _ _⟩

theorem helperPathUnqualified_of_hp {idx : Nat} {ip : Option T} {idents : List (BKey × String)} {row : List (Option T)}
    {member h : T} (hh : helperImpl idx ip idents row member = some h) :
    helperPathUnqualified_hp idx ip member h = true ∧ pathUnqualified_hp h = true := by
  obtain ⟨p, x, args, na, hp, hl, _, hi, _⟩ := helperImpl_path_hp hh
  have hx : (helperSourcePath_hp ip member).bind lastSegIdentOf = some x := by
    rw [hp]; simp [lastSegIdentOf, hl]
  constructor
  · unfold helperPathUnqualified_hp
    rw [hx, hi]
    simp [helperPathOf_hp, pathNode, tList, tIdent]
  · unfold pathUnqualified_hp
    rw [hi]
    simp [helperPathOf_hp, pathNode, tList, tIdent]

/-- every helper impl `helperImpls` returns names its trait by a single unqualified segment -/
theorem helperImpls_unqualified_hp {idx : Nat} {g : T × ABG × List Blk} {hs : List T} (hh : helperImpls idx g = some hs) :
    hs.all pathUnqualified_hp = true := by
  obtain ⟨ip, _, _, rfl⟩ := helperImpls_inv hh
  rw [List.all_eq_true]
  intro h hmem
  obtain ⟨oh, hoh, hid⟩ := List.mem_filterMap.1 hmem
  simp only [id] at hid
  subst hid
  obtain ⟨mr, _, hhi⟩ := List.mem_map.1 hoh
  exact (helperPathUnqualified_of_hp hhi).2

/-- the helper trait of inherent mode is declared under `_<x><idx>`, `x` the identifier of the LAST segment of the self
    type's path (an unqualified path type: no `<T as Tr>::`); leading segments and a leading `::` are not part of the name -/
theorem helperTraitOfInherent_name_hp {item : T} {idx nkeys : Nat} {ht : T}
    (h : helperTraitOfInherent item idx nkeys = .ok ht) :
    ∃ p x a, kid item 5 = .node "Type::Path" [] [tNone, p] ∧
      lastSegOf p = some (.node "PathSegment" [] [.node "Ident" [x] [], a]) ∧
      kid ht 5 = tIdent (genIdentStr x idx) ∧ traitName_inh ht = genIdentStr x idx ∧
      traitIdent ht = genIdentStr x idx := by
  obtain ⟨a, d, u, lt, ps, gt, wc, trr, st, items, x, its, lt', gt', rfl, hx, _, rfl⟩ :=
    helperTraitOfInherent_ok_inv_inh h
  obtain ⟨p, a0, rfl, hl⟩ := selfTraitIdent_inv_inh hx
  exact ⟨p, x, a0, rfl, hl, rfl, by simp [traitName_inh, kid, kids, atoms, tIdent], by simp [traitIdent, tIdent]⟩

end DI

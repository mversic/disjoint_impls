/-
  Canonicalisation IS a consistent textual renaming of the block (C13, "the rewritten block means the same as the
  original"): `canon item = qsT_cr P (alphaRenameC_cr r item)` for the computed renaming `r` — the resolver's output is
  the textual renaming of `CanonAlphaDefs.lean` (declarations, lifetimes, lone parameter paths, the first segment of longer
  paths; in decoder form, `CanonIsRenamingDefs.lean`) followed by the one presentation change `X::rest… ↦ <X>::rest…`.
  Statements: `Props/C13.lean` (`C13_canon_is_renaming*`). That `T::A` and `<T>::A` denote the same path when `T` is a type
  parameter is Rust's semantics of paths and is NOT proved here (trusted).

  `rsT_is_renaming_cr`: the tree-level statement, by induction, under the executable condition `renOK_cr P r t` and
  "the new spellings are reserved identifiers"; `renOK_of_rsOK_cr`: `renOK_cr` follows from `rsOK` (the tree clause of
  `canonWF`) for `P :=` "is one of the canonical type names"; `canon_is_renaming_of_cr` / `canon_is_renaming_cr`: the block.
  Consequences: `rsT_noOld_cr` / `canon_noOld_cr` (every occurrence is rewritten), `canon_params_cr` (the declarations,
  position by position), `canonWF_alphaOK_cr` (the computed renaming satisfies the side condition of alpha-invariance),
  `acT_eq_arT_cr` / `alphaRenameC_eq_cr` (the decoder-form renaming is `arT` on form-preserving maps), `rsT_untouched_cr`
  (frame property: a tree without occurrences is left alone).
-/
import DisjointImpls.Lemmas.CanonIsRenamingDefs
import DisjointImpls.Lemmas.CanonAlphaHeader
namespace DI

/-! ### Shapes: `acT_cr` -/

theorem acT_tparam_cr (π : Renaming) (n : String) :
    acT_cr π (.tparam n) = (match rlookup π.ty n with | some m => mkTypeIdent m | none => .tparam n) := by
  rw [acT_cr]; cases rlookup π.ty n <;> rfl
theorem acT_eparam_cr (π : Renaming) (n : String) :
    acT_cr π (.eparam n) =
      (match (rlookup π.ty n).or (rlookup π.co n) with | some m => mkExprIdent_cr m | none => .eparam n) := by
  rw [acT_cr]; cases (rlookup π.ty n).or (rlookup π.co n) <;> rfl
theorem acT_ign_cr (π : Renaming) (as : List String) (ks : List T) : acT_cr π (.node "Ign" as ks) = .node "Ign" as ks := by
  rw [acT_cr]
theorem acT_eq_cr (π : Renaming) (as : List String) (ks : List T) : acT_cr π (.node "Eq" as ks) = .node "Eq" as ks := by
  rw [acT_cr]
theorem acT_lifetime_cr (π : Renaming) (as : List String) (x : String) :
    acT_cr π (.node "Lifetime" as [.node "Ident" [x] []]) = .node "Lifetime" as [.node "Ident" [rn π.lt x] []] := by
  rw [acT_cr]
theorem acT_typePath_cr (π : Renaming) (as : List String) (q p : T) :
    acT_cr π (.node "Type::Path" as [q, p]) =
      (match convTy_cr π q p with
       | some m => .tparam m
       | none => .node "Type::Path" as [acT_cr π q, mapHead (rn π.ty) (acT_cr π p)]) := by
  rw [acT_cr]; cases convTy_cr π q p <;> rfl
theorem acT_exprPath_cr (π : Renaming) (as : List String) (a q p : T) :
    acT_cr π (.node "Expr::Path" as [a, q, p]) =
      (match convEx_cr π q p with
       | some m => .eparam m
       | none => .node "Expr::Path" as [acT_cr π a, acT_cr π q, mapHead (exW π) (acT_cr π p)]) := by
  rw [acT_cr]; cases convEx_cr π q p <;> rfl

theorem acT_of_other_cr (π : Renaming) {k : String} (as : List String) {ks : List T} (h : NodeOther k ks) :
    acT_cr π (.node k as ks) = .node k as (acL_cr π ks) :=
  h.arm (acT_cr.eq_8 π k as ks)

theorem acL_nil_cr (π : Renaming) : acL_cr π [] = [] := by rw [acL_cr]
theorem acL_cons_cr (π : Renaming) (t : T) (ts : List T) : acL_cr π (t :: ts) = acT_cr π t :: acL_cr π ts := by rw [acL_cr]

theorem acL_map_cr (π : Renaming) : ∀ l : List T, acL_cr π l = l.map (acT_cr π)
  | [] => by rw [acL_nil_cr]; rfl
  | t :: ts => by rw [acL_cons_cr, acL_map_cr π ts]; rfl

theorem mkTypeIdent_kind_cr {m k : String} {as : List String} {ks : List T} (h : mkTypeIdent m = .node k as ks) :
    k = "Type::Path" := by
  unfold mkTypeIdent at h
  split at h
  · cases h
  · cases h; rfl

theorem mkExprIdent_kind_cr {m k : String} {as : List String} {ks : List T} (h : mkExprIdent_cr m = .node k as ks) :
    k = "Expr::Path" := by
  unfold mkExprIdent_cr at h
  split at h
  · cases h
  · cases h; rfl

/-- the decoder-form renaming rebuilds a default node around its respelled children -/
theorem acT_nodeMap_cr (π : Renaming) : NodeMap (rn π.lt) (acT_cr π) where
  other as _ h := by rw [acT_of_other_cr π as h, acL_map_cr]
  lifetime as x := acT_lifetime_cr π as x
  inv {t k as ks'} h5 h := by
    induction t using T.shapeInd with
    | tparam n =>
      rw [acT_tparam_cr] at h
      split at h
      · exact absurd (mkTypeIdent_kind_cr h) h5.2.2.2.1
      · cases h
    | eparam n =>
      rw [acT_eparam_cr] at h
      split at h
      · exact absurd (mkExprIdent_kind_cr h) h5.2.2.2.2
      · cases h
    | ign as0 ks0 => rw [acT_ign_cr] at h; cases h; exact absurd rfl h5.1
    | eq as0 ks0 => rw [acT_eq_cr] at h; cases h; exact absurd rfl h5.2.1
    | lifetime as0 x => rw [acT_lifetime_cr] at h; cases h; exact absurd rfl h5.2.2.1
    | typePath as0 q p =>
      rw [acT_typePath_cr] at h
      split at h
      · cases h
      · cases h; exact absurd rfl h5.2.2.2.1
    | exprPath as0 a q p =>
      rw [acT_exprPath_cr] at h
      split at h
      · cases h
      · cases h; exact absurd rfl h5.2.2.2.2
    | other k0 as0 ks0 hh =>
      rw [acT_of_other_cr π as0 hh, acL_map_cr] at h
      cases h
      exact ⟨ks0, rfl, rfl⟩

theorem acT_other_cr (π : Renaming) {k : String} (as : List String) (ks : List T) (h : Oth5 k) :
    acT_cr π (.node k as ks) = .node k as (acL_cr π ks) :=
  acT_of_other_cr π as (nodeOther_of5 ks h)

theorem acT_plainPath_cr (π : Renaming) (x : String) (rest : List T) :
    acT_cr π (plainPath x rest) = plainPath x (acL_cr π rest) := by
  rw [acL_map_cr]; exact (acT_nodeMap_cr π).plainPath_eq x rest

theorem firstSegIdent_acT_cr (π : Renaming) (p : T) : firstSegIdent (acT_cr π p) = firstSegIdent p :=
  (acT_nodeMap_cr π).firstSegIdent p

/-! ### When a lone path becomes a leaf -/

theorem lonePath_plain_cr (x : String) (rest : List T) : lonePath_cr noneNode (plainPath x rest) = rest.isEmpty := by
  unfold lonePath_cr
  rw [plainHead_plain, restSegments_plainPath, Bool.true_and]

theorem lonePath_inv_cr {q p : T} (h : lonePath_cr q p = true) : q = noneNode ∧ ∃ x, p = plainPath x [] := by
  unfold lonePath_cr at h
  simp only [Bool.and_eq_true] at h
  obtain ⟨rfl, x, rest, rfl⟩ := plainHead_inv h.1
  rw [restSegments_plainPath] at h
  cases rest with
  | nil => exact ⟨rfl, x, rfl⟩
  | cons _ _ => cases h.2

theorem convTy_notLone_cr (π : Renaming) {q p : T} (h : lonePath_cr q p = false) : convTy_cr π q p = none := by
  unfold convTy_cr
  split
  · split
    · simp [h]
    · rfl
  · rfl

theorem convEx_notLone_cr (π : Renaming) {q p : T} (h : lonePath_cr q p = false) : convEx_cr π q p = none := by
  unfold convEx_cr
  split
  · split
    · simp [h]
    · rfl
  · rfl

theorem convTy_unrenamed_cr (π : Renaming) {q p : T} (h : ∀ x, firstSegIdent p = some x → rlookup π.ty x = none) :
    convTy_cr π q p = none := by
  unfold convTy_cr
  cases hf : firstSegIdent p with
  | none => rfl
  | some x => simp only [h x hf]

theorem convEx_unrenamed_cr (π : Renaming) {q p : T}
    (h : ∀ x, firstSegIdent p = some x → (rlookup π.ty x).or (rlookup π.co x) = none) : convEx_cr π q p = none := by
  unfold convEx_cr
  cases hf : firstSegIdent p with
  | none => rfl
  | some x => simp only [h x hf]

theorem convTy_lone_cr {π : Renaming} {x m : String} (hl : rlookup π.ty x = some m) (hres : reserved_cr m = true) :
    convTy_cr π noneNode (plainPath x []) = some m := by
  unfold convTy_cr
  rw [firstSegIdent_plainPath]
  simp only [hl, lonePath_plain_cr, hres, List.isEmpty_nil, Bool.and_self, if_true]

theorem convEx_lone_cr {π : Renaming} {x m : String} (hl : (rlookup π.ty x).or (rlookup π.co x) = some m)
    (hres : reserved_cr m = true) : convEx_cr π noneNode (plainPath x []) = some m := by
  unfold convEx_cr
  rw [firstSegIdent_plainPath]
  simp only [hl, lonePath_plain_cr, hres, List.isEmpty_nil, Bool.and_self, if_true]

/-- on a path whose first segment is not respelled the node stays -/
theorem acT_typePath_unrenamed_cr (π : Renaming) (as : List String) {q p : T}
    (h : ∀ x, firstSegIdent p = some x → rlookup π.ty x = none) :
    acT_cr π (.node "Type::Path" as [q, p]) = .node "Type::Path" as [acT_cr π q, acT_cr π p] := by
  rw [acT_typePath_cr, convTy_unrenamed_cr π h]
  simp only
  rw [mapHead_id fun x hx => rn_of_none (h x (by rwa [firstSegIdent_acT_cr] at hx))]

theorem acT_exprPath_unrenamed_cr (π : Renaming) (as : List String) {a q p : T}
    (h : ∀ x, firstSegIdent p = some x → rlookup π.ty x = none ∧ rlookup π.co x = none) :
    acT_cr π (.node "Expr::Path" as [a, q, p]) = .node "Expr::Path" as [acT_cr π a, acT_cr π q, acT_cr π p] := by
  have h' : ∀ x, firstSegIdent p = some x → (rlookup π.ty x).or (rlookup π.co x) = none :=
    fun x hx => by rw [(h x hx).1, (h x hx).2]; rfl
  rw [acT_exprPath_cr, convEx_unrenamed_cr π h']
  simp only
  rw [mapHead_id fun x hx => exW_of_none (h' x (by rwa [firstSegIdent_acT_cr] at hx))]

/-- the path `x::s::rest…` whose first segment is respelled `m` -/
theorem acT_typePath_plain_cr (π : Renaming) (as : List String) {x m : String} (hl : rlookup π.ty x = some m) (s : T)
    (rest : List T) : acT_cr π (.node "Type::Path" as [noneNode, plainPath x (s :: rest)]) =
      .node "Type::Path" as [noneNode, plainPath m (acL_cr π (s :: rest))] := by
  rw [acT_typePath_cr, convTy_notLone_cr π (lonePath_plain_cr x _)]
  simp only
  rw [(acT_nodeMap_cr π).noneNode_eq, acT_plainPath_cr, mapHead_plainPath, rn_of_some hl]

theorem acT_exprPath_plain_cr (π : Renaming) (as : List String) (a : T) {x m : String} (hl : rlookup π.ty x = some m)
    (s : T) (rest : List T) : acT_cr π (.node "Expr::Path" as [a, noneNode, plainPath x (s :: rest)]) =
      .node "Expr::Path" as [acT_cr π a, noneNode, plainPath m (acL_cr π (s :: rest))] := by
  rw [acT_exprPath_cr, convEx_notLone_cr π (lonePath_plain_cr x _)]
  simp only
  rw [(acT_nodeMap_cr π).noneNode_eq, acT_plainPath_cr, mapHead_plainPath, exW_of_ty hl]

/-! ### Shapes: `qsT_cr`, `renOK_cr` -/

theorem qsT_tparam_cr (P : String → Bool) (n : String) : qsT_cr P (.tparam n) = .tparam n := by rw [qsT_cr]
theorem qsT_eparam_cr (P : String → Bool) (n : String) : qsT_cr P (.eparam n) = .eparam n := by rw [qsT_cr]
theorem qsT_ign_cr (P : String → Bool) (as : List String) (ks : List T) : qsT_cr P (.node "Ign" as ks) = .node "Ign" as ks := by
  rw [qsT_cr]
theorem qsT_eq_cr (P : String → Bool) (as : List String) (ks : List T) : qsT_cr P (.node "Eq" as ks) = .node "Eq" as ks := by
  rw [qsT_cr]
theorem qsT_lifetime_cr (P : String → Bool) (as : List String) (x : String) :
    qsT_cr P (.node "Lifetime" as [.node "Ident" [x] []]) = .node "Lifetime" as [.node "Ident" [x] []] := by rw [qsT_cr]
theorem qsT_typePath_cr (P : String → Bool) (as : List String) (q p : T) :
    qsT_cr P (.node "Type::Path" as [q, p]) =
      (match qsFires_cr P q p with
       | some x => .node "Type::Path" as [(qselfPath x (restSegments (qsT_cr P p))).1, (qselfPath x (restSegments (qsT_cr P p))).2]
       | none => .node "Type::Path" as [qsT_cr P q, qsT_cr P p]) := by
  rw [qsT_cr]; cases qsFires_cr P q p <;> rfl
theorem qsT_exprPath_cr (P : String → Bool) (as : List String) (a q p : T) :
    qsT_cr P (.node "Expr::Path" as [a, q, p]) =
      (match qsFires_cr P q p with
       | some x => .node "Expr::Path" as [.node "Ign" [] [.node "List" [] []],
          (qselfPath x (restSegments (qsT_cr P p))).1, (qselfPath x (restSegments (qsT_cr P p))).2]
       | none => .node "Expr::Path" as [qsT_cr P a, qsT_cr P q, qsT_cr P p]) := by
  rw [qsT_cr]; cases qsFires_cr P q p <;> rfl

theorem qsT_of_other_cr (P : String → Bool) {k : String} (as : List String) {ks : List T} (h : NodeOther k ks) :
    qsT_cr P (.node k as ks) = .node k as (qsL_cr P ks) :=
  h.arm (qsT_cr.eq_8 P k as ks)

theorem qsL_nil_cr (P : String → Bool) : qsL_cr P [] = [] := by rw [qsL_cr]
theorem qsL_cons_cr (P : String → Bool) (t : T) (ts : List T) : qsL_cr P (t :: ts) = qsT_cr P t :: qsL_cr P ts := by rw [qsL_cr]

theorem qsL_map_cr (P : String → Bool) : ∀ l : List T, qsL_cr P l = l.map (qsT_cr P)
  | [] => by rw [qsL_nil_cr]; rfl
  | t :: ts => by rw [qsL_cons_cr, qsL_map_cr P ts]; rfl

/-- the presentation change rebuilds a default node around its rewritten children (and keeps lifetimes) -/
theorem qsT_nodeMap_cr (P : String → Bool) : NodeMap id (qsT_cr P) where
  other as _ h := by rw [qsT_of_other_cr P as h, qsL_map_cr]
  lifetime as x := qsT_lifetime_cr P as x
  inv {t k as ks'} h5 h := by
    induction t using T.shapeInd with
    | tparam n => rw [qsT_tparam_cr] at h; cases h
    | eparam n => rw [qsT_eparam_cr] at h; cases h
    | ign as0 ks0 => rw [qsT_ign_cr] at h; cases h; exact absurd rfl h5.1
    | eq as0 ks0 => rw [qsT_eq_cr] at h; cases h; exact absurd rfl h5.2.1
    | lifetime as0 x => rw [qsT_lifetime_cr] at h; cases h; exact absurd rfl h5.2.2.1
    | typePath as0 q p =>
      rw [qsT_typePath_cr] at h
      split at h <;> (cases h; exact absurd rfl h5.2.2.2.1)
    | exprPath as0 a q p =>
      rw [qsT_exprPath_cr] at h
      split at h <;> (cases h; exact absurd rfl h5.2.2.2.2)
    | other k0 as0 ks0 hh =>
      rw [qsT_of_other_cr P as0 hh, qsL_map_cr] at h
      cases h
      exact ⟨ks0, rfl, rfl⟩

theorem qsT_plainPath_cr (P : String → Bool) (x : String) (rest : List T) :
    qsT_cr P (plainPath x rest) = plainPath x (qsL_cr P rest) := by
  rw [qsL_map_cr]; exact (qsT_nodeMap_cr P).plainPath_eq x rest

theorem renOK_typePath_cr (P : String → Bool) (r : Renaming) (as : List String) (q p : T) :
    renOK_cr P r (.node "Type::Path" as [q, p]) = (renOK_cr P r q && renOK_cr P r p && renHeadTy_cr P r q p) := by
  rw [renOK_cr]
theorem renOK_exprPath_cr (P : String → Bool) (r : Renaming) (as : List String) (a q p : T) :
    renOK_cr P r (.node "Expr::Path" as [a, q, p]) =
      (renOK_cr P r a && renOK_cr P r q && renOK_cr P r p && renHeadEx_cr P r q p) := by
  rw [renOK_cr]

theorem renOKL_all_cr (P : String → Bool) (r : Renaming) : ∀ ks : List T, renOKL_cr P r ks = ks.all (renOK_cr P r)
  | [] => by rw [renOKL_cr]; rfl
  | t :: ts => by rw [renOKL_cr, List.all_cons, renOKL_all_cr P r ts]

theorem renOK_allKids_cr (P : String → Bool) (r : Renaming) : AllKids (renOK_cr P r) :=
  ⟨fun {k} as {ks} h => (h.arm (renOK_cr.eq_8 P r k as ks)).trans (renOKL_all_cr P r ks)⟩

/-! ### When the presentation change applies -/

theorem qsFires_plain_cr (P : String → Bool) (x : String) (rest : List T) :
    qsFires_cr P noneNode (plainPath x rest) = if !rest.isEmpty && P x then some x else none := by
  unfold qsFires_cr
  rw [firstSegIdent_plainPath, restSegments_plainPath, plainHead_plain, Bool.true_and]

theorem qsFires_none_of_not_cr {P : String → Bool} {q p : T} (h : ∀ x, firstSegIdent p = some x → P x = false) :
    qsFires_cr P q p = none := by
  unfold qsFires_cr
  cases hf : firstSegIdent p with
  | none => rfl
  | some x => simp [h x hf]

theorem qsFires_inv_cr {P : String → Bool} {q p : T} {x : String} (h : qsFires_cr P q p = some x) :
    q = noneNode ∧ ∃ rest, p = plainPath x rest ∧ rest.isEmpty = false ∧ P x = true := by
  unfold qsFires_cr at h
  split at h
  · next y hy =>
    split at h
    · next hc =>
      cases h
      simp only [Bool.and_eq_true, Bool.not_eq_true'] at hc
      obtain ⟨eq, x', rest, rfl⟩ := plainHead_inv hc.1.1
      cases hy
      exact ⟨eq, rest, rfl, hc.1.2, hc.2⟩
    · cases h
  · cases h

/-- the decoder-form renaming does not make the presentation change applicable -/
theorem qsFires_acT_none_cr (P : String → Bool) (π : Renaming) {q p : T} (h : qsFires_cr P q p = none) :
    qsFires_cr P (acT_cr π q) (acT_cr π p) = none := by
  cases hq' : qsFires_cr P (acT_cr π q) (acT_cr π p) with
  | none => rfl
  | some y =>
    obtain ⟨eq, rest', ep, hne, hPy⟩ := qsFires_inv_cr hq'
    obtain ⟨rest, rfl, rfl⟩ := (acT_nodeMap_cr π).plainPath_inv ep
    cases (acT_nodeMap_cr π).noneNode_inv eq
    rw [qsFires_plain_cr, hPy] at h
    rw [List.isEmpty_map] at hne
    simp [hne] at h

/-! ### The tree-level theorem -/

theorem mkTypeIdent_reserved_cr {m : String} (h : reserved_cr m = true) : mkTypeIdent m = .tparam m := by
  unfold mkTypeIdent; rw [if_pos (show m.startsWith PARAM_PREFIX = true from h)]
theorem mkExprIdent_reserved_cr {m : String} (h : reserved_cr m = true) : mkExprIdent_cr m = .eparam m := by
  unfold mkExprIdent_cr; rw [if_pos (show m.startsWith PARAM_PREFIX = true from h)]

theorem reservedTargets_ty_cr {r : Renaming} (h : r.reservedTargets_cr = true) {x m : String}
    (hl : rlookup r.ty x = some m) : reserved_cr m = true := by
  simp only [Renaming.reservedTargets_cr, List.all_eq_true, List.mem_append] at h
  exact h (x, m) (Or.inl (rlookup_some_mem hl))
theorem reservedTargets_co_cr {r : Renaming} (h : r.reservedTargets_cr = true) {x m : String}
    (hl : rlookup r.co x = some m) : reserved_cr m = true := by
  simp only [Renaming.reservedTargets_cr, List.all_eq_true, List.mem_append] at h
  exact h (x, m) (Or.inr (rlookup_some_mem hl))
theorem reservedTargets_ex_cr {r : Renaming} (hr : r.reservedTargets_cr = true) {x m : String}
    (hl : (rlookup r.ty x).or (rlookup r.co x) = some m) : reserved_cr m = true := by
  rcases Option.or_eq_some_iff.1 hl with h | ⟨_, h⟩
  · exact reservedTargets_ty_cr hr h
  · exact reservedTargets_co_cr hr h

theorem plainPath_inj_cr {x y : String} {r1 r2 : List T} (h : plainPath x r1 = plainPath y r2) : x = y ∧ r1 = r2 := by
  simpa [plainPath, plainSeg] using h

/-- `renHeadTy_cr`, unfolded: a renamed first segment stands in a plain path, whose new first segment satisfies `P` if
    there are more segments; to a path whose first segment is not renamed the presentation change does not apply -/
theorem renHeadTy_inv_cr {P : String → Bool} {r : Renaming} {q p : T} (h : renHeadTy_cr P r q p = true) :
    (∀ x m, firstSegIdent p = some x → rlookup r.ty x = some m →
      plainHead q p = true ∧ ((restSegments p).isEmpty = true ∨ P m = true)) ∧
    ((∀ x, firstSegIdent p = some x → rlookup r.ty x = none) → qsFires_cr P q p = none) := by
  unfold renHeadTy_cr at h
  cases hf : firstSegIdent p with
  | none => exact ⟨fun x m hx => (by cases hx), fun _ => by unfold qsFires_cr; rw [hf]⟩
  | some x =>
    rw [hf] at h
    refine ⟨fun y m hy hl => ?_, fun hl => ?_⟩
    · cases hy
      simpa only [hl, Bool.and_eq_true, Bool.or_eq_true] using h
    · simpa only [hl x rfl, Option.isNone_iff_eq_none] using h

/-- … and `renHeadEx_cr`: a first segment that is a renamed const parameter stands in the bare identifier -/
theorem renHeadEx_inv_cr {P : String → Bool} {r : Renaming} {q p : T} (h : renHeadEx_cr P r q p = true) :
    (∀ x m, firstSegIdent p = some x → (rlookup r.ty x).or (rlookup r.co x) = some m →
      plainHead q p = true ∧ (rlookup r.ty x = none → (restSegments p).isEmpty = true) ∧
      (rlookup r.ty x = some m → (restSegments p).isEmpty = true ∨ P m = true)) ∧
    ((∀ x, firstSegIdent p = some x → rlookup r.ty x = none ∧ rlookup r.co x = none) → qsFires_cr P q p = none) := by
  unfold renHeadEx_cr at h
  cases hf : firstSegIdent p with
  | none => exact ⟨fun x m hx => (by cases hx), fun _ => by unfold qsFires_cr; rw [hf]⟩
  | some x =>
    rw [hf] at h
    refine ⟨fun y m hy hm => ?_, fun hl => ?_⟩
    · cases hy
      cases hl : rlookup r.ty x with
      | some m' =>
        rw [hl] at hm
        cases hm
        simp only [hl, Bool.and_eq_true, Bool.or_eq_true] at h
        exact ⟨h.1, fun e => (by cases e), fun _ => h.2⟩
      | none =>
        rw [hl, Option.none_or] at hm
        simp only [hl, hm, Option.isSome_some, if_true, lonePath_cr, Bool.and_eq_true] at h
        exact ⟨h.1, fun _ => h.2, fun e => by cases e⟩
    · simpa only [(hl x rfl).1, (hl x rfl).2, Option.isSome_none, Bool.false_eq_true, if_false,
        Option.isNone_iff_eq_none] using h

/-- **the resolver's output is the textual renaming followed by the presentation change `X::rest… ↦ <X>::rest…`** -/
theorem rsT_is_renaming_cr (P : String → Bool) (r : Renaming) (hr : r.reservedTargets_cr = true) (t : T) :
    renOK_cr P r t = true → rsT r t = qsT_cr P (acT_cr r t) := by
  induction t using T.shapeInd with
  | tparam n =>
    intro _
    rw [rsT_tparam, acT_tparam_cr]
    cases hl : rlookup r.ty n with
    | some m => simp only [Option.getD_some]; rw [mkTypeIdent_reserved_cr (reservedTargets_ty_cr hr hl), qsT_tparam_cr]
    | none => simp only [Option.getD_none]; rw [qsT_tparam_cr]
  | eparam n =>
    intro _
    rw [rsT_eparam, acT_eparam_cr]
    cases hl : (rlookup r.ty n).or (rlookup r.co n) with
    | some m => simp only [Option.getD_some]; rw [mkExprIdent_reserved_cr (reservedTargets_ex_cr hr hl), qsT_eparam_cr]
    | none => simp only [Option.getD_none]; rw [qsT_eparam_cr]
  | ign as ks => intro _; rw [acT_ign_cr, rsT_ign, qsT_ign_cr]
  | eq as ks => intro _; rw [acT_eq_cr, rsT_eq, qsT_eq_cr]
  | lifetime as x => intro _; rw [acT_lifetime_cr, rsT_lifetime, qsT_lifetime_cr]; rfl
  | typePath as q p ihq ihp =>
    intro hok
    rw [renOK_typePath_cr] at hok
    simp only [Bool.and_eq_true] at hok
    obtain ⟨⟨hq, hp⟩, hh⟩ := hok
    obtain ⟨hren, hun⟩ := renHeadTy_inv_cr hh
    rcases rsT_typePath_cases r as q p (fun x m hf hl => (hren x m hf hl).1) with
      ⟨hl, e⟩ | ⟨x, m, rfl, rfl, hl, e⟩ | ⟨x, m, s, rest, rfl, rfl, hl, e⟩
    · rw [e, ihq hq, ihp hp, acT_typePath_unrenamed_cr r as hl, qsT_typePath_cr, qsFires_acT_none_cr P r (hun hl)]
    · rw [e, acT_typePath_cr, convTy_lone_cr hl (reservedTargets_ty_cr hr hl)]
      exact (qsT_tparam_cr P m).symm
    · have hPm : P m = true := ((hren x m rfl hl).2).resolve_left (by simp [restSegments_plainPath])
      have ihp' := ihp hp
      rw [rsT_plainPath, acT_plainPath_cr, qsT_plainPath_cr] at ihp'
      rw [e, acT_typePath_plain_cr r as hl, qsT_typePath_cr, qsFires_plain_cr, qsT_plainPath_cr, restSegments_plainPath,
        ← (plainPath_inj_cr ihp').2, acL_cons_cr]
      simp only [List.isEmpty_cons, Bool.not_false, hPm, Bool.and_self, if_true]
  | exprPath as a q p iha ihq ihp =>
    intro hok
    rw [renOK_exprPath_cr] at hok
    simp only [Bool.and_eq_true] at hok
    obtain ⟨⟨⟨ha, hq⟩, hp⟩, hh⟩ := hok
    obtain ⟨hren, hun⟩ := renHeadEx_inv_cr hh
    rcases rsT_exprPath_cases r as a q p (fun x m hf hm => ⟨(hren x m hf hm).1, (hren x m hf hm).2.1⟩) with
      ⟨hl, e⟩ | ⟨x, m, rfl, rfl, hm, e⟩ | ⟨x, m, s, rest, rfl, rfl, hl, e⟩
    · rw [e, iha ha, ihq hq, ihp hp, acT_exprPath_unrenamed_cr r as hl, qsT_exprPath_cr, qsFires_acT_none_cr P r (hun hl)]
    · rw [e, acT_exprPath_cr, convEx_lone_cr hm (reservedTargets_ex_cr hr hm)]
      exact (qsT_eparam_cr P m).symm
    · have hPm : P m = true :=
        ((hren x m rfl (by rw [hl]; rfl)).2.2 hl).resolve_left (by simp [restSegments_plainPath])
      have ihp' := ihp hp
      rw [rsT_plainPath, acT_plainPath_cr, qsT_plainPath_cr] at ihp'
      rw [e, acT_exprPath_plain_cr r as a hl, qsT_exprPath_cr, qsFires_plain_cr, qsT_plainPath_cr, restSegments_plainPath,
        ← (plainPath_inj_cr ihp').2, acL_cons_cr]
      simp only [List.isEmpty_cons, Bool.not_false, hPm, Bool.and_self, if_true]
  | other k as ks h ih =>
    intro hok
    rw [(acT_nodeMap_cr r).other as h, (rsT_nodeMap r).other as h,
      (qsT_nodeMap_cr P).other as ((acT_nodeMap_cr r).nodeOther h), List.map_map]
    exact congrArg _ (List.map_congr_left fun t ht => ih t ht ((renOK_allKids_cr P r).kids as h hok t ht))

/-! ### The computed renaming -/

theorem reserved_gen_cr (i : Nat) : reserved_cr (genIndexedIdent i) = true := by
  unfold reserved_cr
  rw [String.startsWith_string_iff]
  unfold genIndexedIdent
  rw [String.toList_append]
  exact List.prefix_append _ _

/-- the names handed out are reserved identifiers -/
theorem renaming_reservedTargets_cr (s : IxState) : s.renaming.reservedTargets_cr = true := by
  simp only [Renaming.reservedTargets_cr, IxState.renaming, List.all_eq_true, List.mem_append, List.mem_map]
  rintro p (⟨⟨x, i⟩, _, rfl⟩ | ⟨⟨x, i⟩, _, rfl⟩) <;> exact reserved_gen_cr i

/-! ### `renOK_cr` from the tree clause of `canonWF` -/

theorem mem_tyNames_cr {r : Renaming} {x m : String} (h : rlookup r.ty x = some m) : r.tyNames_cr.contains m = true := by
  rw [List.contains_iff_mem]
  exact List.mem_map.2 ⟨(x, m), rlookup_some_mem h, rfl⟩

/-- a name the type map does not rename and that may stand in type position is not one of the canonical type names -/
theorem unrenamed_notName_ty_cr {c : CCtx} (st : Stat c) (hn : (c.r.ty.map Prod.fst).Nodup) {x : String}
    (hok : okTy c x = true) (hl : rlookup c.r.ty x = none) : c.r.tyNames_cr.contains x = false := by
  rw [← Bool.not_eq_true, List.contains_iff_mem]
  exact fresh_of_ok (k := .ty) st hn (okTy_iff.1 hok) hl

theorem unrenamed_notName_ex_cr {c : CCtx} (st : Stat c) (hn : (c.r.ty.map Prod.fst).Nodup) {x : String}
    (hok : okEx c x = true) (hl : rlookup c.r.ty x = none) (hl2 : rlookup c.r.co x = none) :
    c.r.tyNames_cr.contains x = false := by
  rw [← Bool.not_eq_true, List.contains_iff_mem]
  exact fresh_of_okEx (k := .ty) st rfl hn hok hl hl2

/-- **the tree clause of `canonWF` gives the condition of the tree-level theorem**, for "is one of the canonical type
    names" -/
theorem renOK_of_rsOK_cr (c : CCtx) (st : Stat c) (hn : (c.r.ty.map Prod.fst).Nodup) (t : T) :
    rsOK c t = true → renOK_cr c.r.tyNames_cr.contains c.r t = true := by
  induction t using T.shapeInd with
  | tparam n => intro _; rw [renOK_cr]
  | eparam n => intro _; rw [renOK_cr]
  | ign as ks => intro _; rw [renOK_cr]
  | eq as ks => intro _; rw [renOK_cr]
  | lifetime as x => intro _; rw [renOK_cr]
  | typePath as q p ihq ihp =>
    intro hok
    obtain ⟨hq, hp, hx⟩ := rsOK_typePath_inv hok
    rw [renOK_typePath_cr, ihq hq, ihp hp]
    simp only [Bool.true_and]
    unfold renHeadTy_cr
    cases hf : firstSegIdent p with
    | none => rfl
    | some x =>
      simp only
      obtain ⟨hokx, hm⟩ := hx x hf
      cases hl : rlookup c.r.ty x with
      | some m => simp only; rw [(hm m hl).1, mem_tyNames_cr hl]; simp
      | none =>
        simp only
        rw [qsFires_none_of_not_cr fun y hy => by cases hf.symm.trans hy; exact unrenamed_notName_ty_cr st hn hokx hl]
        rfl
  | exprPath as a q p iha ihq ihp =>
    intro hok
    obtain ⟨ha, hq, hp, hx⟩ := rsOK_exprPath_inv hok
    rw [renOK_exprPath_cr, iha ha, ihq hq, ihp hp]
    simp only [Bool.true_and]
    unfold renHeadEx_cr
    cases hf : firstSegIdent p with
    | none => rfl
    | some x =>
      simp only
      obtain ⟨hokx, hm, _⟩ := hx x hf
      cases hl : rlookup c.r.ty x with
      | some m => simp only; rw [(hm m (by rw [hl]; rfl)).1, mem_tyNames_cr hl]; simp
      | none =>
        simp only
        cases hl2 : rlookup c.r.co x with
        | some m =>
          obtain ⟨h1, h2⟩ := hm m (by rw [hl, hl2]; rfl)
          simp only [Option.isSome_some, if_true, lonePath_cr, h1, h2 hl, Bool.and_self]
        | none =>
          simp only [Option.isSome_none, Bool.false_eq_true, if_false]
          rw [qsFires_none_of_not_cr fun y hy => by
            cases hf.symm.trans hy; exact unrenamed_notName_ex_cr st hn hokx hl hl2]
          rfl
  | other k as ks h ih =>
    intro hok
    rw [(renOK_allKids_cr _ _).other as h, List.all_eq_true]
    exact fun t ht => ih t ht ((rsOK_allKids c).kids as h hok t ht)

/-! ### The item-level theorems -/

/-- canonicalisation is the textual renaming followed by the presentation change, under exactly the tree condition -/
theorem canon_is_renaming_of_cr (P : String → Bool) (item : T)
    (h : renOK_cr P (indexImpl item).renaming item = true) :
    canon item = qsT_cr P (alphaRenameC_cr (indexImpl item).renaming item) := by
  unfold canon alphaRenameC_cr
  exact rsT_is_renaming_cr P _ (renaming_reservedTargets_cr _) _ (by rw [(renOK_allKids_cr P _).renameImplDecls]; exact h)

theorem canonWF_renOK_cr (item : T) (h : canonWF item = true) :
    renOK_cr (indexImpl item).renaming.tyNames_cr.contains (indexImpl item).renaming item = true := by
  obtain ⟨_, hd, hf, hok⟩ := canonWF_parts h
  exact renOK_of_rsOK_cr (canonCtx item) (canon_stat item hd hf) (keys_nodup_of_distinct item hd .ty) item hok

theorem canon_is_renaming_cr (item : T) (h : canonWF item = true) :
    canon item = qselfFormOf_cr (indexImpl item).renaming.tyNames_cr
      (alphaRenameC_cr (indexImpl item).renaming item) :=
  canon_is_renaming_of_cr _ item (canonWF_renOK_cr item h)

/-! ### Every occurrence is rewritten -/

theorem noOldL_all_cr (r : Renaming) : ∀ ks : List T, noOldL_cr r ks = ks.all (noOld_cr r)
  | [] => by rw [noOldL_cr]; rfl
  | t :: ts => by rw [noOldL_cr, List.all_cons, noOldL_all_cr r ts]

theorem noOld_allKids_cr (r : Renaming) : AllKids (noOld_cr r) :=
  ⟨fun {k} as {ks} h => (h.arm (noOld_cr.eq_8 r k as ks)).trans (noOldL_all_cr r ks)⟩

theorem noOld_typePath_cr (r : Renaming) (as : List String) (q p : T) :
    noOld_cr r (.node "Type::Path" as [q, p]) = (noOld_cr r q && noOld_cr r p &&
      (q != noneNode || (match firstSegIdent p with | some x => notOld_cr r.ty x | none => true))) := by
  rw [noOld_cr]; cases firstSegIdent p <;> rfl
theorem noOld_exprPath_cr (r : Renaming) (as : List String) (a q p : T) :
    noOld_cr r (.node "Expr::Path" as [a, q, p]) = (noOld_cr r a && noOld_cr r q && noOld_cr r p &&
      (q != noneNode || (match firstSegIdent p with | some x => notOldEx_cr r x | none => true))) := by
  rw [noOld_cr]; cases firstSegIdent p <;> rfl

/-- what a map writes is not an old spelling -/
theorem notOld_rn_cr (m : List (String × String)) (x : String) : notOld_cr m (rn m x) = true := by
  unfold notOld_cr
  cases hl : rlookup m x with
  | some v =>
    rw [rn_of_some hl, Bool.or_eq_true, List.contains_iff_mem]
    exact Or.inr (List.mem_map.2 ⟨(x, v), rlookup_some_mem hl, rfl⟩)
  | none => rw [rn_of_none hl, hl]; rfl

theorem notOldEx_exW_cr (r : Renaming) (x : String) : notOldEx_cr r (exW r x) = true := by
  unfold notOldEx_cr exW
  cases hl : rlookup r.ty x with
  | some m =>
    simp only [Option.some_or, Option.getD_some, Bool.or_eq_true, List.contains_iff_mem]
    exact Or.inr (List.mem_map.2 ⟨(x, m), List.mem_append_left _ (rlookup_some_mem hl), rfl⟩)
  | none =>
    cases hl2 : rlookup r.co x with
    | some m =>
      simp only [Option.none_or, Option.getD_some, Bool.or_eq_true, List.contains_iff_mem]
      exact Or.inr (List.mem_map.2 ⟨(x, m), List.mem_append_right _ (rlookup_some_mem hl2), rfl⟩)
    | none => simp [hl, hl2]

/-- **every occurrence is rewritten**: in the resolver's output no old spelling of a renamed parameter is left in
    parameter position -/
theorem rsT_noOld_cr (P : String → Bool) (r : Renaming) (t : T) : renOK_cr P r t = true → noOld_cr r (rsT r t) = true := by
  induction t using T.shapeInd with
  | tparam n => intro _; rw [rsT_tparam, noOld_cr]; exact notOld_rn_cr r.ty n
  | eparam n => intro _; rw [rsT_eparam, noOld_cr]; exact notOldEx_exW_cr r n
  | ign as ks => intro _; rw [rsT_ign, noOld_cr]
  | eq as ks => intro _; rw [rsT_eq, noOld_cr]
  | lifetime as x => intro _; rw [rsT_lifetime, noOld_cr]; exact notOld_rn_cr r.lt x
  | typePath as q p ihq ihp =>
    intro hok
    rw [renOK_typePath_cr] at hok
    simp only [Bool.and_eq_true] at hok
    obtain ⟨⟨hq, hp⟩, hh⟩ := hok
    rcases rsT_typePath_cases r as q p (fun x m hf hl => ((renHeadTy_inv_cr hh).1 x m hf hl).1) with
      ⟨hl, e⟩ | ⟨x, m, rfl, rfl, hl, e⟩ | ⟨x, m, s, rest, rfl, rfl, hl, e⟩
    · rw [e, noOld_typePath_cr, ihq hq, ihp hp, firstSegIdent_rsT]
      cases hf : firstSegIdent p with
      | none => simp
      | some x => simp [notOld_cr, hl x hf]
    · rw [e, noOld_cr, ← rn_of_some hl]
      exact notOld_rn_cr r.ty x
    · have hrest := ihp hp
      rw [rsT_plainPath, (noOld_allKids_cr r).plainPath] at hrest
      obtain ⟨h1, h2⟩ := (noOld_allKids_cr r).qselfPath m (rsL r (s :: rest))
      rw [e, noOld_typePath_cr, h1, h2, hrest, noOld_cr, ← rn_of_some hl, notOld_rn_cr]
      rfl
  | exprPath as a q p iha ihq ihp =>
    intro hok
    rw [renOK_exprPath_cr] at hok
    simp only [Bool.and_eq_true] at hok
    obtain ⟨⟨⟨ha, hq⟩, hp⟩, hh⟩ := hok
    have hren := (renHeadEx_inv_cr hh).1
    rcases rsT_exprPath_cases r as a q p (fun x m hf hm => ⟨(hren x m hf hm).1, (hren x m hf hm).2.1⟩) with
      ⟨hl, e⟩ | ⟨x, m, rfl, rfl, hm, e⟩ | ⟨x, m, s, rest, rfl, rfl, hl, e⟩
    · rw [e, noOld_exprPath_cr, iha ha, ihq hq, ihp hp, firstSegIdent_rsT]
      cases hf : firstSegIdent p with
      | none => simp
      | some x => simp [notOldEx_cr, (hl x hf).1, (hl x hf).2]
    · have := notOldEx_exW_cr r x
      rw [exW_of_some hm] at this
      rw [e, noOld_cr]
      exact this
    · have hrest := ihp hp
      rw [rsT_plainPath, (noOld_allKids_cr r).plainPath] at hrest
      obtain ⟨h1, h2⟩ := (noOld_allKids_cr r).qselfPath m (rsL r (s :: rest))
      rw [e, noOld_exprPath_cr, h1, h2, hrest, noOld_cr, noOld_cr, ← rn_of_some hl, notOld_rn_cr]
      rfl
  | other k as ks h ih =>
    intro hok
    rw [(rsT_nodeMap r).other as h, (noOld_allKids_cr r).other as ((rsT_nodeMap r).nodeOther h), List.all_map,
      List.all_eq_true]
    exact fun t ht => ih t ht ((renOK_allKids_cr P r).kids as h hok t ht)

theorem canon_noOld_cr (P : String → Bool) (item : T) (h : renOK_cr P (indexImpl item).renaming item = true) :
    noOld_cr (indexImpl item).renaming (canon item) = true := by
  unfold canon
  exact rsT_noOld_cr P _ _ (by rw [(renOK_allKids_cr P _).renameImplDecls]; exact h)

/-! ### The declared parameter list -/

theorem canonCtx_rho_cr (item : T) (k : PK) (y : String) :
    (canonCtx item).ρ k y = rn ((indexImpl item).renaming.m k) y := by
  cases k <;> rfl

/-- the declarations of the canonical block are the declarations of the block, position by position, each with its
    name respelled (and its bounds resolved: `declF`) -/
theorem canon_params_cr (item : T) (hdecl : implDeclsOK item = true) (hd : namesDistinct (canonCtx item) = true) :
    implParams (canon item) = (implParams item).map (declF (indexImpl item).renaming) ∧
    ∀ p ∈ implParams item, ∃ k y, kindSel (kindStr k) p = some y ∧ paramIdent p = some y ∧
      kindSel (kindStr k) (declF (indexImpl item).renaming p) = some (rn ((indexImpl item).renaming.m k) y) ∧
      paramIdent (declF (indexImpl item).renaming p) = some (rn ((indexImpl item).renaming.m k) y) := by
  refine ⟨(declOrder_canon item (implParams item) hdecl hd (List.Perm.refl _)).2, ?_⟩
  obtain ⟨a, d, u, lt0, ps, gt0, wc, tr, sf, items, rfl, hps⟩ := implDeclsOK_inv hdecl
  intro p hp
  obtain ⟨k, y, hdp⟩ := isDecl_of_paramIdent (hps p hp)
  have hdp' := (rsT_nodeMap _).isDecl (c := canonCtx (.node "ItemImpl" [] [a, d, u, .node "Generics" [] [lt0, .node "List" [] ps, gt0, wc], tr, sf, items])) hdp
  rw [canonCtx_rho_cr] at hdp'
  exact ⟨k, y, by rw [hdp.sel k]; simp, hdp.ident, (hdp'.sel k).trans (if_pos rfl), hdp'.ident⟩

/-! ### The computed renaming satisfies the side condition of alpha-invariance -/

/-- the no-capture clause of `alphaOK` is the no-capture part of `rsOK` -/
theorem alOK_of_rsOK_cr (c : CCtx) (t : T) : rsOK c t = true → alOK c t = true := by
  induction t using T.shapeInd with
  | tparam n => intro h; rw [rsOK] at h; rw [alOK]; exact h
  | eparam n => intro h; rw [rsOK] at h; rw [alOK]; exact h
  | ign as ks => intro _; rw [alOK]
  | eq as ks => intro _; rw [alOK]
  | lifetime as x => intro h; rw [rsOK] at h; rw [alOK]; exact h
  | typePath as q p ihq ihp =>
    intro hok
    obtain ⟨hq, hp, hx⟩ := rsOK_typePath_inv hok
    rw [alOK, ihq hq, ihp hp]
    cases hf : firstSegIdent p with
    | none => rfl
    | some x => simpa using (hx x hf).1
  | exprPath as a q p iha ihq ihp =>
    intro hok
    obtain ⟨ha, hq, hp, hx⟩ := rsOK_exprPath_inv hok
    rw [alOK, iha ha, ihq hq, ihp hp]
    cases hf : firstSegIdent p with
    | none => rfl
    | some x => simpa using (hx x hf).1
  | other k as ks h ih =>
    intro hok
    rw [(alOK_allKids c).other as h, List.all_eq_true]
    exact fun t ht => ih t ht ((rsOK_allKids c).kids as h hok t ht)

theorem alphaCtx_self_cr (item : T) : alphaCtx (indexImpl item).renaming item = canonCtx item := rfl

/-- **`canonWF` gives `alphaOK` for the computed renaming**: the canonical renaming is an admissible consistent respelling
    of the block -/
theorem canonWF_alphaOK_cr (item : T) (h : canonWF item = true) : alphaOK (indexImpl item).renaming item = true := by
  obtain ⟨_, hd, hf, hok⟩ := canonWF_parts h
  have st := canon_stat item hd hf
  have hnd : (canonCtx item).dLt.Nodup ∧ ((canonCtx item).dTy ++ (canonCtx item).dCo).Nodup := by
    simpa [namesDistinct] using hd
  have hnd2 := List.nodup_append.1 hnd.2
  have hinv := indexImpl_inv_of_distinct item hd
  have hkey : ∀ k x, x ∈ ((canonCtx item).m k).map Prod.fst → x ∈ (canonCtx item).D k := by
    intro k x hx
    rw [← canonCtx_mem_D, names_eq]
    refine List.mem_append_left _ ?_
    rw [canonCtx_m, List.map_map] at hx
    exact hx
  unfold alphaOK
  rw [alphaCtx_self_cr]
  simp only [Bool.and_eq_true]
  refine ⟨⟨⟨?_, ?_⟩, ?_⟩, alOK_of_rsOK_cr _ item hok⟩
  · -- domOK
    simp only [domOK, Bool.and_eq_true, List.all_eq_true, List.contains_iff_mem]
    exact ⟨⟨fun x hx => hkey .lt x hx, fun x hx => hkey .ty x hx⟩, fun x hx => hkey .co x hx⟩
  · -- injOK
    simp only [injOK, Bool.and_eq_true, decide_eq_true_eq]
    refine ⟨nodup_map_of_inj_on hnd.1 (fun a ha b hb e => st.inj .lt .lt rfl a b ha hb e), ?_⟩
    rw [List.nodup_append]
    refine ⟨nodup_map_of_inj_on hnd2.1 (fun a ha b hb e => st.inj .ty .ty rfl a b ha hb e),
      nodup_map_of_inj_on hnd2.2.1 (fun a ha b hb e => st.inj .co .co rfl a b ha hb e), ?_⟩
    exact fun n ha b hb e => st.img_disjoint n ha (e ▸ hb)
  · -- deadFixed
    have hun : ∀ k n, n ∈ (indexImpl item).un k → rn ((canonCtx item).m k) n = n := by
      intro k n hn
      have hnn : ((indexImpl item).names k).Nodup := by
        cases k
        · exact hinv.2.1
        · exact hinv.2.2.1
        · exact hinv.2.2.2
      rw [names_eq, List.nodup_append] at hnn
      have : rlookup ((canonCtx item).m k) n = none := by
        apply rlookup_eq_none_iff.2
        rw [canonCtx_m, List.map_map]
        intro hk
        exact hnn.2.2 n hk n hn rfl
      exact rn_of_none this
    simp only [deadFixed, Bool.and_eq_true, List.all_eq_true, beq_iff_eq]
    exact ⟨⟨fun n hn => hun .lt n hn, fun n hn => hun .ty n hn⟩, fun n hn => hun .co n hn⟩

/-! ### The decoder-form renaming is the renaming `arT` on form-preserving maps -/

theorem decNF_typePath_cr (as : List String) (q p : T) :
    decNF_cr (.node "Type::Path" as [q, p]) = (decNF_cr q && decNF_cr p &&
      (match firstSegIdent p with | some x => !(lonePath_cr q p && reserved_cr x) | none => true)) := by
  rw [decNF_cr]; cases firstSegIdent p <;> rfl
theorem decNF_exprPath_cr (as : List String) (a q p : T) :
    decNF_cr (.node "Expr::Path" as [a, q, p]) = (decNF_cr a && decNF_cr q && decNF_cr p &&
      (match firstSegIdent p with | some x => !(lonePath_cr q p && reserved_cr x) | none => true)) := by
  rw [decNF_cr]; cases firstSegIdent p <;> rfl

theorem decNFL_all_cr : ∀ ks : List T, decNFL_cr ks = ks.all decNF_cr
  | [] => by rw [decNFL_cr]; rfl
  | t :: ts => by rw [decNFL_cr, List.all_cons, decNFL_all_cr ts]

theorem decNF_allKids_cr : AllKids decNF_cr :=
  ⟨fun {k} as {ks} h => (h.arm (decNF_cr.eq_8 k as ks)).trans (decNFL_all_cr ks)⟩

theorem formOK_ty_cr {π : Renaming} (h : formOK π = true) {x m : String} (hl : rlookup π.ty x = some m) :
    reserved_cr m = reserved_cr x := by
  simp only [formOK, List.all_eq_true, List.mem_append, beq_iff_eq] at h
  exact (h (x, m) (Or.inl (rlookup_some_mem hl))).symm
theorem formOK_ex_cr {π : Renaming} (h : formOK π = true) {x m : String}
    (hl : (rlookup π.ty x).or (rlookup π.co x) = some m) : reserved_cr m = reserved_cr x := by
  simp only [formOK, List.all_eq_true, List.mem_append, beq_iff_eq] at h
  rcases Option.or_eq_some_iff.1 hl with h1 | ⟨_, h1⟩
  · exact (h (x, m) (Or.inl (rlookup_some_mem h1))).symm
  · exact (h (x, m) (Or.inr (rlookup_some_mem h1))).symm

/-- in decoder normal form no lone path is converted when the new spelling is reserved exactly if the old one is -/
theorem convTy_none_of_decNF_cr {π : Renaming} {q p : T}
    (hform : ∀ x m, rlookup π.ty x = some m → reserved_cr m = reserved_cr x)
    (hh : (match firstSegIdent p with | some x => !(lonePath_cr q p && reserved_cr x) | none => true) = true) :
    convTy_cr π q p = none := by
  unfold convTy_cr
  cases hfs : firstSegIdent p with
  | none => rfl
  | some x =>
    rw [hfs] at hh
    simp only
    cases hl : rlookup π.ty x with
    | none => rfl
    | some m =>
      simp only
      rw [hform x m hl, if_neg]
      intro hc
      simp [hc] at hh

theorem convEx_none_of_decNF_cr {π : Renaming} {q p : T}
    (hform : ∀ x m, (rlookup π.ty x).or (rlookup π.co x) = some m → reserved_cr m = reserved_cr x)
    (hh : (match firstSegIdent p with | some x => !(lonePath_cr q p && reserved_cr x) | none => true) = true) :
    convEx_cr π q p = none := by
  unfold convEx_cr
  cases hfs : firstSegIdent p with
  | none => rfl
  | some x =>
    rw [hfs] at hh
    simp only
    cases hl : (rlookup π.ty x).or (rlookup π.co x) with
    | none => rfl
    | some m =>
      simp only
      rw [hform x m hl, if_neg]
      intro hc
      simp [hc] at hh

/-- on a tree in decoder normal form, a renaming that relates reserved names to reserved names and ordinary names to
    ordinary names never changes the form of a node: the decoder-form renaming is `arT` -/
theorem acT_eq_arT_cr (π : Renaming) (hf : formOK π = true) (t : T) : decNF_cr t = true → acT_cr π t = arT π t := by
  induction t using T.shapeInd with
  | tparam n =>
    intro h
    rw [decNF_cr] at h
    rw [acT_tparam_cr, arT_tparam]
    cases hl : rlookup π.ty n with
    | some m => rw [rn_of_some hl]; exact mkTypeIdent_reserved_cr (by rw [formOK_ty_cr hf hl, h])
    | none => rw [rn_of_none hl]
  | eparam n =>
    intro h
    rw [decNF_cr] at h
    rw [acT_eparam_cr, arT_eparam]
    cases hl : (rlookup π.ty n).or (rlookup π.co n) with
    | some m => rw [exW_of_some hl]; exact mkExprIdent_reserved_cr (by rw [formOK_ex_cr hf hl, h])
    | none => rw [exW_of_none hl]
  | ign as ks => intro _; rw [acT_ign_cr, arT_ign]
  | eq as ks => intro _; rw [acT_eq_cr, arT_eq]
  | lifetime as x => intro _; rw [acT_lifetime_cr, arT_lifetime]
  | typePath as q p ihq ihp =>
    intro hok
    rw [decNF_typePath_cr] at hok
    simp only [Bool.and_eq_true] at hok
    rw [acT_typePath_cr, arT_typePath, convTy_none_of_decNF_cr (fun _ _ => formOK_ty_cr hf) hok.2, ihq hok.1.1,
      ihp hok.1.2]
  | exprPath as a q p iha ihq ihp =>
    intro hok
    rw [decNF_exprPath_cr] at hok
    simp only [Bool.and_eq_true] at hok
    rw [acT_exprPath_cr, arT_exprPath, convEx_none_of_decNF_cr (fun _ _ => formOK_ex_cr hf) hok.2, iha hok.1.1.1,
      ihq hok.1.1.2, ihp hok.1.2]
  | other k as ks h ih =>
    intro hok
    rw [(acT_nodeMap_cr π).other as h, (arT_nodeMap π).other as h]
    exact congrArg _ (List.map_congr_left fun t ht => ih t ht (decNF_allKids_cr.kids as h hok t ht))

/-- on form-preserving maps and blocks in decoder normal form the two textual renamings coincide -/
theorem alphaRenameC_eq_cr (π : Renaming) (item : T) (hf : formOK π = true) (hn : decNF_cr item = true) :
    alphaRenameC_cr π item = alphaRename π item :=
  acT_eq_arT_cr π hf _ (by rw [decNF_allKids_cr.renameImplDecls]; exact hn)

/-! ### Nothing that is not an occurrence is rewritten (frame property) -/

/-- no identifier in parameter position is renamed by `r` (per position: lifetimes by the lifetime map, type position by
    the type map, expression position by the type and const maps) -/
def untouchedP_cr (r : Renaming) : NP :=
  ⟨fun n => (rlookup r.lt n).isNone, fun n => (rlookup r.ty n).isNone,
   fun n => (rlookup r.ty n).isNone && (rlookup r.co n).isNone⟩

/-- **frame property of the resolver**: a tree in which no identifier in parameter position is a renamed parameter is
    left exactly as it is — whatever else it contains (trait names, path segments, field and method names, lifetimes,
    literals that merely share a spelling with a parameter of ANOTHER position) -/
theorem rsT_untouched_cr (r : Renaming) (t : T) : alP (untouchedP_cr r) t = true → rsT r t = t := by
  induction t using T.shapeInd with
  | tparam n =>
    intro h
    rw [alP] at h
    have h' : rlookup r.ty n = none := by simpa [untouchedP_cr] using h
    rw [rsT_tparam, h']; rfl
  | eparam n =>
    intro h
    rw [alP] at h
    have h' : rlookup r.ty n = none ∧ rlookup r.co n = none := by simpa [untouchedP_cr] using h
    rw [rsT_eparam, h'.1, h'.2]; rfl
  | ign as ks => exact fun _ => rsT_ign r as ks
  | eq as ks => exact fun _ => rsT_eq r as ks
  | lifetime as x =>
    intro h
    rw [alP] at h
    have h' : rlookup r.lt x = none := by simpa [untouchedP_cr] using h
    rw [rsT_lifetime, h']; rfl
  | typePath as q p ihq ihp =>
    intro h
    obtain ⟨hq, hp, hx⟩ := alP_typePath_iff.1 h
    rw [rsT_typePath, ihq hq, ihp hp]
    exact rsTypePath_unrenamed fun x hf => by simpa [untouchedP_cr] using hx x hf
  | exprPath as a q p iha ihq ihp =>
    intro h
    obtain ⟨ha, hq, hp, hx⟩ := alP_exprPath_iff.1 h
    rw [rsT_exprPath, iha ha, ihq hq, ihp hp]
    exact rsExprPath_unrenamed fun x hf => by simpa [untouchedP_cr] using hx x hf
  | other k as ks hh ih =>
    intro h
    rw [rsT_of_other r as hh, rsL_eq_self fun t ht => ih t ht ((alP_allKids _).kids as hh h t ht)]

end DI

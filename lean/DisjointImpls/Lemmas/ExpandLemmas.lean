/-
  `ExpandOK` holds of the model's expansion (`Props/C01.lean`, `C01_expandOK_of_expand`): the helper impls and the
  main impl produced by the generators of `Expand.lean` pass the checker of `ExpandOK.lean`. Core-only.
-/
import DisjointImpls.ExpandOK
import DisjointImpls.Expand
import DisjointImpls.Lemmas.KeyLemmas
import DisjointImpls.Lemmas.GroupLemmas
import DisjointImpls.Lemmas.CanonLemmas
namespace DI

open XOK

theorem implTraitPath_inv {item p : T} (h : implTraitPath item = some p) :
    ∃ a d u g b s items, item = .node "ItemImpl" [] [a, d, u, g, .node "Some" [] [.node "Tuple" [] [b, p]], s, items] := by
  unfold implTraitPath at h
  split at h
  · next a d u g b p' s items => cases h; exact ⟨a, d, u, g, b, s, items, rfl⟩
  · cases h

theorem lastSegOf_inv {p l : T} (h : lastSegOf p = some l) :
    ∃ lc, p = .node "Path" [] [lc, .node "List" [] (initSegsOf p ++ [l])] := by
  unfold lastSegOf at h
  have hne : pathSegments p ≠ [] := by intro e; rw [e] at h; simp at h
  obtain ⟨lc, segs, rfl⟩ := pathSegments_ne_nil_inv hne
  refine ⟨lc, ?_⟩
  rw [pathSegments_mkPath] at h
  rw [initSegsOf, pathSegments_mkPath]
  rcases List.eq_nil_or_concat segs with rfl | ⟨i, x, rfl⟩
  · simp at h
  · simp at h; subst h; simp [mkPath]

theorem isAssocType_eq (a : T) : isAssocType a = (kind a == "GenericArgument::AssocType") := by
  unfold isAssocType kind
  split
  · simp
  · next h =>
    cases a with
    | tparam n => simp
    | eparam n => simp
    | node k as ks =>
      simp only
      cases hk : (k == "GenericArgument::AssocType") with
      | false => rfl
      | true => exact absurd (by rw [eq_of_beq hk]) (h as ks)

theorem filter_nonAssoc (args : List T) :
    args.filter (fun a => kind a != "GenericArgument::AssocType") = nonAssoc args := by
  unfold nonAssoc
  apply List.filter_congr
  intro a _
  rw [isAssocType_eq]
  rfl

theorem segsOf_mkPath (lc : T) (segs : List T) : segsOf (mkPath lc segs) = segs := by
  simp [segsOf, mkPath, kid, kids]

theorem lastOf_concat (l : List T) (x : T) : lastOf (l ++ [x]) = x := by simp [lastOf]

theorem normSegs_append (a b : List T) : normSegs (a ++ b) = normSegs a ++ normSegs b := by simp [normSegs]

theorem xsegArgs_angleSeg (id c2 : T) (args : List T) : XOK.segArgs (angleSeg id c2 args) = args := by
  simp [XOK.segArgs, angleSeg, kid, kids, kind]

theorem segIdent_angleSeg' (id c2 : T) (args : List T) : XOK.segIdent (angleSeg id c2 args) = (atoms id).headD "" := by
  simp [XOK.segIdent, angleSeg, kid, kids]

/-- printing a trait bound without its bindings does not change its normalised segments -/
theorem normSegs_tbTokens (tr : T) :
    normSegs (pathSegments (tbTokens tr)) = normSegs (pathSegments tr) := by
  unfold tbTokens
  rcases stripBindings_cases tr with ⟨lc, i, id, c2, args, rfl⟩ | ⟨he, _⟩
  · rw [stripBindings_angle, pathSegments_mkPath, pathSegments_mkPath, normSegs_append, normSegs_append]
    congr 1
    simp only [normSegs, List.map_cons, List.map_nil, xsegArgs_angleSeg, segIdent_angleSeg', filter_nonAssoc,
      nonAssoc_idem]
  · rw [he]

/-- a path whose segments can be read positionally -/
def pathShaped (p : T) : Bool := pathSegments p == segsOf p

theorem pathShaped_of_wfPath {p : T} (h : wfPath p = true) : pathShaped p = true := by
  obtain ⟨l, hl, _⟩ := wfPath_last h
  have hne : pathSegments p ≠ [] := by
    intro e; unfold lastSeg at hl; rw [e] at hl; cases hl
  obtain ⟨lc, segs, rfl⟩ := pathSegments_ne_nil_inv hne
  simp [pathShaped, pathSegments_mkPath, segsOf_mkPath]

/-- the projection of a key, read back by the checker -/
theorem projectionParts_projection (b tr : T) (a : String) :
    projectionParts (gaType (projection b tr a)) = some (b, pathSegments (tbTokens tr), a) := by
  simp [projectionParts, gaType, projection, tyPath, tSome, pathNode, tList, kid, kids, kind, segsOf, seg, tIdent,
    XOK.segIdent, lastOf, atoms]

/-- wildcard entries only where the member's substitution fixes the key's bounded type (fails for F-D3) -/
def wfixRow (θ : Subst) : List (BKey × String) → List (Option T) → Bool
  | kx :: ks, r :: rs => (r.isSome || inst θ kx.1.1 == kx.1.1) && wfixRow θ ks rs
  | _, _ => true

/-- one leading argument as the generator prints it -/
def rowArg (kx : BKey × String) (r : Option T) : T :=
  match r with
  | some p => asGenericArg p
  | none => asGenericArg (projection kx.1.1 kx.1.2 kx.2)

theorem rowArgs_cons (kx : BKey × String) (ks : List (BKey × String)) (r : Option T) (rs : List (Option T)) :
    rowArgs (kx :: ks) (r :: rs) = rowArg kx r :: rowArgs ks rs := by
  simp only [rowArgs, List.zip_cons_cons, List.map_cons]
  cases r <;> rfl

theorem rowArgs_length (idents : List (BKey × String)) (row : List (Option T)) (h : row.length = idents.length) :
    (rowArgs idents row).length = idents.length := by
  simp [rowArgs, h]

theorem checkArgs_rowArgs (θ : Subst) : ∀ (idents : List (BKey × String)) (row : List (Option T)),
    (∀ kx ∈ idents, pathShaped kx.1.2 = true) → wfixRow θ idents row = true →
    checkArgs θ (rowArgs idents row) (keysOf idents) row = true
  | [], row, _, _ => by simp [rowArgs, checkArgs]
  | kx :: ks, [], _, _ => by simp [rowArgs, checkArgs]
  | kx :: ks, r :: rs, hp, hw => by
      rw [rowArgs_cons]
      simp only [wfixRow, Bool.and_eq_true, Bool.or_eq_true] at hw
      simp only [keysOf, List.map_cons, checkArgs, List.headD_cons, List.tail_cons, Bool.and_eq_true]
      refine ⟨?_, checkArgs_rowArgs θ ks rs (fun k hk => hp k (List.mem_cons_of_mem _ hk)) hw.2⟩
      cases r with
      | some p => simp [rowArg, checkArg, asGenericArg, gaType]
      | none =>
        have hfix : inst θ kx.1.1 = kx.1.1 := by
          rcases hw.1 with h | h
          · cases h
          · exact eq_of_beq h
        have hsh : pathSegments kx.1.2 = segsOf kx.1.2 := eq_of_beq (hp kx (by simp))
        simp only [rowArg, checkArg, asGenericArg, projectionParts_projection, normSegs_tbTokens, hfix, hsh,
          beq_self_eq_true, Bool.and_self]

theorem keysOf_length (idents : List (BKey × String)) : (keysOf idents).length = idents.length := by
  simp [keysOf]

/-- inherent mode is trait mode on the member with the generated path as its trait and its items' visibilities removed -/
theorem helperImpl_some (idx : Nat) (p0 : T) (idents : List (BKey × String)) (row : List (Option T)) (member : T) :
    helperImpl idx (some p0) idents row member =
      helperImpl idx none idents row (mapImplItems setVisInherited (setImplTrait member p0)) := rfl

/-- the member with another trait reference: everything but child 4 is the member's; the new trait reference is the SINGLE
    segment `_<x><idx><row ++ old arguments>` (`x` the identifier of the member's LAST trait-path segment) with no leading
    `::` and none of the member's leading segments (disjoint.rs: `*trait_ = path.clone().into()`) -/
theorem helperImpl_trait_inv {idx : Nat} {idents : List (BKey × String)} {row : List (Option T)} {member h : T}
    (hh : helperImpl idx none idents row member = some h) :
    ∃ a d u g b p s items x args na,
      member = .node "ItemImpl" [] [a, d, u, g, .node "Some" [] [.node "Tuple" [] [b, p]], s, items] ∧
      lastSegOf p = some (.node "PathSegment" [] [.node "Ident" [x] [], args]) ∧
      ((args = noArgs ∧ na = angle (rowArgs idents row)) ∨
       (∃ c2 old, args = .node "PathArguments::AngleBracketed" [] [c2, .node "List" [] old] ∧
          na = .node "PathArguments::AngleBracketed" [] [c2, tList (rowArgs idents row ++ old)])) ∧
      h = .node "ItemImpl" [] [a, d, u, g,
        tSome (.node "Tuple" [] [tNone, pathNode noLead [.node "PathSegment" [] [tIdent (genIdentStr x idx), na]]]),
        s, items] := by
  unfold helperImpl at hh
  simp only at hh
  cases hp' : implTraitPath member with
  | none => rw [hp'] at hh; cases hh
  | some p =>
    rw [hp'] at hh
    simp only at hh
    obtain ⟨a, d, u, g, b, s, items, rfl⟩ := implTraitPath_inv hp'
    cases hl : lastSegOf p with
    | none => rw [hl] at hh; cases hh
    | some l =>
      rw [hl] at hh
      split at hh
      · next x args heq =>
        cases heq
        split at hh
        · next na hna =>
          cases hh
          refine ⟨a, d, u, g, b, p, s, items, x, args, na, rfl, hl, ?_, rfl⟩
          split at hna
          · cases hna; exact Or.inl ⟨rfl, rfl⟩
          · next c2 old => cases hna; exact Or.inr ⟨c2, old, rfl, rfl⟩
          · cases hna
        · cases hh
      · cases hh

/-! The generator reads a trait path through `implTraitPath`, `lastSegOf` and `segArgList`, the checker through
    `traitPathOf`, `XOK.lastSeg` and `XOK.segArgs`: where the former succeed the latter return the same. -/

theorem traitPathOf_of_implTraitPath {item p : T} (h : implTraitPath item = some p) : traitPathOf item = some p := by
  obtain ⟨a, d, u, g, b, s, items, rfl⟩ := implTraitPath_inv h
  simp [traitPathOf, kid, kids, kind]

theorem xlastSeg_of_lastSegOf {p l : T} (h : lastSegOf p = some l) : XOK.lastSeg p = l := by
  obtain ⟨lc, hpe⟩ := lastSegOf_inv h
  rw [hpe]
  simp [XOK.lastSeg, segsOf, kid, kids, lastOf]

theorem xsegArgs_of_segArgList {l : T} {args : List T} (h : segArgList l = some args) : XOK.segArgs l = args := by
  unfold segArgList at h
  split at h
  · cases h; simp [XOK.segArgs, kid, kids, kind]
  · cases h; simp [XOK.segArgs, kid, kids, kind]
  · cases h

/-- `helperImpl_trait_inv` as the checker reads it: the helper impl's trait is named `_<x><idx>` after the last segment
    `l` of the member's trait path, and its arguments are the printed row followed by the member's own -/
theorem helperImpl_trait_args {idx : Nat} {idents : List (BKey × String)} {row : List (Option T)} {member h : T}
    (hh : helperImpl idx none idents row member = some h) :
    ∃ mp hp l old, implTraitPath member = some mp ∧ traitPathOf h = some hp ∧
      lastSegOf mp = some l ∧ segArgList l = some old ∧
      XOK.segIdent (XOK.lastSeg hp) = genIdentStr (XOK.segIdent l) idx ∧
      XOK.segArgs (XOK.lastSeg hp) = rowArgs idents row ++ old := by
  obtain ⟨a, d, u, g, b, p, s, items, x, args, na, rfl, hl, hna, rfl⟩ := helperImpl_trait_inv hh
  have hhp : XOK.lastSeg (pathNode noLead [.node "PathSegment" [] [tIdent (genIdentStr x idx), na]]) =
      .node "PathSegment" [] [tIdent (genIdentStr x idx), na] := by
    simp [XOK.lastSeg, segsOf, pathNode, tList, kid, kids, lastOf]
  have hid : XOK.segIdent (.node "PathSegment" [] [tIdent (genIdentStr x idx), na]) =
      genIdentStr (XOK.segIdent (.node "PathSegment" [] [.node "Ident" [x] [], args])) idx := by
    simp [XOK.segIdent, kid, kids, atoms, tIdent]
  rcases hna with ⟨rfl, rfl⟩ | ⟨c2, old, rfl, rfl⟩
  · exact ⟨p, _, _, [], rfl, traitPathOf_of_implTraitPath rfl, hl, rfl, by rw [hhp, hid],
      by rw [hhp, List.append_nil]; exact xsegArgs_of_segArgList rfl⟩
  · exact ⟨p, _, _, old, rfl, traitPathOf_of_implTraitPath rfl, hl, rfl, by rw [hhp, hid],
      by rw [hhp]; exact xsegArgs_of_segArgList rfl⟩

/-- a helper impl produced by the generator (trait mode) passes the per-member check -/
theorem checkHelper_helperImpl (idx : Nat) (idents : List (BKey × String)) (row : List (Option T)) (member h : T)
    (θ : Subst) (hh : helperImpl idx none idents row member = some h) (hlen : row.length = idents.length)
    (hp : ∀ kx ∈ idents, pathShaped kx.1.2 = true) (hw : wfixRow θ idents row = true) :
    checkHelper false (keysOf idents) member h row θ = true := by
  obtain ⟨mp, hp', l, old, h1, h2, hl, ha, _, hargs⟩ := helperImpl_trait_args hh
  obtain ⟨a, d, u, g, b, p, s, items, x, args, na, rfl, _, _, rfl⟩ := helperImpl_trait_inv hh
  -- the first `keys.length` arguments of the helper are the row, the rest the member's own
  have hn : (rowArgs idents row).length = (keysOf idents).length := by
    rw [rowArgs_length idents row hlen, keysOf_length]
  simp [checkHelper, h2, traitPathOf_of_implTraitPath h1, hargs, xlastSeg_of_lastSegOf hl, xsegArgs_of_segArgList ha,
    List.take_left' hn, List.drop_left' hn, hn, checkArgs_rowArgs θ idents row hp hw, kid, kids]

/-- `wfixRow` for every member, rows and substitutions taken position by position like `checkHelpers` does -/
def wfixRows (idents : List (BKey × String)) : List T → List (List (Option T)) → List Subst → Bool
  | _ :: ms, rows, thetas => wfixRow (thetas.headD []) idents (rows.headD []) && wfixRows idents ms rows.tail thetas.tail
  | [], _, _ => true

theorem checkHelpers_helperImpls (idx : Nat) (idents : List (BKey × String))
    (hp : ∀ kx ∈ idents, pathShaped kx.1.2 = true) :
    ∀ (ms : List T) (rows : List (List (Option T))) (thetas : List Subst),
      ms.length ≤ rows.length → (∀ r ∈ rows, r.length = idents.length) →
      ((List.zip ms rows).map (fun mr => helperImpl idx none idents mr.2 mr.1)).all Option.isSome = true →
      wfixRows idents ms rows thetas = true →
      (((List.zip ms rows).map (fun mr => helperImpl idx none idents mr.2 mr.1)).filterMap id).length = ms.length ∧
      checkHelpers false (keysOf idents) ms
        (((List.zip ms rows).map (fun mr => helperImpl idx none idents mr.2 mr.1)).filterMap id) rows thetas = true
  | [], rows, thetas, _, _, _, _ => by simp [checkHelpers]
  | m :: ms, [], thetas, hl, _, _, _ => by simp at hl
  | m :: ms, r :: rows, thetas, hl, hr, hall, hw => by
      simp only [List.zip_cons_cons, List.map_cons, List.all_cons, Bool.and_eq_true] at hall
      simp only [wfixRows, List.headD_cons, List.tail_cons, Bool.and_eq_true] at hw
      cases hh : helperImpl idx none idents r m with
      | none => rw [hh] at hall; simp at hall
      | some h =>
        obtain ⟨ih1, ih2⟩ := checkHelpers_helperImpls idx idents hp ms rows thetas.tail (by simpa using hl)
          (fun x hx => hr x (List.mem_cons_of_mem _ hx)) hall.2 hw.2
        simp only [List.zip_cons_cons, List.map_cons, hh, List.filterMap_cons, id, List.length_cons, ih1,
          checkHelpers, List.headD_cons, List.tail_cons, ih2, Bool.and_true, true_and]
        exact checkHelper_helperImpl idx idents r m h _ hh (hr r (by simp)) hp hw.1

/-- everything `mainImplOfTrait` has in hand when it returns a main impl: the first block's trait path, self type and
    generics, the resolved trait (generics and items), the helper reference `_<Trait><idx><…>` built from the last segment
    of the trait path, the final items, and the declared parameters (those the indexer `s` found used: it permutes the
    first block's names, `SameNames`) -/
theorem mainImplOfTrait_inv {trait_ : T} {idx : Nat} {g : T × ABG × List Blk} {m : T}
    (h : mainImplOfTrait trait_ idx g = .ok m) :
    ∃ first rest tp st eg unsafety lt x0 gt wc items tname targs href finals params,
      g.2.2 = first :: rest ∧ implTraitPath first.item = some tp ∧ implSelfTy first.item = some st ∧
      implGenerics first.item = some eg ∧
      resolveMainTrait trait_ tp = some (.node "Generics" [] [lt, x0, gt, wc], items) ∧
      lastSegOf tp = some (.node "PathSegment" [] [.node "Ident" [tname] [], targs]) ∧
      href = helperRef (genIdentStr tname idx) g.2.1.idents (match targs with
        | .node "PathArguments::AngleBracketed" [] [_, .node "List" [] as] => as
        | _ => []) ∧
      genAll (items.map (implItemOfTraitItem (some href))) = .ok finals ∧
      (∃ (s : IxState) (cps : List T),
        SameNames ⟨kindNames eg "GenericParam::Lifetime", kindNames eg "GenericParam::Type",
          kindNames eg "GenericParam::Const", [], [], [], 0⟩ s ∧
        allSome (s.ixCo.map (fun xi => newConstParam eg xi.1)) = some cps ∧
        params = s.ixLt.map (fun xi => newLifetimeParam xi.1) ++ s.ixTy.map (fun xi => newTypeParam xi.1) ++ cps) ∧
      m = .node "ItemImpl" [] [ignAttrs, tNone, unsafety,
        .node "Generics" [] [lt, tList params, gt, mkWhere (wherePreds wc ++ assocBoundPredicates g.2.1 href)],
        tSome (.node "Tuple" [] [tNone, tp]), st, tList finals] := by
  unfold mainImplOfTrait at h
  split at h
  · cases h
  · next first rest hg =>
    simp only at h
    cases hp : implTraitPath first.item with
    | none => rw [hp] at h; cases h
    | some tp =>
      cases hs : implSelfTy first.item with
      | none => rw [hp, hs] at h; cases h
      | some st =>
        cases he : implGenerics first.item with
        | none => rw [hp, hs, he] at h; cases h
        | some eg =>
          rw [hp, hs, he] at h
          split at h
          · have e1 : some tp = some _ := ‹_›
            cases e1
            have e2 : some st = some _ := ‹_›
            cases e2
            have e3 : some eg = some _ := ‹_›
            cases e3
            split at h
            · next lt x gt wc items tname targs hres hlast =>
              split at h
              · next dummies finals hd hf =>
                split at h
                · cases h
                · next cps hc =>
                  cases h
                  exact ⟨first, rest, _, _, _, _, lt, x, gt, wc, items, tname, targs, _, finals, _, hg, hp, hs, he, hres, hlast,
                    rfl, hf, ⟨_, cps, sameNames_rel.trans (ixT_rel sameNames_rel _ _)
                      (ixL_rel sameNames_rel _ (fun t _ => ixT_rel sameNames_rel t) _), hc, rfl⟩, rfl⟩
              · cases h
              · cases h
              · cases h
            · cases h
          · cases h

theorem isLifetimeArg_eq (a : T) : isLifetimeArg a = (kind a == "GenericArgument::Lifetime") := by
  unfold isLifetimeArg kind
  split
  · simp
  · next h =>
    cases a with
    | tparam n => simp
    | eparam n => simp
    | node k as ks =>
      simp only
      cases hk : (k == "GenericArgument::Lifetime") with
      | false => rfl
      | true => exact absurd (by rw [eq_of_beq hk]) (h as ks)

/-- the `Self: helper<…>` reference, read back: its non-lifetime arguments start with the projections of the keys -/
theorem checkSelfArgs_projs : ∀ (idents : List (BKey × String)) (rest : List T),
    (∀ kx ∈ idents, pathShaped kx.1.2 = true) →
    checkSelfArgs (idents.map (fun kx => gaType (projection kx.1.1 kx.1.2 kx.2)) ++ rest) (keysOf idents) = true
  | [], rest, _ => by simp [keysOf, checkSelfArgs]
  | kx :: ks, rest, hp => by
      have hsh : pathSegments kx.1.2 = segsOf kx.1.2 := eq_of_beq (hp kx (by simp))
      simp only [List.map_cons, List.cons_append, keysOf, checkSelfArgs, projectionParts_projection, normSegs_tbTokens,
        hsh, beq_self_eq_true, Bool.and_self, Bool.true_and]
      exact checkSelfArgs_projs ks rest (fun k hk => hp k (List.mem_cons_of_mem _ hk))

theorem helperRef_read (name : String) (idents : List (BKey × String)) (hargs : List T) :
    XOK.segIdent (XOK.lastSeg (helperRef name idents hargs)) = name ∧
    XOK.segArgs (XOK.lastSeg (helperRef name idents hargs)) =
      hargs.filter isLifetimeArg ++ idents.map (fun kx => gaType (projection kx.1.1 kx.1.2 kx.2)) ++
        hargs.filter (fun a => !isLifetimeArg a) := by
  constructor
  · simp [helperRef, XOK.lastSeg, segsOf, pathNode, tList, kid, kids, lastOf, seg, XOK.segIdent, atoms, tIdent]
  · simp [helperRef, XOK.lastSeg, segsOf, pathNode, tList, kid, kids, lastOf, seg, XOK.segArgs, angle, kind]

theorem selfArgs_helperRef (hident : String) (idents : List (BKey × String)) (hargs : List T) :
    (XOK.segArgs (XOK.lastSeg (helperRef hident idents hargs))).filter (fun a => kind a != "GenericArgument::Lifetime") =
      idents.map (fun kx => gaType (projection kx.1.1 kx.1.2 kx.2)) ++ hargs.filter (fun a => !isLifetimeArg a) := by
  have hf : (fun a => kind a != "GenericArgument::Lifetime") = fun a => !isLifetimeArg a := by
    funext a; rw [isLifetimeArg_eq]; rfl
  rw [(helperRef_read hident idents hargs).2, hf, List.append_assoc]
  refine (filter_split (fun a ha => (List.mem_filter.1 ha).2) (fun a ha => ?_)).2
  rcases List.mem_append.1 ha with h | h
  · obtain ⟨kx, _, rfl⟩ := List.mem_map.1 h; rfl
  · simpa using (List.mem_filter.1 h).2

theorem keySegIdent_inv {l : T} {n : String} (h : DI.segIdent l = some n) : XOK.segIdent l = n := by
  unfold DI.segIdent at h
  split at h
  · cases h; simp [XOK.segIdent, kid, kids, atoms]
  · cases h

theorem keySegArgs_good {l : T} (h : cmpArgs (DI.segArgs l) = true) :
    XOK.segArgs l = (match DI.segArgs l with | .angle args => args | _ => []) := by
  cases hs : DI.segArgs l with
  | angle args =>
    obtain ⟨id, c2, rfl⟩ := segArgs_angle_inv hs
    simp [xsegArgs_angleSeg]
  | none =>
    unfold DI.segArgs at hs
    split at hs
    · simp [XOK.segArgs, kid, kids, kind]
    · cases hs
    · cases hs
    · cases hs
  | paren x =>
    obtain ⟨id, as, ks, rfl, _⟩ := segArgs_paren_inv hs
    simp [XOK.segArgs, kid, kids, kind]
  | bad => rw [hs] at h; simp [cmpArgs] at h

/-- the normalised segments of a well-formed path in terms of the components of its key -/
theorem normSegs_of_wf {p : T} (h : wfPath p = true) :
    normSegs (pathSegments p) =
      normSegs (initSegs p) ++ [((lastIdent p).getD "", nonAssoc (lastArgs p))] := by
  obtain ⟨l, hl, hg⟩ := wfPath_last h
  have hrev := rev_of_lastSeg hl
  have hps : pathSegments p = initSegs p ++ [l] := by
    have := List.reverse_eq_cons_iff.1 hrev
    simpa using this
  have hid : ∃ n, DI.segIdent l = some n := by
    unfold wfPath at h
    simp only [Bool.and_eq_true, List.all_eq_true] at h
    have := h.2 l (by rw [hps]; simp)
    cases hs : DI.segIdent l with
    | none => rw [hs] at this; cases this
    | some n => exact ⟨n, rfl⟩
  obtain ⟨n, hn⟩ := hid
  rw [hps, normSegs_append]
  congr 1
  simp only [normSegs, List.map_cons, List.map_nil, keySegIdent_inv hn, filter_nonAssoc, keySegArgs_good hg,
    lastIdent, lastArgs, hl, Option.bind_some, hn, Option.getD_some]
  cases DI.segArgs l <;> rfl

theorem normSegs_of_tbEq {p q : T} (hp : wfPath p = true) (hq : wfPath q = true) (h : tbEq p q = .t) :
    normSegs (pathSegments p) = normSegs (pathSegments q) := by
  rw [tbEq_eq hp hq] at h
  have hk : keyOf' p = keyOf' q := by
    by_cases hk : keyOf' p = keyOf' q
    · exact hk
    · rw [if_neg hk] at h; cases h
  simp only [keyOf', TraitKey.mk.injEq] at hk
  rw [normSegs_of_wf hp, normSegs_of_wf hq, hk.1, hk.2.1, hk.2.2.1]

theorem mem_dedupKeys {l : List T} {b : T} (h : b ∈ l) : b ∈ dedupKeys l := by
  unfold dedupKeys
  have key : ∀ (l acc : List T), (b ∈ acc ∨ b ∈ l) →
      b ∈ l.foldl (fun acc k => if acc.contains k then acc else acc ++ [k]) acc := by
    intro l
    induction l with
    | nil => intro acc h; simpa using h
    | cons k l ih =>
      intro acc h
      rw [List.foldl_cons]
      apply ih
      rcases h with h | h
      · left; split
        · exact h
        · exact List.mem_append.2 (Or.inl h)
      · rcases List.mem_cons.1 h with h | h
        · left; subst h
          split
          · next hc => simpa using hc
          · simp
        · exact Or.inr h
  exact key l [] (Or.inr h)

/-- the distinct trait bounds kept for one bounded type: every listed bound is `TraitBound::eq` to a kept one -/
theorem tbs_fold (L : List (BKey × String)) (hw : ∀ kx ∈ L, wfPath kx.1.2 = true) :
    ∀ kx ∈ L, ∃ t ∈ L.foldl (fun (acc : List T) kx => if acc.any (fun t => tbEq t kx.1.2 == .t) then acc else acc ++ [kx.1.2]) [],
      tbEq t kx.1.2 = .t ∧ wfPath t = true := by
  have key : ∀ (L : List (BKey × String)) (acc : List T), (∀ kx ∈ L, wfPath kx.1.2 = true) → (∀ t ∈ acc, wfPath t = true) →
      (∀ t ∈ L.foldl (fun (acc : List T) kx => if acc.any (fun t => tbEq t kx.1.2 == .t) then acc else acc ++ [kx.1.2]) acc,
        wfPath t = true) ∧
      (∀ t ∈ acc, t ∈ L.foldl (fun (acc : List T) kx => if acc.any (fun t => tbEq t kx.1.2 == .t) then acc else acc ++ [kx.1.2]) acc) ∧
      ∀ kx ∈ L, ∃ t ∈ L.foldl (fun (acc : List T) kx => if acc.any (fun t => tbEq t kx.1.2 == .t) then acc else acc ++ [kx.1.2]) acc,
        tbEq t kx.1.2 = .t := by
    intro L
    induction L with
    | nil => intro acc _ ha; exact ⟨ha, fun t ht => ht, fun kx hkx => by cases hkx⟩
    | cons k L ih =>
      intro acc hL ha
      rw [List.foldl_cons]
      have hacc' : ∀ t ∈ (if acc.any (fun t => tbEq t k.1.2 == .t) then acc else acc ++ [k.1.2]), wfPath t = true := by
        intro t ht
        split at ht
        · exact ha t ht
        · rcases List.mem_append.1 ht with h | h
          · exact ha t h
          · simp only [List.mem_singleton] at h; rw [h]; exact hL k (by simp)
      obtain ⟨i1, i2, i3⟩ := ih _ (fun kx hkx => hL kx (List.mem_cons_of_mem _ hkx)) hacc'
      refine ⟨i1, ?_, ?_⟩
      · intro t ht
        apply i2
        split
        · exact ht
        · exact List.mem_append.2 (Or.inl ht)
      · intro kx hkx
        rcases List.mem_cons.1 hkx with h | h
        · subst h
          by_cases hany : acc.any (fun t => tbEq t kx.1.2 == .t) = true
          · obtain ⟨t, ht, hte⟩ := List.any_eq_true.1 hany
            refine ⟨t, i2 t (by rw [if_pos hany]; exact ht), by simpa using hte⟩
          · refine ⟨kx.1.2, i2 _ (by rw [if_neg hany]; simp), ?_⟩
            have hwk := hL kx (by simp)
            rw [tbEq_eq hwk hwk]; simp
        · exact i3 kx h
  obtain ⟨k1, _, k3⟩ := key L [] hw (fun t ht => by cases ht)
  intro kx hkx
  obtain ⟨t, ht, hte⟩ := k3 kx hkx
  exact ⟨t, ht, hte, k1 t ht⟩

theorem predBounds_whereType (b : T) (bounds : List T) :
    predBounds (whereType b bounds) = some (b, bounds.filterMap (fun x =>
      if kind x != "TypeParamBound::Trait" then none else some (kid (kid x 0) 3))) := rfl

theorem mem_havePairs {preds : List T} {pair : T × List (String × List T)} {p : T} {bp : T × List T} {path : T}
    (hp : p ∈ preds) (hb : predBounds p = some bp) (hs : isSelfTy bp.1 = false) (hpath : path ∈ bp.2)
    (he : pair = (bp.1, normSegs (segsOf path))) : pair ∈ havePairs preds := by
  simp only [havePairs, List.mem_flatMap, List.mem_filterMap]
  refine ⟨bp, ⟨p, hp, hb⟩, ?_⟩
  rw [hs]
  simp only [Bool.false_eq_true, if_false, List.mem_map]
  exact ⟨path, hpath, he.symm⟩

theorem pathShaped_tbTokens {t : T} (h : wfPath t = true) : pathShaped (tbTokens t) = true := by
  apply pathShaped_of_wfPath
  unfold tbTokens
  rw [wfPath_stripBindings]; exact h

/-- every key has its predicate `bounded: trait` among the generated where-predicates -/
theorem have_key (abg : ABG) (href : T) (hw : ∀ kx ∈ abg.idents, wfPath kx.1.2 = true)
    (hs : ∀ kx ∈ abg.idents, isSelfTy kx.1.1 = false) :
    ∀ kx ∈ abg.idents, (kx.1.1, normSegs (segsOf kx.1.2)) ∈ havePairs (assocBoundPredicates abg href) := by
  intro kx hkx
  have hL : kx ∈ abg.idents.filter (fun k => k.1.1 == kx.1.1) := List.mem_filter.2 ⟨hkx, by simp⟩
  obtain ⟨t, ht, hte, hwt⟩ := tbs_fold (abg.idents.filter (fun k => k.1.1 == kx.1.1))
    (fun k hk => hw k (List.mem_filter.1 hk).1) kx hL
  have hb : kx.1.1 ∈ dedupKeys (abg.idents.map (fun k => k.1.1)) := mem_dedupKeys (List.mem_map.2 ⟨kx, hkx, rfl⟩)
  unfold assocBoundPredicates
  simp only
  apply mem_havePairs (p := whereType kx.1.1 _) (path := tbTokens t)
    (List.mem_append.2 (Or.inl (List.mem_map.2 ⟨kx.1.1, hb, rfl⟩))) (predBounds_whereType _ _) (hs kx hkx)
  · simp only [List.filterMap_append, List.mem_append, List.mem_filterMap]
    right
    refine ⟨traitBoundOf (tbTokens t), List.mem_map.2 ⟨t, ht, rfl⟩, ?_⟩
    simp [traitBoundOf, kind, kid, kids]
  · have h1 : normSegs (segsOf (tbTokens t)) = normSegs (pathSegments (tbTokens t)) := by
      rw [eq_of_beq (pathShaped_tbTokens hwt)]
    have h2 : pathSegments kx.1.2 = segsOf kx.1.2 := eq_of_beq (pathShaped_of_wfPath (hw kx hkx))
    rw [h1, normSegs_tbTokens, normSegs_of_tbEq hwt (hw kx hkx) hte, h2]

theorem selfPred_snoc (l : List T) (href : T) :
    selfPred (l ++ [whereType selfTy [traitBoundOf href]]) = some href := by
  unfold selfPred
  rw [List.filterMap_append, List.foldl_append]
  -- the last predicate is `Self: href` whatever came before it
  rfl

theorem havePairs_append_right (l1 l2 : List T) (x : T × List (String × List T)) (h : x ∈ havePairs l2) :
    x ∈ havePairs (l1 ++ l2) := by
  unfold havePairs at h ⊢
  rw [List.filterMap_append, List.flatMap_append]
  exact List.mem_append.2 (Or.inr h)

/-- executable well-formedness of a formed family used by `expandOK_of_expand` -/
def expandWF (g : T × ABG × List Blk) : Bool :=
  !g.2.1.bounds.isEmpty &&
  g.2.1.bounds.all (fun kr => kr.2.length == g.2.2.length) &&
  (match g.2.2 with
   | first :: _ => g.1 == mkHdr first.item
   | [] => false) &&
  g.2.1.idents.all (fun kx => wfPath kx.1.2 && !isSelfTy kx.1.1)

/-- wildcard row entries only where the member's substitution fixes the key's bounded type (what F-D3 violates) -/
def wildcardsFixed (g : T × ABG × List Blk) : Bool :=
  wfixRows g.2.1.idents (g.2.2.map (·.item)) g.2.1.payloads (thetasOf g)

theorem kid_three (k : String) (as : List String) (a b c d : T) (r : List T) :
    kid (.node k as (a :: b :: c :: d :: r)) 3 = d := rfl

theorem wherePredsOf_mkWhere (lt : T) (params : List T) (gt : T) (preds : List T) :
    wherePredsOf (.node "Generics" [] [lt, tList params, gt, mkWhere preds]) = preds := rfl

theorem selfPred_assocBoundPredicates (preds0 : List T) (abg : ABG) (href : T) :
    selfPred (preds0 ++ assocBoundPredicates abg href) = some href := by
  have : assocBoundPredicates abg href = _ ++ [whereType selfTy [traitBoundOf href]] := rfl
  rw [this, ← List.append_assoc]
  exact selfPred_snoc _ _

/-- the where-clause part of `checkMain`, both modes: a main impl whose where clause ends with
    `assocBoundPredicates abg (helperRef …)` bounds every key and `Self: helper<…, projections of the keys, …>` -/
theorem checkMain_where (abg : ABG) (hw : ∀ kx ∈ abg.idents, wfPath kx.1.2 = true)
    (hself : ∀ kx ∈ abg.idents, isSelfTy kx.1.1 = false) (a d u lt : T) (params : List T) (gt : T) (preds0 : List T)
    (hident : String) (hargs : List T) (tr st fin : T) :
    (let preds := wherePredsOf (kid (.node "ItemImpl" [] [a, d, u, .node "Generics" [] [lt, tList params, gt,
        mkWhere (preds0 ++ assocBoundPredicates abg (helperRef hident abg.idents hargs))], tr, st, fin]) 3)
     (keysOf abg.idents).all (fun key => (havePairs preds).contains (key.1, key.2.1)) &&
      (match selfPred preds with
       | none => false
       | some sp => checkSelfArgs ((XOK.segArgs (XOK.lastSeg sp)).filter (fun a => kind a != "GenericArgument::Lifetime"))
           (keysOf abg.idents))) = true := by
  simp only [kid_three, wherePredsOf_mkWhere, selfPred_assocBoundPredicates, Bool.and_eq_true, List.all_eq_true]
  refine ⟨?_, ?_⟩
  · intro key hkey
    obtain ⟨kx, hkx, rfl⟩ := List.mem_map.1 hkey
    exact List.contains_iff_mem.2 (havePairs_append_right _ _ _ (have_key abg _ hw hself kx hkx))
  · rw [selfArgs_helperRef]
    exact checkSelfArgs_projs _ _ (fun kx h => pathShaped_of_wfPath (hw kx h))

theorem checkMain_of_main {trait_ : T} {idx : Nat} {g : T × ABG × List Blk} {m : T}
    (hm : mainImplOfTrait trait_ idx g = .ok m) (hwf : expandWF g = true) :
    checkMain false g.1 (keysOf g.2.1.idents) m = true := by
  obtain ⟨first, rest, tp, st, eg, unsafety, lt, x0, gt, wc, items, tname, targs, href, finals, params, hg, hp, hs, _, _, _, rfl,
    _, _, rfl⟩ := mainImplOfTrait_inv hm
  simp only [expandWF, Bool.and_eq_true, hg, List.all_eq_true, Bool.not_eq_true'] at hwf
  obtain ⟨⟨⟨_, _⟩, hgid⟩, hid⟩ := hwf
  have hgid' : g.1 = .node "ImplGroupId" [] [.node "Some" [] [tp], st] := by
    rw [eq_of_beq hgid]; simp [mkHdr, hp, hs]
  unfold checkMain
  rw [Bool.and_eq_true]
  exact ⟨by simp [traitPathOf, kid, kids, kind, tSome, hgid'],
    checkMain_where g.2.1 (fun kx h => (hid kx h).1) (fun kx h => (hid kx h).2) ..⟩

theorem payloads_row_length (abg : ABG) : ∀ r ∈ abg.payloads, r.length = abg.idents.length := by
  intro r hr
  unfold ABG.payloads at hr
  split at hr
  · cases hr
  · obtain ⟨i, _, rfl⟩ := List.mem_map.1 hr
    simp

theorem payloads_length (abg : ABG) (n : Nat) (hne : abg.bounds.isEmpty = false)
    (hall : ∀ kr ∈ abg.bounds, kr.2.length = n) : abg.payloads.length = n := by
  unfold ABG.payloads
  split
  · next h => rw [h] at hne; simp at hne
  · next first rest h =>
    simp only [List.length_map, List.length_range]
    exact hall first (by rw [h]; simp)

theorem payloads_length_of_wf {g : T × ABG × List Blk} (hwf : expandWF g = true) :
    g.2.1.payloads.length = g.2.2.length := by
  simp only [expandWF, Bool.and_eq_true, List.all_eq_true, Bool.not_eq_true', beq_iff_eq] at hwf
  obtain ⟨⟨⟨hne, hal⟩, _⟩, _⟩ := hwf
  exact payloads_length g.2.1 _ hne (fun kr hkr => hal kr hkr)

/-- `helperImpls` read back, both modes: one call of `helperImpl` per (member, row) pair, all with the same inherent path
    `ip` — none in trait mode, the first block's self type with its generated arguments re-read as a path in inherent mode -/
theorem helperImpls_inv {idx : Nat} {g : T × ABG × List Blk} {hs : List T} (hh : helperImpls idx g = some hs) :
    ∃ ip, (∀ first rest, g.2.2 = first :: rest →
        if (implTraitPath first.item).isNone then
          ∃ s gen st p, implSelfTy first.item = some s ∧ implGenerics first.item = some gen ∧
            inherentSelfTy s gen = some st ∧ typeAsPath st = some p ∧ ip = some p
        else ip = none) ∧
      ((List.zip (g.2.2.map (·.item)) g.2.1.payloads).map
        (fun mr => helperImpl idx ip g.2.1.idents mr.2 mr.1)).all Option.isSome = true ∧
      hs = ((List.zip (g.2.2.map (·.item)) g.2.1.payloads).map
        (fun mr => helperImpl idx ip g.2.1.idents mr.2 mr.1)).filterMap id := by
  unfold helperImpls at hh
  simp only at hh
  split at hh
  · next hnil =>
    cases hh
    refine ⟨none, fun first rest hg => ?_, by rw [hnil]; rfl, by rw [hnil]; rfl⟩
    rw [hg] at hnil
    cases hnil
  · next first0 rest0 hm =>
    split at hh
    · cases hh
    · next ip hip =>
      split at hh
      · next hall =>
        cases hh
        refine ⟨ip, fun first rest hg => ?_, hall, rfl⟩
        rw [hg] at hm
        cases hm
        split
        · next hn =>
          rw [if_pos hn] at hip
          split at hip
          · next s gen hs' hgen =>
            split at hip
            · next st hst =>
              split at hip
              · next p hp => cases hip; exact ⟨s, gen, st, p, hs', hgen, hst, hp, rfl⟩
              · cases hip
            · cases hip
          · cases hip
        · next hn =>
          rw [if_neg hn] at hip
          cases hip
          rfl
      · cases hh

/-- `ExpandOK` holds of the model's expansion (trait mode) -/
theorem expandOK_of_expand (trait_ : T) (idx : Nat) (g : T × ABG × List Blk) (hs : List T) (m : T)
    (hh : helperImpls idx g = some hs) (hm : mainImplOfTrait trait_ idx g = .ok m)
    (hwf : expandWF g = true) (hfix : wildcardsFixed g = true) :
    expandOKB g (thetasOf g) hs m = true := by
  have hmain := checkMain_of_main hm hwf
  obtain ⟨first, rest, tp, st, _, _, _, _, _, _, _, _, _, _, _, _, hg, hp, hsf, _⟩ := mainImplOfTrait_inv hm
  have hwf' := hwf
  simp only [expandWF, Bool.and_eq_true, hg, List.all_eq_true, Bool.not_eq_true', beq_iff_eq] at hwf'
  obtain ⟨⟨_, hgid⟩, hid⟩ := hwf'
  have hgid' : g.1 = .node "ImplGroupId" [] [.node "Some" [] [tp], st] := by
    rw [hgid]; simp [mkHdr, hp, hsf]
  have hinh : (kind (kid g.1 0) == "None") = false := by rw [hgid']; simp [kid, kids, kind]
  have hplen := payloads_length_of_wf hwf
  obtain ⟨ip, hip, hall, rfl⟩ := helperImpls_inv hh
  obtain rfl : ip = none := by simpa [hp] using hip first rest hg
  obtain ⟨hlen, hchk⟩ := checkHelpers_helperImpls idx g.2.1.idents
    (fun kx h => pathShaped_of_wfPath (hid kx h).1) (g.2.2.map fun b : Blk => b.item) g.2.1.payloads (thetasOf g)
    (by rw [hplen]; simp) (payloads_row_length g.2.1) hall hfix
  unfold expandOKB expandOKCore
  simp only [hinh, Bool.and_eq_true, beq_iff_eq]
  exact ⟨⟨hlen, hchk⟩, hmain⟩

end DI

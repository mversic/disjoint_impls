/-
  Acceptance of the documented fragment for arbitrary invocations without nested headers (C03).

  `Lemmas/FlatOrder.lean` characterises the candidate filter on the single candidate of a flat bucket through
  membership (`accB_famSpec_iff`). Here that characterisation is turned into EXECUTABLE, order-free conditions on the
  blocks of a bucket:

  * `separatedB blks` — exact: some column (a key every block bounds, with a binding in some block) exists, and for
    every ordered pair of different blocks `(bi, bj)` the row of `bi` does not generalise the row of `bj` on the
    shared columns (`genPair_fa`); `accOK_eq_separatedB`: `accOK blks = separatedB blks`.
  * `distinguishedB blks` — sufficient, the "documented fragment": every two different blocks bind the same
    associated type under a key every block bounds to payloads of which neither generalises the other
    (`separatedB_of_distinguishedB`).

  Then: acceptance / rejection of `parseGroups` on flat invocations in terms of these conditions
  (`flat_ok_iff_separated_fa`, `flat_rejects_fa`, `flat_rejects_first_fa`, `flat_groups_shape_fa`); an exact positive
  answer of the matcher is a unifier, hence non-unifiable payloads are distinguished (`unifiable_of_sup_fa`,
  `sepCell_of_not_unifiable_fa`, `distinguishedB_of_nonunifiable_fa`), with executable sufficient conditions for
  non-unifiability (`not_unifiable_of_closed_fa`, `clash_fa` / `not_unifiable_of_clash_fa`); the conditions only depend
  on the set of blocks (`distinguishedB_mem_congr_fa`, `separatedB_mem_congr_fa`).
-/
import DisjointImpls.Lemmas.FlatOrder
namespace DI

/-! ### the executable conditions -/

/-- the two blocks bind the associated type `kx.2` under the key `kx.1` to payloads of which neither generalises the
    other (what `is_superset` tests; non-unifiable payloads satisfy it) -/
def sepCell_fa (bi bj : Blk) (kx : BKey × String) : Bool :=
  match cell bi kx, cell bj kx with
  | some p, some q => !supYes p q && !supYes q p
  | _, _ => false

/-- some key of `bi` that every block of the bucket bounds carries an associated type that `bi` and `bj` bind to
    payloads of which neither generalises the other -/
def distPair_fa (blks : List Blk) (bi bj : Blk) : Bool :=
  (otherFold bi).any (fun e => hasKey blks e.1 && e.2.any (fun xp => sepCell_fa bi bj (e.1, xp.1)))

/-- some key that every block of the bucket bounds has a binding in some block (for two or more blocks this follows
    from the pair condition, `hasColumn_of_distPairs_fa`) -/
def hasColumn_fa (blks : List Blk) : Bool :=
  blks.any (fun b => (otherFold b).any (fun e => hasKey blks e.1 && !e.2.isEmpty))

/-- every ordered pair of different blocks satisfies `distPair_fa` -/
def distPairs_fa (blks : List Blk) : Bool :=
  blks.all (fun bi => blks.all (fun bj => bi == bj || distPair_fa blks bi bj))

/-- **the documented fragment, per bucket**: the blocks pairwise differ by bindings of a shared associated type of
    which neither generalises the other, under a key that every block of the bucket bounds (and a lone block has at
    least one binding) -/
def distinguishedB (blks : List Blk) : Bool := hasColumn_fa blks && distPairs_fa blks

/-- the row of `bi` generalises the row of `bj` on all columns the family keeps: under every key of `bi` that every
    block bounds, every associated type bound by `bi` is bound by `bj` to a payload that `bi`'s payload generalises -/
def genPair_fa (blks : List Blk) (bi bj : Blk) : Bool :=
  (otherFold bi).all (fun e => !hasKey blks e.1 || e.2.all (fun xp => genCell (cell bi (e.1, xp.1)) (cell bj (e.1, xp.1))))

/-- **exact, order-free form of the candidate filter on one bucket**: a column exists and no row generalises another -/
def separatedB (blks : List Blk) : Bool :=
  hasColumn_fa blks && blks.all (fun bi => blks.all (fun bj => bi == bj || !genPair_fa blks bi bj))

/-! ### rows and cells -/

/-- the row of a block under one of its own keys is the folded row stored with that key -/
theorem rowD_self_fa {b : Blk} (hb : wfBlk b = true) {e : BKey × Row} (he : e ∈ otherFold b) : rowD b e.1 = e.2 := by
  unfold rowD; rw [rowOf_self hb he]; rfl

/-! ### the columns of the family, seen from any block of the bucket -/

theorem famIdents_any_fa {blks : List Blk} (hw : ∀ b ∈ blks, wfBlk b = true) {l l' : Blk} (hl : l ∈ blks) (hl' : l' ∈ blks) :
    ∀ kx ∈ famIdents blks l, ∃ kx' ∈ famIdents blks l', WfKey kx.1 ∧ WfKey kx'.1 ∧ nk kx.1 = nk kx'.1 ∧ kx.2 = kx'.2 :=
  famIdents_corr (blksCorr_of_perm (List.Perm.refl _) hw) hl hl'

/-- "row `b` generalises row `b'` in every column" does not depend on the block whose spelling of the keys is used -/
theorem genAll_any_fa {blks : List Blk} (hw : ∀ b ∈ blks, wfBlk b = true) {l l' : Blk} (hl : l ∈ blks) (hl' : l' ∈ blks)
    {b b' : Blk} (hb : b ∈ blks) (hb' : b' ∈ blks)
    (h : ∀ kx ∈ famIdents blks l, genCell (cell b kx) (cell b' kx) = true) :
    ∀ kx ∈ famIdents blks l', genCell (cell b kx) (cell b' kx) = true := by
  intro kx hkx
  obtain ⟨kx', hkx', h1, h2, h3, h4⟩ := famIdents_any_fa hw hl' hl kx hkx
  rw [cell_transfer_fa (hw b hb) h1 h2 h3 h4, cell_transfer_fa (hw b' hb') h1 h2 h3 h4]
  exact h kx' hkx'

theorem hasColumn_iff_fa {blks : List Blk} :
    hasColumn_fa blks = true ↔ ∃ b ∈ blks, ∃ e ∈ otherFold b, hasKey blks e.1 = true ∧ e.2 ≠ [] := by
  simp only [hasColumn_fa, List.any_eq_true, Bool.and_eq_true, Bool.not_eq_true', List.isEmpty_eq_false_iff]

/-- a column exists iff the pruned family is not empty -/
theorem famIdents_ne_nil_iff_fa {blks : List Blk} (hw : ∀ b ∈ blks, wfBlk b = true) {l : Blk} (hl : l ∈ blks) :
    famIdents blks l ≠ [] ↔ hasColumn_fa blks = true := by
  rw [hasColumn_iff_fa]
  constructor
  · intro hne
    obtain ⟨kx, hkx⟩ := List.exists_mem_of_ne_nil _ hne
    obtain ⟨⟨e0, he0, hk⟩, hkey, b, hb, hx⟩ := mem_famIdents.1 hkx
    have hwk : WfKey kx.1 := hk ▸ wfBlk_key (hw l hl) he0
    obtain ⟨e, he, _, _, hkey', hrow⟩ := hasKey_own_key_fa hw hwk hkey hb
    refine ⟨b, hb, e, he, hkey', ?_⟩
    rw [hrow]
    intro h0
    rw [h0] at hx
    cases hx
  · rintro ⟨b, hb, e, he, hkey, hne⟩
    obtain ⟨xp, hxp⟩ := List.exists_mem_of_ne_nil _ hne
    have hmem : (e.1, xp.1) ∈ famIdents blks b :=
      mem_famIdents.2 ⟨⟨e, he, rfl⟩, hkey, b, hb, by
        show xp.1 ∈ (rowD b e.1).map (·.1)
        rw [rowD_self_fa (hw b hb) he]; exact List.mem_map.2 ⟨xp, hxp, rfl⟩⟩
    obtain ⟨kx', hkx', _⟩ := famIdents_any_fa hw hb hl _ hmem
    exact List.ne_nil_of_mem hkx'

theorem genPair_iff_fa {blks : List Blk} {bi bj : Blk} :
    genPair_fa blks bi bj = true ↔ ∀ e ∈ otherFold bi, hasKey blks e.1 = true → ∀ xp ∈ e.2,
      genCell (cell bi (e.1, xp.1)) (cell bj (e.1, xp.1)) = true := by
  simp only [genPair_fa, List.all_eq_true, Bool.or_eq_true, Bool.not_eq_true']
  constructor
  · intro h e he hk xp hxp
    rcases h e he with h1 | h1
    · rw [hk] at h1; cases h1
    · exact h1 xp hxp
  · intro h e he
    by_cases hk : hasKey blks e.1 = true
    · exact Or.inr (h e he hk)
    · exact Or.inl (by simpa using hk)

/-- `genPair_fa` is "the row of `bi` generalises the row of `bj` in every column of the family" -/
theorem genAll_iff_genPair_fa {blks : List Blk} (hw : ∀ b ∈ blks, wfBlk b = true) {l : Blk} (hl : l ∈ blks)
    {bi bj : Blk} (hbi : bi ∈ blks) (hbj : bj ∈ blks) :
    (∀ kx ∈ famIdents blks l, genCell (cell bi kx) (cell bj kx) = true) ↔ genPair_fa blks bi bj = true := by
  rw [genPair_iff_fa]
  constructor
  · intro h e he hkey xp hxp
    apply genAll_any_fa hw hl hbi hbi hbj h
    exact mem_famIdents.2 ⟨⟨e, he, rfl⟩, hkey, bi, hbi, by
      show xp.1 ∈ (rowD bi e.1).map (·.1)
      rw [rowD_self_fa (hw bi hbi) he]; exact List.mem_map.2 ⟨xp, hxp, rfl⟩⟩
  · intro h
    apply genAll_any_fa hw hbi hl hbi hbj
    intro kx hkx
    obtain ⟨⟨e0, he0, hk⟩, hkey, _⟩ := mem_famIdents.1 hkx
    cases hc : cell bi kx with
    | none => rfl
    | some p =>
      have hin : kx.2 ∈ (rowD bi kx.1).map (·.1) := (cell_isSome_iff_fa bi kx).1 (by rw [hc]; rfl)
      rw [← hk, rowD_self_fa (hw bi hbi) he0] at hin
      obtain ⟨xp, hxp, hx⟩ := List.mem_map.1 hin
      have := h e0 he0 (by rw [hk]; exact hkey) xp hxp
      have hkx : (e0.1, xp.1) = kx := Prod.ext hk hx
      rw [hkx, hc] at this
      exact this

/-! ### the candidate filter, executable and order-free -/

theorem separatedB_iff_fa {blks : List Blk} :
    separatedB blks = true ↔ hasColumn_fa blks = true ∧
      ¬ ∃ b ∈ blks, ∃ b' ∈ blks, b ≠ b' ∧ genPair_fa blks b b' = true := by
  simp only [separatedB, Bool.and_eq_true, List.all_eq_true, Bool.or_eq_true, beq_iff_eq, Bool.not_eq_true']
  constructor
  · rintro ⟨h1, h2⟩
    refine ⟨h1, ?_⟩
    rintro ⟨b, hb, b', hb', hne, hg⟩
    rcases h2 b hb b' hb' with h | h
    · exact hne h
    · rw [hg] at h; cases h
  · rintro ⟨h1, h2⟩
    refine ⟨h1, fun b hb b' hb' => ?_⟩
    by_cases he : b = b'
    · exact Or.inl he
    · right
      cases hg : genPair_fa blks b b' with
      | false => rfl
      | true => exact absurd ⟨b, hb, b', hb', he, hg⟩ h2

/-- **the candidate filter on a bucket, as an executable order-free condition on its blocks** -/
theorem accOK_eq_separatedB {blks : List Blk} (hne : blks ≠ []) (hw : ∀ b ∈ blks, wfBlk b = true) (hnd : blks.Nodup) :
    accOK blks = separatedB blks := by
  obtain ⟨l, hl, hspec, _⟩ := famBL_spec hne hw
  rw [Bool.eq_iff_iff]
  unfold accOK
  rw [hspec, accB_famSpec_iff hw hl hnd, separatedB_iff_fa, famIdents_ne_nil_iff_fa hw hl]
  constructor
  · rintro ⟨h1, h2⟩
    refine ⟨h1, ?_⟩
    rintro ⟨b, hb, b', hb', hne', hg⟩
    exact h2 ⟨b, hb, b', hb', hne', (genAll_iff_genPair_fa hw hl hb hb').2 hg⟩
  · rintro ⟨h1, h2⟩
    refine ⟨h1, ?_⟩
    rintro ⟨b, hb, b', hb', hne', hg⟩
    exact h2 ⟨b, hb, b', hb', hne', (genAll_iff_genPair_fa hw hl hb hb').1 hg⟩

/-! ### the documented fragment implies the filter -/

theorem genCell_false_of_sepCell_fa {bi bj : Blk} {kx : BKey × String} (h : sepCell_fa bi bj kx = true) :
    genCell (cell bi kx) (cell bj kx) = false ∧ genCell (cell bj kx) (cell bi kx) = false := by
  unfold sepCell_fa at h
  cases h1 : cell bi kx with
  | none => rw [h1] at h; cases h
  | some p =>
    cases h2 : cell bj kx with
    | none => rw [h1, h2] at h; cases h
    | some q =>
      rw [h1, h2] at h
      simp only [Bool.and_eq_true, Bool.not_eq_true'] at h
      unfold supYes at h
      unfold genCell
      exact h

theorem distPair_iff_fa {blks : List Blk} {bi bj : Blk} :
    distPair_fa blks bi bj = true ↔ ∃ e ∈ otherFold bi, hasKey blks e.1 = true ∧ ∃ xp ∈ e.2, sepCell_fa bi bj (e.1, xp.1) = true := by
  simp only [distPair_fa, List.any_eq_true, Bool.and_eq_true]

theorem not_genPair_of_distPair_fa {blks : List Blk} {bi bj : Blk} (h : distPair_fa blks bi bj = true) :
    genPair_fa blks bi bj = false := by
  obtain ⟨e, he, hkey, xp, hxp, hs⟩ := distPair_iff_fa.1 h
  cases hg : genPair_fa blks bi bj with
  | false => rfl
  | true =>
    have := genPair_iff_fa.1 hg e he hkey xp hxp
    rw [(genCell_false_of_sepCell_fa hs).1] at this
    cases this

theorem distPairs_iff_fa {blks : List Blk} :
    distPairs_fa blks = true ↔ ∀ bi ∈ blks, ∀ bj ∈ blks, bi ≠ bj → distPair_fa blks bi bj = true := by
  simp only [distPairs_fa, List.all_eq_true, Bool.or_eq_true, beq_iff_eq]
  constructor
  · intro h bi hbi bj hbj hne
    rcases h bi hbi bj hbj with h1 | h1
    · exact absurd h1 hne
    · exact h1
  · intro h bi hbi bj hbj
    by_cases he : bi = bj
    · exact Or.inl he
    · exact Or.inr (h bi hbi bj hbj he)

/-- the documented fragment passes the candidate filter (no side condition: a boolean implication) -/
theorem separatedB_of_distinguishedB {blks : List Blk} (h : distinguishedB blks = true) : separatedB blks = true := by
  simp only [distinguishedB, Bool.and_eq_true] at h
  rw [separatedB_iff_fa]
  refine ⟨h.1, ?_⟩
  rintro ⟨b, hb, b', hb', hne, hg⟩
  rw [not_genPair_of_distPair_fa (distPairs_iff_fa.1 h.2 b hb b' hb' hne)] at hg
  cases hg

/-- with two different blocks in the bucket the pair condition alone suffices -/
theorem hasColumn_of_distPairs_fa {blks : List Blk} {bi bj : Blk} (hbi : bi ∈ blks) (hbj : bj ∈ blks) (hne : bi ≠ bj)
    (h : distPairs_fa blks = true) : hasColumn_fa blks = true := by
  obtain ⟨e, he, hkey, xp, hxp, _⟩ := distPair_iff_fa.1 (distPairs_iff_fa.1 h bi hbi bj hbj hne)
  exact hasColumn_iff_fa.2 ⟨bi, hbi, e, he, hkey, List.ne_nil_of_mem hxp⟩

/-! ### acceptance and rejection of flat invocations -/

/-- the candidate filter of every bucket of a well-formed invocation, in executable form -/
theorem bucket_accOK_eq_fa (items : List T) (hwf : flatWF0 items = true) :
    ∀ bk ∈ mkBuckets (items.map mkBlk), accOK bk.2 = separatedB bk.2 := by
  intro bk hbk
  obtain ⟨_, hne, hnd, hw, _⟩ := buckets_facts items hwf bk hbk
  exact accOK_eq_separatedB hne hw hnd

/-- acceptance of a flat invocation, exactly: no bucket panics and every bucket is separated -/
theorem flat_ok_iff_separated0_fa (items : List T) (hms : msPairs ((mkBuckets (items.map mkBlk)).map (·.1)) = [])
    (hwf : flatWF0 items = true) :
    (∃ g, parseGroups items = .ok g) ↔
      ∀ bk ∈ mkBuckets (items.map mkBlk), bucketPanics bk = false ∧ separatedB bk.2 = true := by
  rw [parseGroups_flat_ok_iff items hms hwf]
  unfold AllOK
  constructor
  · intro h bk hbk
    rw [← bucket_accOK_eq_fa items hwf bk hbk]; exact h bk hbk
  · intro h bk hbk
    rw [bucket_accOK_eq_fa items hwf bk hbk]; exact h bk hbk

theorem flat_ok_iff_separated_fa (items : List T) (hms : msPairs ((mkBuckets (items.map mkBlk)).map (·.1)) = [])
    (hwf : flatWF items = true) :
    (∃ g, parseGroups items = .ok g) ↔ ∀ bk ∈ mkBuckets (items.map mkBlk), separatedB bk.2 = true := by
  rw [flat_ok_iff_separated0_fa items hms (flatWF0_of_flatWF hwf)]
  constructor
  · exact fun h bk hbk => (h bk hbk).2
  · exact fun h bk hbk => ⟨buckets_no_panic items hwf bk hbk, h bk hbk⟩

theorem groupOf_shape_fa {l : List (T × List Blk)} {g : Groups} (h : Forall2 GroupOf l g) :
    g.map (fun e => (e.1, e.2.2)) = l := by
  induction h with
  | nil => rfl
  | @cons a b _ _ hab _ ih =>
    simp only [List.map_cons, ih]
    congr 1
    exact Prod.ext hab.1 hab.2.1

/-- an accepted flat invocation has one family per bucket, in bucket order: header = bucket id, members = the
    bucket's blocks in bucket order -/
theorem flat_groups_shape_fa {items : List T} {g : Groups} (h : parseGroups items = .ok g)
    (hms : msPairs ((mkBuckets (items.map mkBlk)).map (·.1)) = []) (hwf : flatWF0 items = true) :
    g.map (fun e => (e.1, e.2.2)) = mkBuckets (items.map mkBlk) :=
  groupOf_shape_fa (parseGroups_flat_groups h hms hwf)

/-- a flat invocation with a bucket that is not separated is rejected with "Unable to form impl group", for the
    header of such a bucket -/
theorem flat_rejects_fa (items : List T) (hms : msPairs ((mkBuckets (items.map mkBlk)).map (·.1)) = [])
    (hwf : flatWF items = true) {bk : T × List Blk} (hbk : bk ∈ mkBuckets (items.map mkBlk))
    (hsep : separatedB bk.2 = false) :
    ∃ id, parseGroups items = .unableToForm id ∧
      ∃ bk' ∈ mkBuckets (items.map mkBlk), bk'.1 = id ∧ separatedB bk'.2 = false := by
  have hwf0 := flatWF0_of_flatWF hwf
  have ho := parseGroups_flat_outcome items hms hwf0
  cases hr : parseGroups items with
  | ok g =>
    rw [hr] at ho
    have := (ho.1 bk hbk).2
    rw [bucket_accOK_eq_fa items hwf0 bk hbk, hsep] at this
    cases this
  | unableToForm id =>
    rw [hr] at ho
    obtain ⟨bk', hbk', hid, hno⟩ := ho
    exact ⟨id, rfl, bk', hbk', hid, by rw [← bucket_accOK_eq_fa items hwf0 bk' hbk']; exact hno⟩
  | panic e =>
    rw [hr] at ho
    obtain ⟨bk', hbk', hp⟩ := ho
    rw [buckets_no_panic items hwf bk' hbk'] at hp
    cases hp

/-- two different blocks of a bucket of which one generalises the other on all shared columns: not separated -/
theorem not_separated_of_genPair_fa {blks : List Blk} {bi bj : Blk} (hbi : bi ∈ blks) (hbj : bj ∈ blks) (hne : bi ≠ bj)
    (hg : genPair_fa blks bi bj = true) : separatedB blks = false := by
  cases hs : separatedB blks with
  | false => rfl
  | true => exact absurd ⟨bi, hbi, bj, hbj, hne, hg⟩ (separatedB_iff_fa.1 hs).2

/-! ### non-unifiable payloads are distinguished: a positive answer of the matcher is a unifier -/

theorem inst_nil_fa : ∀ t : T, inst [] t = t := by
  apply T.ind
  · intro n; exact inst_tparam_other (fun t h => by simp [lookup] at h)
  · intro n; exact inst_eparam_other (fun t h => by simp [lookup] at h)
  · intro k as ks ih
    by_cases hs : Special k as ks
    · obtain ⟨n, rfl, rfl, rfl⟩ := hs
      rw [inst_ga_other (fun e h => by simp [lookup] at h), inst_tparam_other (fun t h => by simp [lookup] at h)]
    · rw [inst_node_default [] hs, instL_eq_self (fun t ht => ih t ht)]

/-- the two trees have a common instance (modulo presentation); the parameters of the two sides are instantiated
    separately, as they belong to different `impl` blocks -/
def Unifiable_fa (p q : T) : Prop := ∃ θ₁ θ₂ : Subst, erase (inst θ₁ p) = erase (inst θ₂ q)

theorem Unifiable_fa.symm {p q : T} (h : Unifiable_fa p q) : Unifiable_fa q p := by
  obtain ⟨θ₁, θ₂, e⟩ := h
  exact ⟨θ₂, θ₁, e.symm⟩

/-- an exact positive answer of the matcher is a unifier: `q` is an instance of `p` -/
theorem unifiable_of_sup_fa {p q : T} {σ : Subst} (hp : wf p = true) (hq : wf q = true)
    (hf : ignFaces p (stripTop q) = true) (h : sup p q = .yes σ false) : Unifiable_fa p q := by
  refine ⟨σ, [], ?_⟩
  rw [inst_nil_fa]
  have := (supS_good p (stripTop q) σ hp h).2 (wf_stripTop q hq) hf
  rw [this, erase_stripTop]

/-- the matcher's answer is not one of the deliberately lenient ones (`lossy`) -/
def supExact_fa (p q : T) : Bool :=
  match sup p q with
  | .yes _ true => false
  | _ => true

/-- the executable side conditions under which a positive answer of the matcher in either direction is a unifier -/
def unifPre_fa (p q : T) : Bool :=
  wf p && wf q && ignFaces p (stripTop q) && ignFaces q (stripTop p) && supExact_fa p q && supExact_fa q p

theorem supYes_false_of_not_unifiable_fa {p q : T} (hp : wf p = true) (hq : wf q = true)
    (hf : ignFaces p (stripTop q) = true) (hx : supExact_fa p q = true) (hnu : ¬ Unifiable_fa p q) :
    supYes p q = false := by
  unfold supYes
  unfold supExact_fa at hx
  cases hs : sup p q with
  | no => rfl
  | panic => rfl
  | yes σ l =>
    cases l with
    | true => rw [hs] at hx; cases hx
    | false => exact absurd (unifiable_of_sup_fa hp hq hf hs) hnu

/-- non-unifiable payloads bound to the same associated type under the same key distinguish the two blocks -/
theorem sepCell_of_not_unifiable_fa {bi bj : Blk} {kx : BKey × String} {p q : T} (hi : cell bi kx = some p)
    (hj : cell bj kx = some q) (hpre : unifPre_fa p q = true) (hnu : ¬ Unifiable_fa p q) :
    sepCell_fa bi bj kx = true := by
  simp only [unifPre_fa, Bool.and_eq_true] at hpre
  obtain ⟨⟨⟨⟨⟨hp, hq⟩, hf1⟩, hf2⟩, hx1⟩, hx2⟩ := hpre
  unfold sepCell_fa
  rw [hi, hj]
  simp only [Bool.and_eq_true, Bool.not_eq_true']
  exact ⟨supYes_false_of_not_unifiable_fa hp hq hf1 hx1 hnu,
    supYes_false_of_not_unifiable_fa hq hp hf2 hx2 (fun h => hnu h.symm)⟩

/-! ### the conditions on a whole invocation, and what `distinguishedB` says in plain terms -/

/-- every bucket of the invocation is in the documented fragment -/
def flatDistinguished (items : List T) : Bool := (mkBuckets (items.map mkBlk)).all (fun bk => distinguishedB bk.2)

/-- every bucket of the invocation passes the (order-free form of the) candidate filter -/
def flatSeparated (items : List T) : Bool := (mkBuckets (items.map mkBlk)).all (fun bk => separatedB bk.2)

theorem sepCell_iff_fa {bi bj : Blk} {kx : BKey × String} :
    sepCell_fa bi bj kx = true ↔
      ∃ p q, cell bi kx = some p ∧ cell bj kx = some q ∧ supYes p q = false ∧ supYes q p = false := by
  unfold sepCell_fa
  cases h1 : cell bi kx with
  | none => simp
  | some p =>
    cases h2 : cell bj kx with
    | none => simp
    | some q => simp

/-- what `distinguishedB` says: for every two different blocks `bi`, `bj` of the bucket there are a key `k` of `bi`
    that every block of the bucket bounds and an associated-type identifier `a` such that `bi` binds `a` under `k`
    to `p`, `bj` binds `a` under `k` to `q`, and neither payload generalises the other -/
theorem distinguishedB_spec_fa {blks : List Blk} (hw : ∀ b ∈ blks, wfBlk b = true) :
    distinguishedB blks = true ↔ hasColumn_fa blks = true ∧
      ∀ bi ∈ blks, ∀ bj ∈ blks, bi ≠ bj → ∃ e ∈ otherFold bi, hasKey blks e.1 = true ∧
        ∃ a p q, cell bi (e.1, a) = some p ∧ cell bj (e.1, a) = some q ∧ supYes p q = false ∧ supYes q p = false := by
  simp only [distinguishedB, Bool.and_eq_true, distPairs_iff_fa]
  constructor
  · rintro ⟨h1, h2⟩
    refine ⟨h1, fun bi hbi bj hbj hne => ?_⟩
    obtain ⟨e, he, hkey, xp, _, hs⟩ := distPair_iff_fa.1 (h2 bi hbi bj hbj hne)
    obtain ⟨p, q, hs⟩ := sepCell_iff_fa.1 hs
    exact ⟨e, he, hkey, xp.1, p, q, hs⟩
  · rintro ⟨h1, h2⟩
    refine ⟨h1, fun bi hbi bj hbj hne => ?_⟩
    obtain ⟨e, he, hkey, a, p, q, hp, hq, hs⟩ := h2 bi hbi bj hbj hne
    have hin : a ∈ (rowD bi e.1).map (·.1) := (cell_isSome_iff_fa bi (e.1, a)).1 (by rw [hp]; rfl)
    rw [rowD_self_fa (hw bi hbi) he] at hin
    obtain ⟨xp, hxp, hx⟩ := List.mem_map.1 hin
    refine distPair_iff_fa.2 ⟨e, he, hkey, xp, hxp, sepCell_iff_fa.2 ⟨p, q, ?_, ?_, hs⟩⟩
    · rw [hx]; exact hp
    · rw [hx]; exact hq

/-- a natural but insufficient weakening of `distPair_fa`: the distinguishing key need not be bounded by every block
    of the bucket (`C03_flat_nonshared_key_counterexample`) -/
def distPairAnyKey_fa (bi bj : Blk) : Bool :=
  (otherFold bi).any (fun e => e.2.any (fun xp => sepCell_fa bi bj (e.1, xp.1)))

def distinguishedAnyKeyB_fa (blks : List Blk) : Bool :=
  hasColumn_fa blks && blks.all (fun bi => blks.all (fun bj => bi == bj || distPairAnyKey_fa bi bj))

/-! ### the semantic form: pairwise non-unifiable bindings of a shared associated type -/

theorem not_unifiable_of_closed_fa {p q : T} (hp : closed p = true) (hq : closed q = true) (h : erase p ≠ erase q) :
    ¬ Unifiable_fa p q := by
  rintro ⟨θ₁, θ₂, e⟩
  rw [inst_closed θ₁ p hp, inst_closed θ₂ q hq] at e
  exact h e

/-- the blocks `bi` and `bj` bind one associated type, under a key of `bi` that every block of the bucket bounds, to
    payloads without a common instance (and on which the matcher is exact, `unifPre_fa`) -/
def NonUnifPair_fa (blks : List Blk) (bi bj : Blk) : Prop :=
  ∃ e ∈ otherFold bi, hasKey blks e.1 = true ∧ ∃ a p q, cell bi (e.1, a) = some p ∧ cell bj (e.1, a) = some q ∧
    unifPre_fa p q = true ∧ ¬ Unifiable_fa p q

theorem distinguishedB_of_nonunifiable_fa {blks : List Blk} (hw : ∀ b ∈ blks, wfBlk b = true)
    (hc : hasColumn_fa blks = true) (h : ∀ bi ∈ blks, ∀ bj ∈ blks, bi ≠ bj → NonUnifPair_fa blks bi bj) :
    distinguishedB blks = true := by
  rw [distinguishedB_spec_fa hw]
  refine ⟨hc, fun bi hbi bj hbj hne => ?_⟩
  obtain ⟨e, he, hkey, a, p, q, hp, hq, hpre, hnu⟩ := h bi hbi bj hbj hne
  have hs := sepCell_of_not_unifiable_fa hp hq hpre hnu
  obtain ⟨p', q', hp', hq', hs1, hs2⟩ := sepCell_iff_fa.1 hs
  exact ⟨e, he, hkey, a, p', q', hp', hq', hs1, hs2⟩

/-! ### an executable sufficient condition for non-unifiability: constructor clash -/

/-- the shape on which `inst` deviates from the homomorphic rule (`Special`), as a boolean -/
def specialB_fa (k : String) (as : List String) (ks : List T) : Bool :=
  k == "GenericArgument::Type" && as.isEmpty && (match ks with | [.tparam _] => true | _ => false)

/-- a node whose kind, atoms and number of children survive instantiation and `erase` -/
def rigid_fa (k : String) (as : List String) (ks : List T) : Bool :=
  !isWrapper k && k != "Ign" && !specialB_fa k as ks

mutual
/-- a constructor clash: at some position reached through rigid nodes on both sides, the two trees have rigid nodes
    of different kinds, atoms or numbers of children -/
def clash_fa : T → T → Bool
  | .node k as ks, .node k' as' ks' =>
      rigid_fa k as ks && rigid_fa k' as' ks' && (k != k' || as != as' || clashL_fa ks ks')
  | _, _ => false
def clashL_fa : List T → List T → Bool
  | [], [] => false
  | a :: as, b :: bs => clash_fa a b || clashL_fa as bs
  | _, _ => true
end

theorem not_special_of_specialB_fa {k : String} {as : List String} {ks : List T} (h : specialB_fa k as ks = false) :
    ¬ Special k as ks := by
  rintro ⟨n, rfl, rfl, rfl⟩
  simp [specialB_fa] at h

theorem erase_inst_rigid_fa (θ : Subst) {k : String} {as : List String} {ks : List T} (h : rigid_fa k as ks = true) :
    erase (inst θ (.node k as ks)) = .node k as (eraseL (instL θ ks)) := by
  simp only [rigid_fa, Bool.and_eq_true, Bool.not_eq_true', bne_iff_ne, ne_eq] at h
  obtain ⟨⟨hw, hi⟩, hs⟩ := h
  rw [inst_node_default θ (not_special_of_specialB_fa hs), erase_plain _ _ hw hi]

theorem clash_sound_fa : ∀ (p q : T), clash_fa p q = true → ∀ θ₁ θ₂ : Subst, erase (inst θ₁ p) ≠ erase (inst θ₂ q) := by
  intro p
  induction p using T.ind with
  | tp n => intro q h; simp [clash_fa] at h
  | ep n => intro q h; simp [clash_fa] at h
  | nd k as ks ih =>
    intro q h θ₁ θ₂
    cases q with
    | tparam n => simp [clash_fa] at h
    | eparam n => simp [clash_fa] at h
    | node k' as' ks' =>
      rw [clash_fa] at h
      simp only [Bool.and_eq_true, Bool.or_eq_true, bne_iff_ne, ne_eq] at h
      obtain ⟨⟨hr, hr'⟩, hc⟩ := h
      rw [erase_inst_rigid_fa θ₁ hr, erase_inst_rigid_fa θ₂ hr']
      intro e
      injection e with e1 e2 e3
      rcases hc with (hc | hc) | hc
      · exact hc e1
      · exact hc e2
      · -- a clash among the children
        have key : ∀ (ks ks' : List T), (∀ t ∈ ks, ∀ q, clash_fa t q = true → ∀ θ₁ θ₂ : Subst, erase (inst θ₁ t) ≠ erase (inst θ₂ q)) →
            clashL_fa ks ks' = true → eraseL (instL θ₁ ks) ≠ eraseL (instL θ₂ ks') := by
          intro ks
          induction ks with
          | nil =>
            intro ks' _ hcl
            cases ks' with
            | nil => simp [clashL_fa] at hcl
            | cons b bs => simp [instL, eraseL]
          | cons a as iha =>
            intro ks' ih hcl
            cases ks' with
            | nil => simp [instL, eraseL]
            | cons b bs =>
              rw [clashL_fa] at hcl
              simp only [Bool.or_eq_true] at hcl
              simp only [instL, eraseL]
              intro e
              injection e with e1 e2
              rcases hcl with hcl | hcl
              · exact ih a (by simp) b hcl θ₁ θ₂ e1
              · exact iha bs (fun t ht => ih t (List.mem_cons_of_mem _ ht)) hcl e2
        exact key ks ks' ih hc e3

/-- an executable sufficient condition for "no common instance": a constructor clash -/
theorem not_unifiable_of_clash_fa {p q : T} (h : clash_fa p q = true) : ¬ Unifiable_fa p q := by
  rintro ⟨θ₁, θ₂, e⟩
  exact clash_sound_fa p q h θ₁ θ₂ e

/-! ### the conditions do not depend on the order of the blocks -/

theorem hasKey_mem_congr_fa {blks blks' : List Blk} (hm : ∀ x, x ∈ blks ↔ x ∈ blks') (k : BKey) :
    hasKey blks k = hasKey blks' k := by
  rw [Bool.eq_iff_iff, hasKey_iff, hasKey_iff]
  exact ⟨fun h b hb => h b ((hm b).2 hb), fun h b hb => h b ((hm b).1 hb)⟩

theorem hasColumn_mem_congr_fa {blks blks' : List Blk} (hm : ∀ x, x ∈ blks ↔ x ∈ blks') :
    hasColumn_fa blks = hasColumn_fa blks' := by
  rw [Bool.eq_iff_iff, hasColumn_iff_fa, hasColumn_iff_fa]
  constructor
  · rintro ⟨b, hb, e, he, hk, hne⟩
    exact ⟨b, (hm b).1 hb, e, he, by rw [← hasKey_mem_congr_fa hm]; exact hk, hne⟩
  · rintro ⟨b, hb, e, he, hk, hne⟩
    exact ⟨b, (hm b).2 hb, e, he, by rw [hasKey_mem_congr_fa hm]; exact hk, hne⟩

theorem distPair_mem_congr_fa {blks blks' : List Blk} (hm : ∀ x, x ∈ blks ↔ x ∈ blks') (bi bj : Blk) :
    distPair_fa blks bi bj = distPair_fa blks' bi bj := by
  unfold distPair_fa
  congr 1
  funext e
  rw [hasKey_mem_congr_fa hm]

theorem genPair_mem_congr_fa {blks blks' : List Blk} (hm : ∀ x, x ∈ blks ↔ x ∈ blks') (bi bj : Blk) :
    genPair_fa blks bi bj = genPair_fa blks' bi bj := by
  unfold genPair_fa
  congr 1
  funext e
  rw [hasKey_mem_congr_fa hm]

/-- `distinguishedB` only depends on the SET of blocks of the bucket -/
theorem distinguishedB_mem_congr_fa {blks blks' : List Blk} (hm : ∀ x, x ∈ blks ↔ x ∈ blks') :
    distinguishedB blks = distinguishedB blks' := by
  unfold distinguishedB
  rw [hasColumn_mem_congr_fa hm]
  congr 1
  rw [Bool.eq_iff_iff, distPairs_iff_fa, distPairs_iff_fa]
  constructor
  · intro h bi hbi bj hbj hne
    rw [← distPair_mem_congr_fa hm]; exact h bi ((hm bi).2 hbi) bj ((hm bj).2 hbj) hne
  · intro h bi hbi bj hbj hne
    rw [distPair_mem_congr_fa hm]; exact h bi ((hm bi).1 hbi) bj ((hm bj).1 hbj) hne

/-- `separatedB` only depends on the SET of blocks of the bucket -/
theorem separatedB_mem_congr_fa {blks blks' : List Blk} (hm : ∀ x, x ∈ blks ↔ x ∈ blks') :
    separatedB blks = separatedB blks' := by
  rw [Bool.eq_iff_iff, separatedB_iff_fa, separatedB_iff_fa, hasColumn_mem_congr_fa hm]
  constructor
  · rintro ⟨h1, h2⟩
    refine ⟨h1, ?_⟩
    rintro ⟨b, hb, b', hb', hne, hg⟩
    exact h2 ⟨b, (hm b).2 hb, b', (hm b').2 hb', hne, by rw [genPair_mem_congr_fa hm]; exact hg⟩
  · rintro ⟨h1, h2⟩
    refine ⟨h1, ?_⟩
    rintro ⟨b, hb, b', hb', hne, hg⟩
    exact h2 ⟨b, (hm b).1 hb, b', (hm b').1 hb', hne, by rw [← genPair_mem_congr_fa hm]; exact hg⟩

/-- "every bucket is in the documented fragment" carries over to any permutation of the blocks -/
theorem flatDistinguished_perm_fa {items items' : List T} (hp : items.Perm items')
    (h : flatDistinguished items = true) : flatDistinguished items' = true := by
  simp only [flatDistinguished, List.all_eq_true] at h ⊢
  intro bk' hbk'
  have hpb : (items.map mkBlk).Perm (items'.map mkBlk) := hp.map _
  obtain ⟨hids, hblks⟩ := mkBuckets_perm' hpb (itemDet_mkBlk items)
  have : bk'.1 ∈ (mkBuckets (items.map mkBlk)).map (·.1) := hids.mem_iff.2 (List.mem_map.2 ⟨bk', hbk', rfl⟩)
  obtain ⟨bk, hbk, hid⟩ := List.mem_map.1 this
  have hperm : bk.2.Perm bk'.2 := hblks bk.1 bk.2 bk'.2 hbk (by rw [hid]; exact hbk')
  rw [← distinguishedB_mem_congr_fa (fun _ => hperm.mem_iff)]
  exact h bk hbk

/-! ### which header is reported -/

/-- the loop stops at the first bucket that fails the candidate filter and reports its header -/
theorem goFlat_first_unable_fa (pre post : List (T × List Blk)) (bk : T × List Blk) (acc : Groups)
    (hall : ∀ b ∈ pre ++ bk :: post, selfWeak b.1 = true ∧ b.2 ≠ [])
    (hpre : ∀ b ∈ pre, bucketPanics b = false ∧ accOK b.2 = true)
    (hp : bucketPanics bk = false) (hno : accOK bk.2 = false) :
    goFlat (pre ++ bk :: post) acc = .unableToForm bk.1 := by
  have hfind : (pre ++ bk :: post).find? bucketBad_pl = some bk := by
    rw [List.find?_append, List.find?_eq_none.2 (fun b hb => by simp [bucketBad_pl, hpre b hb]), Option.none_or,
      List.find?_cons_of_pos (by simp [bucketBad_pl, hno])]
  rw [goFlat_eq_pl _ _ hall, flatResult_pl, hfind]
  simp [hp]

/-- a flat invocation is rejected with the header of the FIRST bucket that is not separated -/
theorem flat_rejects_first_fa (items : List T) (hms : msPairs ((mkBuckets (items.map mkBlk)).map (·.1)) = [])
    (hwf : flatWF items = true) (pre post : List (T × List Blk)) (bk : T × List Blk)
    (hsplit : mkBuckets (items.map mkBlk) = pre ++ bk :: post)
    (hpre : ∀ b ∈ pre, separatedB b.2 = true) (hbk : separatedB bk.2 = false) :
    parseGroups items = .unableToForm bk.1 := by
  have hwf0 := flatWF0_of_flatWF hwf
  have hmem : ∀ b ∈ pre ++ bk :: post, b ∈ mkBuckets (items.map mkBlk) := fun b hb => by rw [hsplit]; exact hb
  rw [parseGroups_flat items (no_subsets_of_msPairs_nil hms), hsplit]
  apply goFlat_first_unable_fa
  · intro b hb
    obtain ⟨h1, h2, _⟩ := buckets_facts items hwf0 b (hmem b hb)
    exact ⟨h1, h2⟩
  · intro b hb
    have hb' := hmem b (List.mem_append.2 (Or.inl hb))
    exact ⟨buckets_no_panic items hwf b hb', by rw [bucket_accOK_eq_fa items hwf0 b hb']; exact hpre b hb⟩
  · exact buckets_no_panic items hwf bk (hmem bk (by simp))
  · rw [bucket_accOK_eq_fa items hwf0 bk (hmem bk (by simp))]; exact hbk

end DI

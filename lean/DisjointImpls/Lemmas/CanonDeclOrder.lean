/-
  Declaration-order invariance of parameter canonicalisation (C13 / C06): permuting the generic parameter list of
  `impl<…>` changes neither the numbering the indexer computes nor anything of the canonical item except the order
  of the (renamed) declarations. Statements: `Props/C13.lean` (`C13_declOrder_*`).

  The indexer states of the two runs differ only in the order of the names still waiting (`PermS`); every primitive
  step respects that, `paramNode` finds the same declaration when the declared type / const names are distinct, and
  the bounds of the indexed parameters are visited in index order.
-/
import DisjointImpls.CanonAlphaDefs
import DisjointImpls.Lemmas.CanonIdem
namespace DI

/-! ### States that differ in the order of the waiting names only -/

/-- same indexed names and indices; the names still waiting are a rearrangement -/
def PermS (s s' : IxState) : Prop :=
  s.unLt.Perm s'.unLt ∧ s.unTy.Perm s'.unTy ∧ s.unCo.Perm s'.unCo ∧
  s.ixLt = s'.ixLt ∧ s.ixTy = s'.ixTy ∧ s.ixCo = s'.ixCo ∧ s.next = s'.next

theorem PermS.refl (s : IxState) : PermS s s :=
  ⟨List.Perm.refl _, List.Perm.refl _, List.Perm.refl _, rfl, rfl, rfl, rfl⟩

theorem PermS.renaming {s s' : IxState} (h : PermS s s') : s.renaming = s'.renaming := by
  obtain ⟨_, _, _, h4, h5, h6, _⟩ := h
  unfold IxState.renaming
  rw [h4, h5, h6]

theorem PermS.unindexed {s s' : IxState} (h : PermS s s') : s.unindexed = s'.unindexed := by
  obtain ⟨h1, h2, h3, _⟩ := h
  unfold IxState.unindexed
  rw [h1.length_eq, h2.length_eq, h3.length_eq]

theorem permS_iff {s s' : IxState} :
    PermS s s' ↔ (∀ k, (s.un k).Perm (s'.un k)) ∧ (∀ k, s.ix k = s'.ix k) ∧ s.next = s'.next :=
  ⟨fun ⟨h1, h2, h3, h4, h5, h6, h7⟩ => ⟨fun k => by cases k <;> assumption, fun k => by cases k <;> assumption, h7⟩,
   fun ⟨hu, hi, hn⟩ => ⟨hu .lt, hu .ty, hu .co, hi .lt, hi .ty, hi .co, hn⟩⟩

/-- a primitive step hits in both states or in neither -/
theorem PermS.step {s s' : IxState} (h : PermS s s') (k : PK) (x : String) : PermS (stepK k s x) (stepK k s' x) := by
  obtain ⟨hu, hi, hn⟩ := permS_iff.1 h
  by_cases m : x ∈ s.un k
  · obtain ⟨u, i, n⟩ := stepK_hit m
    obtain ⟨u', i', n'⟩ := stepK_hit ((hu k).mem_iff.1 m)
    refine permS_iff.2 ⟨fun k' => ?_, fun k' => ?_, by rw [n, n', hn]⟩
    · rw [u, u']
      split
      · exact (hu k).erase x
      · exact hu k'
    · rw [i, i', hi k, hi k', hn]
  · rw [stepK_miss m, stepK_miss (mt (hu k).mem_iff.2 m)]
    exact h

theorem PermS.ex {s s' : IxState} (h : PermS s s') (x : String) : PermS (exIdent s x) (exIdent s' x) := by
  by_cases m : x ∈ s.unTy
  · rw [exIdent_of_mem m, exIdent_of_mem (h.2.1.mem_iff.1 m)]
    exact h.step .ty x
  · rw [exIdent_of_not_mem m, exIdent_of_not_mem (mt h.2.1.mem_iff.2 m)]
    exact h.step .co x

theorem PermS.ixL_of : ∀ (ks : List T), (∀ t ∈ ks, ∀ s s', PermS s s' → PermS (ixT s t) (ixT s' t)) →
    ∀ s s', PermS s s' → PermS (ixL s ks) (ixL s' ks)
  | [], _, s, s', h => by rw [ixL_nil, ixL_nil]; exact h
  | t :: ts, ih, s, s', h => by
      rw [ixL_cons, ixL_cons]
      exact PermS.ixL_of ts (fun t' ht' => ih t' (List.mem_cons_of_mem _ ht')) _ _ (ih t (by simp) s s' h)

/-- indexing one tree from two such states gives two such states -/
theorem PermS.ixT (t : T) : ∀ (s s' : IxState), PermS s s' → PermS (ixT s t) (ixT s' t) := by
  induction t using T.shapeInd with
  | tparam n => intro s s' h; rw [ixT_tparam, ixT_tparam]; exact h.step .ty n
  | eparam n => intro s s' h; rw [ixT_eparam, ixT_eparam]; exact h.ex n
  | ign as ks => intro s s' h; rw [ixT_ign, ixT_ign]; exact h
  | eq as ks => intro s s' h; rw [ixT_eq, ixT_eq]; exact h
  | lifetime as x => intro s s' h; rw [ixT_lifetime, ixT_lifetime]; exact h.step .lt x
  | typePath as q p ihq ihp =>
    intro s s' h
    rw [ixT_typePath, ixT_typePath]
    apply ihp
    cases firstSegIdent p with
    | none => exact ihq s s' h
    | some x => exact (ihq s s' h).step .ty x
  | exprPath as a q p _ ihq ihp =>
    intro s s' h
    rw [ixT_exprPath, ixT_exprPath]
    apply ihp
    cases firstSegIdent p with
    | none => exact ihq s s' h
    | some x => exact (ihq s s' h).ex x
  | other k as ks hh ih =>
    intro s s' h
    by_cases hg : k = "Generics"
    · subst hg; rw [ixT_generics, ixT_generics]; exact h
    · rw [ixT_of_other _ as hh hg, ixT_of_other _ as hh hg]
      exact PermS.ixL_of ks ih s s' h

theorem PermS.ixL (ks : List T) (s s' : IxState) (h : PermS s s') : PermS (ixL s ks) (ixL s' ks) :=
  PermS.ixL_of ks (fun t _ => PermS.ixT t) s s' h

theorem PermS.rstep {s s' : IxState} (h : PermS s s') (ip : Nat × T) : PermS (rstep s ip) (rstep s' ip) := by
  unfold DI.rstep
  split
  · split
    · exact PermS.ixL _ _ _ h
    · exact h
  · exact h

theorem PermS.foldl_rstep : ∀ (l : List (Nat × T)) (s s' : IxState), PermS s s' →
    PermS (l.foldl DI.rstep s) (l.foldl DI.rstep s')
  | [], _, _, h => h
  | ip :: l, s, s', h => by
      rw [List.foldl_cons, List.foldl_cons]
      exact PermS.foldl_rstep l _ _ (h.rstep ip)

/-! ### `paramNode` does not depend on the declaration order -/

/-- the name under which `paramNode` finds a declaration -/
def declSel (p : T) : Option String := if ltGuard p then paramIdent p else none

theorem filter_declSel_le_one (x : String) : ∀ (ps : List T), (ps.filterMap declSel).Nodup →
    (ps.filter (fun p => ltGuard p && paramIdent p == some x)).length ≤ 1
  | [], _ => by simp
  | p :: ps, hn => by
      rw [List.filter_cons]
      split
      · next hp =>
        simp only [Bool.and_eq_true, beq_iff_eq] at hp
        have hs : declSel p = some x := by unfold declSel; rw [if_pos hp.1, hp.2]
        rw [List.filterMap_cons, hs, List.nodup_cons] at hn
        have : ps.filter (fun p => ltGuard p && paramIdent p == some x) = [] := by
          rw [List.filter_eq_nil_iff]
          intro p' hp' hf
          simp only [Bool.and_eq_true, beq_iff_eq] at hf
          apply hn.1
          rw [List.mem_filterMap]
          exact ⟨p', hp', by unfold declSel; rw [if_pos hf.1, hf.2]⟩
        rw [this]
        simp
      · have hn' : (ps.filterMap declSel).Nodup := by
          rw [List.filterMap_cons] at hn
          split at hn
          · exact hn
          · exact (List.nodup_cons.1 hn).2
        exact filter_declSel_le_one x ps hn'

/-- the declared type and const names, in declaration order, are a rearrangement of the type names followed by the
    const names -/
theorem declSel_perm : ∀ (ps : List T),
    (ps.filterMap declSel).Perm
      (ps.filterMap (kindSel "GenericParam::Type") ++ ps.filterMap (kindSel "GenericParam::Const"))
  | [] => List.Perm.refl _
  | p :: ps => by
      have ih := declSel_perm ps
      cases hp : paramIdent p with
      | none =>
        have e1 : declSel p = none := by unfold declSel; rw [hp]; split <;> rfl
        have e2 : ∀ kind, kindSel kind p = none := by
          intro kind; unfold kindSel; split
          · rw [hp]; split <;> rfl
          · rfl
        rw [List.filterMap_cons, List.filterMap_cons, List.filterMap_cons, e1, e2, e2]
        exact ih
      | some y0 =>
        obtain ⟨k, y, sh⟩ := isDecl_of_paramIdent (p := p) (by rw [hp]; rfl)
        have e1 : declSel p = if k.ns then none else some y := by
          unfold declSel; rw [sh.guard, sh.ident]; cases k.ns <;> rfl
        have e2 := sh.sel .ty
        have e3 := sh.sel .co
        simp only [kindStr] at e2 e3
        rw [List.filterMap_cons, List.filterMap_cons, List.filterMap_cons, e1, e2, e3]
        cases k with
        | lt => exact ih
        | ty => exact List.Perm.cons y ih
        | co =>
          simp only [PK.ns, Bool.false_eq_true, if_false, reduceCtorEq]
          exact (List.Perm.cons y ih).trans List.perm_middle.symm

theorem paramNode_perm (lt0 : T) (ps ps' : List T) (gt0 wc : T) (hp : ps'.Perm ps)
    (hn : (kindNames (.node "Generics" [] [lt0, .node "List" [] ps, gt0, wc]) "GenericParam::Type" ++
           kindNames (.node "Generics" [] [lt0, .node "List" [] ps, gt0, wc]) "GenericParam::Const").Nodup)
    (x : String) :
    paramNode (.node "Generics" [] [lt0, .node "List" [] ps', gt0, wc]) x =
      paramNode (.node "Generics" [] [lt0, .node "List" [] ps, gt0, wc]) x := by
  rw [paramNode_eq, paramNode_eq]
  show ps'.find? _ = ps.find? _
  symm
  apply find?_perm_unique hp.symm
  apply filter_declSel_le_one x ps
  exact (declSel_perm ps).nodup_iff.2 hn

/-! ### One round, the loop, the whole indexing -/

section Order
variable (lt0 : T) (ps ps' : List T) (gt0 wc : T) (hp : ps'.Perm ps)
  (hn : (kindNames (.node "Generics" [] [lt0, .node "List" [] ps, gt0, wc]) "GenericParam::Type" ++
         kindNames (.node "Generics" [] [lt0, .node "List" [] ps, gt0, wc]) "GenericParam::Const").Nodup)

include hp hn in
theorem roundNodes_perm {s s' : IxState} (h : PermS s s') :
    roundNodes s (.node "Generics" [] [lt0, .node "List" [] ps', gt0, wc]) =
      roundNodes s' (.node "Generics" [] [lt0, .node "List" [] ps, gt0, wc]) := by
  obtain ⟨_, _, _, _, h5, h6, _⟩ := h
  unfold roundNodes
  rw [h5, h6]
  congr 1
  apply filterMap_congr'
  rintro ⟨x, i⟩ _
  show (paramNode _ x).map _ = (paramNode _ x).map _
  rw [paramNode_perm lt0 ps ps' gt0 wc hp hn x]

include hp hn in
theorem ixRound_perm {s s' : IxState} (h : PermS s s') :
    PermS (ixRound s (.node "Generics" [] [lt0, .node "List" [] ps', gt0, wc]))
      (ixRound s' (.node "Generics" [] [lt0, .node "List" [] ps, gt0, wc])) := by
  rw [ixRound_eq, ixRound_eq, roundNodes_perm lt0 ps ps' gt0 wc hp hn h]
  have hf := PermS.foldl_rstep (roundNodes s' (.node "Generics" [] [lt0, .node "List" [] ps, gt0, wc])) s s' h
  cases wcOf wc with
  | none => exact hf
  | some w => exact PermS.ixT w _ _ hf

include hp hn in
theorem ixLoop_perm : ∀ (fuel prev : Nat) (s s' : IxState), PermS s s' →
    PermS (ixLoop fuel prev s (.node "Generics" [] [lt0, .node "List" [] ps', gt0, wc]))
      (ixLoop fuel prev s' (.node "Generics" [] [lt0, .node "List" [] ps, gt0, wc]))
  | 0, _, s, s', h => by rw [ixLoop, ixLoop]; exact h
  | fuel + 1, prev, s, s', h => by
      rw [ixLoop, ixLoop, h.unindexed]
      split
      · exact ixLoop_perm fuel _ _ _ (ixRound_perm lt0 ps ps' gt0 wc hp hn h)
      · exact h

end Order

theorem kindNames_perm (lt0 : T) (ps ps' : List T) (gt0 wc : T) (hp : ps'.Perm ps) (kind : String) :
    (kindNames (.node "Generics" [] [lt0, .node "List" [] ps', gt0, wc]) kind).Perm
      (kindNames (.node "Generics" [] [lt0, .node "List" [] ps, gt0, wc]) kind) := by
  rw [kindNames_eq, kindNames_eq]
  exact hp.filterMap _

/-- **the indexer does not depend on the declaration order**: the two final states differ in the order of the
    parameters that were never reached only -/
theorem indexImpl_perm (a d u lt0 : T) (ps ps' : List T) (gt0 wc tr sf items : T) (hp : ps'.Perm ps)
    (hn : (kindNames (.node "Generics" [] [lt0, .node "List" [] ps, gt0, wc]) "GenericParam::Type" ++
           kindNames (.node "Generics" [] [lt0, .node "List" [] ps, gt0, wc]) "GenericParam::Const").Nodup) :
    PermS (indexImpl (.node "ItemImpl" [] [a, d, u, .node "Generics" [] [lt0, .node "List" [] ps', gt0, wc], tr, sf, items]))
      (indexImpl (.node "ItemImpl" [] [a, d, u, .node "Generics" [] [lt0, .node "List" [] ps, gt0, wc], tr, sf, items])) := by
  have h0 : PermS
      (ixInit (.node "ItemImpl" [] [a, d, u, .node "Generics" [] [lt0, .node "List" [] ps', gt0, wc], tr, sf, items]))
      (ixInit (.node "ItemImpl" [] [a, d, u, .node "Generics" [] [lt0, .node "List" [] ps, gt0, wc], tr, sf, items])) :=
    ⟨kindNames_perm lt0 ps ps' gt0 wc hp _, kindNames_perm lt0 ps ps' gt0 wc hp _,
     kindNames_perm lt0 ps ps' gt0 wc hp _, rfl, rfl, rfl, rfl⟩
  rw [indexImpl_eq, indexImpl_eq]
  simp only [implGenerics, Option.getD_some]
  rw [ixT_item _ a d u _ tr sf items ⟨_, _, rfl⟩, ixT_item _ a d u _ tr sf items ⟨_, _, rfl⟩]
  have h1 := PermS.ixT items _ _ (PermS.ixT sf _ _ (PermS.ixT tr _ _ (PermS.ixT u _ _ (PermS.ixT d _ _ (PermS.ixT a _ _ h0)))))
  rw [h1.unindexed]
  exact ixLoop_perm lt0 ps ps' gt0 wc hp hn _ _ _ _ h1

/-! ### The canonical item -/

theorem declOrder_permS (item : T) (ps' : List T) (hdecl : implDeclsOK item = true)
    (hd : namesDistinct (canonCtx item) = true) (hp : ps'.Perm (implParams item)) :
    PermS (indexImpl (setParams ps' item)) (indexImpl item) := by
  obtain ⟨a, d, u, lt0, ps, gt0, wc, tr, sf, items, rfl, _⟩ := implDeclsOK_inv hdecl
  exact indexImpl_perm a d u lt0 ps ps' gt0 wc tr sf items hp (namesDistinct_tyco hd)

theorem declOrder_canon (item : T) (ps' : List T) (hdecl : implDeclsOK item = true)
    (hd : namesDistinct (canonCtx item) = true) (hp : ps'.Perm (implParams item)) :
    canon (setParams ps' item) = setParams (ps'.map (declF (indexImpl item).renaming)) (canon item) ∧
    implParams (canon item) = (implParams item).map (declF (indexImpl item).renaming) := by
  have hr := (declOrder_permS item ps' hdecl hd hp).renaming
  obtain ⟨a, d, u, lt0, ps, gt0, wc, tr, sf, items, rfl, _⟩ := implDeclsOK_inv hdecl
  have e1 : setParams ps' (.node "ItemImpl" [] [a, d, u, .node "Generics" [] [lt0, .node "List" [] ps, gt0, wc], tr, sf, items]) =
      .node "ItemImpl" [] [a, d, u, .node "Generics" [] [lt0, .node "List" [] ps', gt0, wc], tr, sf, items] := rfl
  rw [e1] at hr ⊢
  rw [canon_shape a d u lt0 ps' gt0 wc tr sf items _ rfl, canon_shape a d u lt0 ps gt0 wc tr sf items _ rfl, hr]
  exact ⟨rfl, rfl⟩

/-- the header of an impl is read off its trait and self type only -/
theorem mkHdr_congr (a d u g items a' d' u' g' items' tr sf : T) :
    mkHdr (.node "ItemImpl" [] [a, d, u, g, tr, sf, items]) = mkHdr (.node "ItemImpl" [] [a', d', u', g', tr, sf, items']) := by
  have e : implTraitPath (.node "ItemImpl" [] [a, d, u, g, tr, sf, items]) =
      implTraitPath (.node "ItemImpl" [] [a', d', u', g', tr, sf, items']) := by
    unfold implTraitPath
    split
    · next heq => cases heq; rfl
    · next hne =>
      split
      · next heq => cases heq; exact absurd rfl (hne _ _ _ _ _ _ _ _)
      · rfl
  unfold mkHdr
  rw [e]
  rfl

theorem mkHdr_setParams (ps' : List T) (item : T) : mkHdr (setParams ps' item) = mkHdr item := by
  unfold setParams
  split
  · exact mkHdr_congr _ _ _ _ _ _ _ _ _ _ _ _
  · rfl

theorem implTrait_setParams (ps' : List T) (item : T) : implTrait (setParams ps' item) = implTrait item := by
  unfold setParams; split <;> rfl
theorem implSelfTy_setParams (ps' : List T) (item : T) : implSelfTy (setParams ps' item) = implSelfTy item := by
  unfold setParams; split <;> rfl
theorem implItems_generics (a d u g g' tr sf items : T) :
    implItems (.node "ItemImpl" [] [a, d, u, g, tr, sf, items]) =
      implItems (.node "ItemImpl" [] [a, d, u, g', tr, sf, items]) := by
  unfold implItems
  split
  · next heq => cases heq; rfl
  · next hne =>
    split
    · next heq => cases heq; exact absurd rfl (hne _ _ _ _ _ _ _)
    · rfl

theorem implItems_setParams (ps' : List T) (item : T) : implItems (setParams ps' item) = implItems item := by
  unfold setParams
  split
  · next a d u lt0 ps gt0 wc tr sf items => exact implItems_generics a d u _ _ tr sf items
  · rfl

theorem genericsWhere_params (lt0 l l' gt0 wc : T) :
    genericsWhere (.node "Generics" [] [lt0, l, gt0, wc]) = genericsWhere (.node "Generics" [] [lt0, l', gt0, wc]) := by
  unfold genericsWhere
  split
  · next heq => cases heq; rfl
  · next hne =>
    split
    · next heq => cases heq; exact absurd rfl (hne _ _ _ _)
    · rfl

theorem genericsWhere_setParams (ps' : List T) (item : T) :
    genericsWhere ((implGenerics (setParams ps' item)).getD (.node "?" [] [])) =
      genericsWhere ((implGenerics item).getD (.node "?" [] [])) := by
  unfold setParams
  split
  · next a d u lt0 ps gt0 wc tr sf items =>
    simp only [implGenerics, Option.getD_some]
    exact genericsWhere_params _ _ _ _ _
  · rfl

end DI

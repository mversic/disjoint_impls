/-
  Acyclicity of the header relation recorded by `make_sets` (`Props/C11.lean`, `C11_acyclic_of_headersWF`):
  if "the matcher answers yes" is transitive on the bucket headers, the recorded relation is contained in a strict
  partial order (mutually generalising headers are ordered by their index), every header has a rank below the number
  of headers, and Kahn's iteration `acyclicIds` peels everything off. Transitivity on the headers comes from
  `sup_trans_tr` (`Lemmas/MatchTrans.lean`) under the executable condition `headersWFIds`. Core-only.
-/
import DisjointImpls.Lemmas.GroupLemmas
import DisjointImpls.Lemmas.MatchTrans
namespace DI

/-- "answers yes" is transitive on the list of headers -/
def TransOn_tr (ids : List T) : Prop :=
  ∀ a ∈ ids, ∀ b ∈ ids, ∀ c ∈ ids, supYes a b = true → supYes b c = true → supYes a c = true

/-- the strict order containing the recorded relation: `y` generalises `x`, they are different, and if `x`
    generalises `y` too then `y` comes first -/
def lt_tr (ids : List T) (y x : T) : Bool :=
  supYes y x && (y != x) && (!supYes x y || decide (ids.idxOf y < ids.idxOf x))

theorem lt_irrefl_tr (ids : List T) (x : T) : lt_tr ids x x = false := by
  simp [lt_tr]

theorem lt_trans_tr {ids : List T} (hT : TransOn_tr ids) {y x z : T} (hy : y ∈ ids) (hx : x ∈ ids) (hz : z ∈ ids)
    (h1 : lt_tr ids y x = true) (h2 : lt_tr ids x z = true) : lt_tr ids y z = true := by
  simp only [lt_tr, Bool.and_eq_true, Bool.or_eq_true, Bool.not_eq_true', bne_iff_ne, ne_eq, decide_eq_true_eq] at h1 h2 ⊢
  obtain ⟨⟨a1, a2⟩, a3⟩ := h1
  obtain ⟨⟨b1, b2⟩, b3⟩ := h2
  have hyz : supYes y z = true := hT y hy x hx z hz a1 b1
  -- if z generalises y, all three generalise each other and the indices are ordered
  have key : supYes z y = true → ids.idxOf y < ids.idxOf x ∧ ids.idxOf x < ids.idxOf z := by
    intro hzy
    have hxy : supYes x y = true := hT x hx z hz y hy b1 hzy
    have hzx : supYes z x = true := hT z hz y hy x hx hzy a1
    refine ⟨?_, ?_⟩
    · rcases a3 with h | h
      · rw [hxy] at h; cases h
      · exact h
    · rcases b3 with h | h
      · rw [hzx] at h; cases h
      · exact h
  refine ⟨⟨hyz, ?_⟩, ?_⟩
  · intro e
    subst e
    have := key hyz
    omega
  · cases hzy : supYes z y with
    | false => exact Or.inl rfl
    | true => have := key hzy; exact Or.inr (by omega)

/-- number of headers strictly before `x` -/
def rank_tr (ids : List T) (x : T) : Nat := ids.countP (fun y => lt_tr ids y x)

theorem rank_lt_tr {ids : List T} (hT : TransOn_tr ids) {y x : T} (hy : y ∈ ids) (hx : x ∈ ids)
    (h : lt_tr ids y x = true) : rank_tr ids y < rank_tr ids x := by
  apply countP_lt
  · intro a ha h1
    exact lt_trans_tr hT ha hy hx h1 h
  · exact ⟨y, hy, h, lt_irrefl_tr ids y⟩

theorem rank_lt_length_tr {ids : List T} {x : T} (hx : x ∈ ids) : rank_tr ids x < ids.length := by
  have := countP_lt (p := fun y => lt_tr ids y x) (q := fun _ => true) (l := ids) (fun _ _ _ => rfl)
    ⟨x, hx, rfl, lt_irrefl_tr ids x⟩
  simpa [rank_tr] using this

/-! ### Kahn's iteration on a relation with a rank -/

theorem kahnStep_rank_tr {E : List (T × T × Subst)} {rk : T → Nat} (hE : ∀ p ∈ E, rk p.1 < rk p.2.1)
    {R : List T} {m : Nat} (hR : ∀ x ∈ R, m ≤ rk x) : ∀ x ∈ kahnStep E R, m + 1 ≤ rk x := by
  intro x hx
  simp only [kahnStep, predsOf, List.mem_filter, List.any_eq_true, List.mem_map, List.contains_iff_mem] at hx
  obtain ⟨_, g, ⟨p, ⟨hp, hpx⟩, rfl⟩, hg⟩ := hx
  have h1 := hE p hp
  have h2 := hR _ hg
  rw [eq_of_beq hpx] at h1
  omega

theorem kahnIter_rank_tr {E : List (T × T × Subst)} {rk : T → Nat} (hE : ∀ p ∈ E, rk p.1 < rk p.2.1) :
    ∀ (n : Nat) (R : List T) (m : Nat), (∀ x ∈ R, m ≤ rk x) → ∀ x ∈ kahnIter E n R, m + n ≤ rk x
  | 0, R, m, hR => by intro x hx; rw [kahnIter] at hx; simpa using hR x hx
  | n + 1, R, m, hR => by
      intro x hx
      rw [kahnIter] at hx
      have := kahnIter_rank_tr hE n (kahnStep E R) (m + 1) (kahnStep_rank_tr hE hR) x hx
      omega

theorem kahnIter_sub_tr (E : List (T × T × Subst)) : ∀ (n : Nat) (R : List T), ∀ x ∈ kahnIter E n R, x ∈ R
  | 0, R => by intro x hx; rw [kahnIter] at hx; exact hx
  | n + 1, R => by
      intro x hx
      rw [kahnIter] at hx
      have := kahnIter_sub_tr E n _ x hx
      simp only [kahnStep, List.mem_filter] at this
      exact this.1

/-! ### The recorded pairs are ordered -/

theorem msPairs_lt_tr {ids : List T} (hn : ids.Nodup) {p : T × T × Subst} (h : p ∈ msPairs ids) :
    lt_tr ids p.1 p.2.1 = true := by
  obtain ⟨i, j, l, hi, hj, hne, hs, hc⟩ := mem_msPairs.1 h
  obtain ⟨hi', hxi⟩ := List.getElem?_eq_some_iff.1 hi
  obtain ⟨hj', hyj⟩ := List.getElem?_eq_some_iff.1 hj
  have ei : ids.idxOf p.1 = i := hxi ▸ hn.idxOf_getElem i hi'
  have ej : ids.idxOf p.2.1 = j := hyj ▸ hn.idxOf_getElem j hj'
  simp only [lt_tr, Bool.and_eq_true, Bool.or_eq_true, Bool.not_eq_true', bne_iff_ne, ne_eq, decide_eq_true_eq]
  refine ⟨⟨supYes_iff.2 ⟨_, l, hs⟩, hne⟩, ?_⟩
  cases hyx : supYes p.2.1 p.1 with
  | false => exact Or.inl rfl
  | true =>
    right
    rw [ei, ej]
    have hij : ¬ i > j := fun hgt => hc ⟨hgt, hyx⟩
    have : i ≠ j := by
      intro e
      apply hne
      rw [← hxi, ← hyj]
      subst e; rfl
    omega

/-- acyclicity from transitivity -/
theorem acyclicIds_of_trans_tr {ids : List T} (hn : ids.Nodup) (hT : TransOn_tr ids) : acyclicIds ids = true := by
  have hE : ∀ p ∈ msPairs ids, rank_tr ids p.1 < rank_tr ids p.2.1 := fun p hp =>
    rank_lt_tr hT (msPairs_fst_mem hp) (msPairs_snd_mem hp) (msPairs_lt_tr hn hp)
  unfold acyclicIds
  rw [List.isEmpty_iff]
  apply List.eq_nil_iff_forall_not_mem.2
  intro x hx
  have h1 := kahnIter_rank_tr hE ids.length ids 0 (fun _ _ => Nat.zero_le _) x hx
  have h2 := rank_lt_length_tr (kahnIter_sub_tr _ _ _ x hx)
  omega

/-! ### Transitivity on well-formed headers -/

/-- executable per-input condition: every header lies in the fragment of `sup_trans_tr` and uses presentation
    consistently; and whenever one header generalises another one, its ignored children face ignored children -/
def headersWFIds (ids : List T) : Bool :=
  ids.all (fun g => okT_tr g && presInj_tr g) &&
  ids.all (fun g1 => ids.all (fun g2 => !supYes g1 g2 || faces_tr g1 (stripTop g2)))

theorem transOn_of_headersWF_tr {ids : List T} (h : headersWFIds ids = true) : TransOn_tr ids := by
  simp only [headersWFIds, Bool.and_eq_true, List.all_eq_true, Bool.or_eq_true, Bool.not_eq_true'] at h
  obtain ⟨hok, hfaces⟩ := h
  intro a ha b hb c hc hab hbc
  obtain ⟨σ, l1, h1⟩ := supYes_iff.1 hab
  obtain ⟨τ, l2, h2⟩ := supYes_iff.1 hbc
  have hf : faces_tr b (stripTop c) = true := by
    rcases hfaces b hb c hc with h | h
    · rw [hbc] at h; cases h
    · exact h
  obtain ⟨ρ, l, hρ⟩ := sup_trans_tr a b c σ τ l1 l2 (hok a ha).1 (hok b hb).1 (hok c hc).1 hf (hok c hc).2 h1 h2
  exact supYes_iff.2 ⟨ρ, l, hρ⟩

theorem acyclicIds_of_headersWF_tr {ids : List T} (hn : ids.Nodup) (h : headersWFIds ids = true) :
    acyclicIds ids = true :=
  acyclicIds_of_trans_tr hn (transOn_of_headersWF_tr h)

end DI

/-
  C04 end to end: from the grouping the model computes (`parseGroups`) to "the expansion is ground-incoherent".

  `IncoherentAt W sp groups q`: in the program generated from `groups`, two helper impls of ONE helper trait apply to
  the same helper reference, or two main impls (of the user's trait) apply to the same ground reference `q` — what
  rustc's coherence check (E0119) rejects (trusted fact (b), DESIGN §10).

  `blocks_placed`: two input blocks with different canonical texts are two members at DIFFERENT positions of one
  family, or members of families at DIFFERENT positions of the grouping (from the partition theorems). Textually
  identical blocks (finding D12) collapse into ONE member (`mkBuckets` replaces the earlier one), which is why the
  canonical texts have to differ.
-/
import DisjointImpls.Lemmas.EndToEnd
import DisjointImpls.Lemmas.EndToEndNested
namespace DI

/-- the expansion of `groups` is ground-incoherent at `q`: two members at different positions of one family whose
    helper impls both apply to `q` with the same helper arguments `gs` (two impls of one helper trait for one
    reference), or two families at different positions of the grouping whose main impls both apply to `q` (two impls
    of the user's trait for one reference) -/
def IncoherentAt (W : World) (sp : List String) (groups : Groups) (q : T) : Prop :=
  (∃ e ∈ groups, ∃ (i j : Nat) (hi : i < (familyOfGroup sp e).members.length)
      (hj : j < (familyOfGroup sp e).members.length), i ≠ j ∧
      ∃ gs, helperApplies W (familyOfGroup sp e) ((familyOfGroup sp e).members[i]) q gs ∧
            helperApplies W (familyOfGroup sp e) ((familyOfGroup sp e).members[j]) q gs) ∨
  (∃ (i j : Nat) (hi : i < groups.length) (hj : j < groups.length), i ≠ j ∧
      ∃ m1 ∈ (familyOfGroup sp groups[i]).members, ∃ m2 ∈ (familyOfGroup sp groups[j]).members,
        genSel W (familyOfGroup sp groups[i]) m1 q ∧ genSel W (familyOfGroup sp groups[j]) m2 q)

/-- where two blocks were placed: two different positions of one family, or two different families -/
def PlacedApart (sp : List String) (groups : Groups) (b1 b2 : Block) : Prop :=
  (∃ e ∈ groups, ∃ (i j : Nat) (hi : i < (familyOfGroup sp e).members.length)
      (hj : j < (familyOfGroup sp e).members.length), i ≠ j ∧
      ((familyOfGroup sp e).members[i]).blk = b1 ∧ ((familyOfGroup sp e).members[j]).blk = b2) ∨
  (∃ (i j : Nat) (hi : i < groups.length) (hj : j < groups.length), i ≠ j ∧
      ∃ m1 ∈ (familyOfGroup sp groups[i]).members, ∃ m2 ∈ (familyOfGroup sp groups[j]).members,
        m1.blk = b1 ∧ m2.blk = b2)

/-- the abstraction of a group of an accepted grouping has one member per member block -/
theorem familyOfGroup_members_length {items : List T} {groups : Groups} (h : parseGroups items = .ok groups)
    (sp : List String) {e : T × ABG × List Blk} (he : e ∈ groups) :
    (familyOfGroup sp e).members.length = e.2.2.length := by
  simp only [familyOfGroup, List.length_map, List.length_zip, parseGroups_payloads_length h he, Nat.min_self]

/-- the `i`-th member of the abstraction is built from the `i`-th member block -/
theorem familyOfGroup_member_blk (sp : List String) (e : T × ABG × List Blk) {i : Nat}
    (hi : i < (familyOfGroup sp e).members.length) (hi' : i < e.2.2.length) :
    ((familyOfGroup sp e).members[i]).blk = mkBlock (e.2.2[i]).item := by
  simp only [familyOfGroup, List.getElem_map, List.getElem_zip, memberOfGroup]

theorem mkBlk_item (it : T) : (mkBlk it).item = canon it := rfl

/-- PLACEMENT: in an accepted grouping in which every bucket block is placed (the partition theorems), two input blocks
    with different canonical texts are members at different positions of one family or members of two families at
    different positions of the grouping -/
theorem blocks_placed {items : List T} {groups : Groups} (h : parseGroups items = .ok groups) (sp : List String)
    (hperm : (groups.flatMap (fun e => e.2.2)).Perm ((mkBuckets (items.map mkBlk)).flatMap (fun bk => bk.2)))
    {it1 it2 : T} (h1 : it1 ∈ items) (h2 : it2 ∈ items) (hne : canon it1 ≠ canon it2) :
    PlacedApart sp groups (mkBlock (canon it1)) (mkBlock (canon it2)) := by
  obtain ⟨e1, he1, hb1⟩ := input_placed hperm h1
  obtain ⟨e2, he2, hb2⟩ := input_placed hperm h2
  obtain ⟨g1, hg1, rfl⟩ := List.mem_iff_getElem.1 he1
  obtain ⟨g2, hg2, rfl⟩ := List.mem_iff_getElem.1 he2
  by_cases hg : g1 = g2
  · subst hg
    left
    obtain ⟨i, hi, hbi⟩ := List.mem_iff_getElem.1 hb1
    obtain ⟨j, hj, hbj⟩ := List.mem_iff_getElem.1 hb2
    have hlen := familyOfGroup_members_length h sp he1
    refine ⟨groups[g1], he1, i, j, by omega, by omega, ?_, ?_, ?_⟩
    · intro hij
      subst hij
      rw [hbi] at hbj
      exact hne (by rw [← mkBlk_item it1, ← mkBlk_item it2, hbj])
    · rw [familyOfGroup_member_blk sp _ (by omega) hi, hbi, mkBlk_item]
    · rw [familyOfGroup_member_blk sp _ (by omega) hj, hbj, mkBlk_item]
  · right
    obtain ⟨m1, hm1, hblk1⟩ := familyOfGroup_has_member h sp he1 hb1
    obtain ⟨m2, hm2, hblk2⟩ := familyOfGroup_has_member h sp he2 hb2
    exact ⟨g1, g2, hg1, hg2, hg, m1, hm1, m2, hm2, by rw [hblk1, mkBlk_item], by rw [hblk2, mkBlk_item]⟩

/-- a grouping with at most one family that has at most one member is never ground-incoherent -/
theorem not_incoherent_of_single {W : World} {sp : List String} {groups : Groups} {q : T}
    (hg : groups.length ≤ 1) (hm : ∀ e ∈ groups, (familyOfGroup sp e).members.length ≤ 1) :
    ¬ IncoherentAt W sp groups q := by
  rintro (⟨e, he, i, j, hi, hj, hij, _⟩ | ⟨i, j, hi, hj, hij, _⟩)
  · have := hm e he
    omega
  · omega

/-- executable sufficient check for `KeysOverHeader` in terms of the checks of the coverage theorems: no expression
    parameter in the header or the keys, and every parameter of a key occurs in the header -/
def keysOverHeaderSimpleB (F : Family) : Bool :=
  noEParams F.hdr && F.keys.all (fun k => noEParams k.bounded && noEParams k.tr &&
    (allParams k.bounded).all (fun n => (allParams F.hdr).contains n) &&
    (allParams k.tr).all (fun n => (allParams F.hdr).contains n))

theorem keysOverHeaderB_of_simple {F : Family} (h : keysOverHeaderSimpleB F = true) : keysOverHeaderB F = true := by
  rw [keysOverHeaderB_iff]
  simp only [keysOverHeaderSimpleB, Bool.and_eq_true, List.all_eq_true, List.contains_iff_mem] at h
  exact keysOverHeader_of_noEParams F h.1 (fun k hk =>
    ⟨(h.2 k hk).1.2, (h.2 k hk).2, (h.2 k hk).1.1.1, (h.2 k hk).1.1.2⟩)

end DI

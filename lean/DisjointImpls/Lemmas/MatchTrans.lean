/-
  Transitivity of the matcher (`Props/C09.lean`, `C09_trans`): on an executable fragment of trees
  (`okT_tr`: no lenient / order-dependent / panicking kind, no anonymous lifetime, well-shaped generic arguments;
  wrappers, ignored children, lifetimes and qualified paths are allowed), for a middle tree whose ignored children face
  ignored children of the target (`faces_tr b c`) and a target in which sub-trees that are equal modulo presentation are
  equal (`presInj_tr c`), `sup a b = yes` and `sup b c = yes` imply `sup a c = yes`.

  Direct proof by induction on `a`, following `supS / supL / supLast` (`trans_tr`). The invariant (`FImg_tr`) describes
  every entry of the answer of `a → c` as the image (`Img_tr`) of the entry of `a → b` for the same parameter under the
  match `b → c`; the merges of `a → c` succeed because images are unique (`Img_functional_tr`), which rests on
  rigidity (`rig_tr`): a pattern of the fragment matched against two sub-trees of the target with compatible answers
  forces them to be equal modulo presentation, hence — `presInj_tr` — equal. Core-only.
-/
import DisjointImpls.Lemmas.MatchComplete
namespace DI

/-! ### The fragment -/

/-- kinds whose arm is lenient (`Pat::Wild`, `OptWild`), order-dependent (`Expr::Binary`) or `unimplemented!()` -/
def lenientKind_tr (k : String) : Bool :=
  k == "Pat::Wild" || k == "Stmt::Item" || panicsOnSameKind k || k == "Expr::Binary" || k == "OptWild"

/-- a node that is neither a transparent wrapper nor an ignored child -/
def properNode_tr : T → Bool
  | .node k _ _ => !isWrapper k && !isIgnored k
  | _ => false

/-- generic arguments: `GenericArgument::Const [] [e]` with `e` a proper node; `GenericArgument::Type [] [x]` with `x` a
    type parameter or a proper node (the matcher looks at these shapes literally, path.rs:173-179) -/
def gaOK_tr (k : String) (as : List String) (ks : List T) : Bool :=
  (k != "GenericArgument::Const" || (as.isEmpty && match ks with | [e] => properNode_tr e | _ => false)) &&
  (k != "GenericArgument::Type" || (as.isEmpty && match ks with | [.tparam _] => true | [e] => properNode_tr e | _ => false))

def nodeOK_tr (k : String) (as : List String) (ks : List T) : Bool :=
  !lenientKind_tr k && (lifetimeIdent (.node k as ks) != some "_") &&
  (pathParam PARAM_PREFIX (.node k as ks)).isNone && gaOK_tr k as ks && (k != "QSelf" || as.isEmpty)

mutual
/-- the fragment on which transitivity is proved; nothing is required beneath an ignored child -/
def okT_tr : T → Bool
  | .tparam _ => true
  | .eparam _ => true
  | .node k as ks =>
      if isIgnored k then true
      else if isWrapper k then okTL_tr ks
      else nodeOK_tr k as ks && okTL_tr ks
def okTL_tr : List T → Bool
  | [] => true
  | t :: ts => okT_tr t && okTL_tr ts
end

mutual
/-- every `Ign` child of `a` faces an `Ign` child of `b`, every `IgnL` child of `a` faces itself
    (`b` already stripped at the root) -/
def faces_tr : T → T → Bool
  | .tparam _, _ => true
  | .eparam _, _ => true
  | .node k as ks, b =>
      if isWrapper k then facesLast_tr ks b
      else if k == "Ign" then isIgnNode b
      else if k == "IgnL" then b == .node k as ks
      else match b with
        | .node k' _ ks' => if k == k' then facesL_tr ks ks' else true
        | _ => true
def facesL_tr : List T → List T → Bool
  | a :: as, b :: bs => faces_tr a (stripTop b) && facesL_tr as bs
  | _, _ => true
def facesLast_tr : List T → T → Bool
  | [], _ => true
  | [e], b => faces_tr e b
  | _ :: es, b => facesLast_tr es b
end

mutual
/-- the sub-trees the matcher can reach (not beneath ignored children) -/
def subs_tr : T → List T
  | .tparam n => [.tparam n]
  | .eparam n => [.eparam n]
  | .node k as ks => .node k as ks :: (if isIgnored k then [] else subsL_tr ks)
def subsL_tr : List T → List T
  | [] => []
  | t :: ts => subs_tr t ++ subsL_tr ts
end

/-- sub-trees of `c` that are equal modulo presentation (`erase`) are equal up to wrappers at their root -/
def presInj_tr (c : T) : Bool :=
  let l := (subs_tr c).map (fun u => (erase u, stripTop u))
  l.all (fun p => l.all (fun q => p.1 != q.1 || p.2 == q.2))

/-! ### Basic facts -/

theorem okTL_iff_tr : ∀ {ks : List T}, okTL_tr ks = true ↔ ∀ t ∈ ks, okT_tr t = true
  | [] => by simp [okTL_tr]
  | t :: ts => by simp [okTL_tr, okTL_iff_tr (ks := ts)]

theorem mem_subsL_tr {x : T} : ∀ {ks : List T}, x ∈ subsL_tr ks ↔ ∃ t ∈ ks, x ∈ subs_tr t
  | [] => by simp [subsL_tr]
  | t :: ts => by simp [subsL_tr, mem_subsL_tr (ks := ts)]

theorem self_mem_subs_tr : ∀ t : T, t ∈ subs_tr t
  | .tparam _ => by simp [subs_tr]
  | .eparam _ => by simp [subs_tr]
  | .node _ _ _ => by simp [subs_tr]

theorem isWrapper_not_ignored_tr {k : String} (h : isWrapper k = true) : isIgnored k = false := by
  have h1 := isWrapper_ne_ign h
  have h2 := isWrapper_ne_ignL h
  simp [isIgnored, h1, h2]

theorem isIgnored_false_tr {k : String} (hi : k ≠ "Ign") (hil : k ≠ "IgnL") : isIgnored k = false := by
  simp [isIgnored, hi, hil]

theorem okT_node_wrapper_tr {k : String} {as : List String} {ks : List T} (hw : isWrapper k = true)
    (h : okT_tr (.node k as ks) = true) : okTL_tr ks = true := by
  rw [okT_tr, if_neg (by simp [isWrapper_not_ignored_tr hw]), if_pos hw] at h
  exact h

theorem okT_node_tr {k : String} {as : List String} {ks : List T} (hw : isWrapper k = false)
    (hi : k ≠ "Ign") (hil : k ≠ "IgnL") (h : okT_tr (.node k as ks) = true) :
    nodeOK_tr k as ks = true ∧ okTL_tr ks = true := by
  rw [okT_tr, if_neg (by simp [isIgnored_false_tr hi hil]), if_neg (by simp [hw])] at h
  simpa using h

theorem okT_stripTop_tr : ∀ b : T, okT_tr b = true → okT_tr (stripTop b) = true :=
  stripTop_ind (P := fun b s => okT_tr b = true → okT_tr s = true) (fun _ _ h => h)
    (fun hw he _ ih h => ih (okTL_iff_tr.1 (okT_node_wrapper_tr hw h) _ he))

theorem facesLast_of_last_tr {ks : List T} {e : T} (h : lastKid ks = some e) (b : T) :
    facesLast_tr ks b = faces_tr e b :=
  of_lastKid (f := (facesLast_tr · b)) (g := (faces_tr · b)) (fun e => by rw [facesLast_tr])
    (fun a c l => by rw [facesLast_tr]; intro x; cases x) h

theorem stripTop_plain_tr {k : String} (as : List String) (ks : List T) (hw : isWrapper k = false) :
    stripTop (.node k as ks) = .node k as ks := by rw [stripTop, if_neg (by simp [hw])]

/-- `stripTop` is idempotent -/
theorem stripTop_idem_tr : ∀ b : T, stripTop (stripTop b) = stripTop b :=
  stripTop_ind (P := fun _ s => stripTop s = s) (fun _ h => h) (fun _ _ _ ih => ih)

/-- the matcher does not see wrappers at the root of its left argument -/
theorem supS_stripTop_tr (x : T) : ∀ b : T, supS b x = supS (stripTop b) x :=
  stripTop_ind (P := fun b s => supS b x = supS s x) (fun _ _ => rfl)
    (fun hw _ hl ih => by rw [supS_wrapper _ _ _ hw, supLast_of_last hl]; exact ih)

theorem faces_wrapper_tr {k : String} (as : List String) (ks : List T) (b : T) (hw : isWrapper k = true) :
    faces_tr (.node k as ks) b = facesLast_tr ks b := by
  unfold faces_tr; simp [hw]

theorem faces_stripTop_tr (x : T) : ∀ b : T, faces_tr b x = true → faces_tr (stripTop b) x = true :=
  stripTop_ind (P := fun b s => faces_tr b x = true → faces_tr s x = true) (fun _ _ h => h)
    (fun hw _ hl ih h => ih (by rwa [faces_wrapper_tr _ _ _ hw, facesLast_of_last_tr hl] at h))

/-! ### Inversion of `supS` on a node of the fragment -/

theorem lenientKind_false_tr {k : String} (h : lenientKind_tr k = false) :
    (k == "Pat::Wild") = false ∧ (k == "Stmt::Item") = false ∧ panicsOnSameKind k = false ∧
    (k == "Expr::Binary") = false ∧ (k == "OptWild") = false := by
  simp only [lenientKind_tr, Bool.or_eq_false_iff] at h
  obtain ⟨⟨⟨⟨h1, h2⟩, h3⟩, h5⟩, h6⟩ := h
  exact ⟨h1, h2, h3, h5, h6⟩

inductive FragNN_tr (k : String) (as : List String) (ks : List T) (k' : String) (as' : List String)
    (ks' : List T) (σ : Subst) (l : Bool) : Prop
  | gaConst (n : String) (e : T) : k = "GenericArgument::Type" → as = [] → ks = [.tparam n] →
      k' = "GenericArgument::Const" → as' = [] → ks' = [e] → σ = [(n, .ex e)] → l = false →
      FragNN_tr k as ks k' as' ks' σ l
  | lifetime (x : String) : k = k' → k = "Lifetime" → lifetimeIdent (.node k as ks) = some x →
      lifetimeIdent (.node k' as' ks') = some x → σ = [] → FragNN_tr k as ks k' as' ks' σ l
  | qself (ty : T) (rest : List T) (ty' : T) : k = k' → k = "QSelf" → ks = ty :: rest → ks' = ty' :: rest →
      supS ty (stripTop ty') = .yes σ l → allIdentity σ = true → FragNN_tr k as ks k' as' ks' σ l
  | dflt : k = k' → k ≠ "Lifetime" → k ≠ "QSelf" → as = as' → supL ks ks' [] false = .yes σ l →
      FragNN_tr k as ks k' as' ks' σ l

/-- which arm of `FragNN_tr` holds is decided by the pattern's kind: `Lifetime` and `QSelf` have an arm each, every other
    kind is left with `gaConst` and `dflt` -/
theorem FragNN_kind_tr {k k' : String} {as as' : List String} {ks ks' : List T} {σ : Subst} {l : Bool}
    (h : FragNN_tr k as ks k' as' ks' σ l) :
    (k = "Lifetime" → ∃ x, k = k' ∧ lifetimeIdent (.node k as ks) = some x ∧
      lifetimeIdent (.node k' as' ks') = some x ∧ σ = []) ∧
    (k = "QSelf" → ∃ ty rest ty', k = k' ∧ ks = ty :: rest ∧ ks' = ty' :: rest ∧
      supS ty (stripTop ty') = .yes σ l ∧ allIdentity σ = true) := by
  cases h with
  | gaConst _ _ hk' => exact ⟨fun hk => absurd (hk ▸ hk') (by simp), fun hk => absurd (hk ▸ hk') (by simp)⟩
  | lifetime x hkk hk' hx hy hσ => exact ⟨fun _ => ⟨x, hkk, hx, hy, hσ⟩, fun hk => absurd (hk ▸ hk') (by simp)⟩
  | qself ty rest ty' hkk hk' hks hks' hs hid =>
    exact ⟨fun hk => absurd (hk ▸ hk') (by simp), fun _ => ⟨ty, rest, ty', hkk, hks, hks', hs, hid⟩⟩
  | dflt _ hnl hnq => exact ⟨fun hk => absurd hk hnl, fun hk => absurd hk hnq⟩

theorem okT_root_tr {k : String} {as : List String} {ks : List T} (h : okT_tr (.node k as ks) = true) :
    k ≠ "Pat::Wild" := by
  rintro rfl
  rw [okT_tr, if_neg (by simp [isIgnored]), if_neg (by simp [isWrapper])] at h
  simp [nodeOK_tr, lenientKind_tr] at h

theorem nodeOK_parts_tr {k : String} {as : List String} {ks : List T} (h : nodeOK_tr k as ks = true) :
    lenientKind_tr k = false ∧ lifetimeIdent (.node k as ks) ≠ some "_" ∧
    pathParam PARAM_PREFIX (.node k as ks) = none ∧ gaOK_tr k as ks = true ∧ (k = "QSelf" → as = []) := by
  simp only [nodeOK_tr, Bool.and_eq_true, Bool.not_eq_true', bne_iff_ne, ne_eq, Option.isNone_iff_eq_none,
    Bool.or_eq_true, List.isEmpty_iff] at h
  refine ⟨h.1.1.1.1, h.1.1.1.2, h.1.1.2, h.1.2, fun hk => ?_⟩
  rcases h.2 with h2 | h2
  · exact absurd hk h2
  · exact h2

/-- a node of the fragment that answers `yes` to a tree of the fragment faces a node, and one of four arms decided;
    neither lifetime is anonymous, so they are the same -/
theorem supS_frag_inv_tr {k : String} {as : List String} {ks : List T} {b : T} {σ : Subst} {l : Bool}
    (hw : isWrapper k = false) (hi : k ≠ "Ign") (hil : k ≠ "IgnL") (hn : nodeOK_tr k as ks = true)
    (hb : okT_tr b = true) (h : supS (.node k as ks) b = .yes σ l) :
    ∃ k' as' ks', b = .node k' as' ks' ∧ FragNN_tr k as ks k' as' ks' σ l := by
  obtain ⟨hl, hlife, hp, _, _⟩ := nodeOK_parts_tr hn
  obtain ⟨l1, _, _, l5, l6⟩ := lenientKind_false_tr hl
  cases supS_node_inv h with
  | wrap hw' => rw [hw] at hw'; cases hw'
  | ign _ hk => exact absurd hk hi
  | ignL _ hk => exact absurd hk hil
  | node k' as' ks' _ _ _ hb' hnn =>
    subst hb'
    refine ⟨k', as', ks', rfl, ?_⟩
    cases hnn with
    | wildSame hk => simp [hk] at l1
    | lossy hk =>
      rcases hk with hk | hk
      · simp [hk] at l1
      · exact absurd hk (okT_root_tr hb)
    | gaConst n e h1 h2 h3 h4 h5 h6 h7 h8 => exact .gaConst n e h1 h2 h3 h4 h5 h6 h7 h8
    | lifetime x y hkk hk hx hy hσ hxy =>
      subst hkk
      have hy0 := (nodeOK_parts_tr (okT_node_tr hw hi hil hb).1).2.1
      obtain rfl : x = y := by
        rcases hxy with e | e | e
        · subst e; exact absurd hx hlife
        · subst e; exact absurd hy hy0
        · exact e
      exact .lifetime x rfl hk hx hy hσ
    | pathParam n _ hn => rw [hp] at hn; cases hn
    | qself ty rest ty' hkk hk hks hks' hs hid => exact .qself ty rest ty' hkk hk hks hks' hs hid
    | binary _ _ _ _ _ _ _ _ _ _ _ _ _ _ _ hk => simp [hk] at l5
    | binarySwap _ _ _ _ _ _ _ _ _ _ _ _ _ _ _ hk => simp [hk] at l5
    | optNone _ _ _ hk => simp [hk] at l6
    | optSome _ _ _ hk => simp [hk] at l6
    | dflt hkk hnl hnq has hs => exact .dflt hkk hnl hnq has hs

/-- a node of the fragment answers `no` to a parameter -/
theorem supS_frag_param_tr {k : String} {as : List String} {ks : List T} (hw : isWrapper k = false) (hi : k ≠ "Ign")
    (hil : k ≠ "IgnL") {b : T} (hb : ∀ k' as' ks', b ≠ .node k' as' ks') : supS (.node k as ks) b = .no := by
  unfold supS
  rw [if_neg (by simp [hw]), if_neg (by simp [hi]), if_neg (by simp [hil])]
  cases b with
  | tparam n => rfl
  | eparam n => rfl
  | node k' as' ks' => exact absurd rfl (hb k' as' ks')

theorem specialKind_false_of_frag_tr {k : String} (hw : isWrapper k = false) (hi : k ≠ "Ign") (hil : k ≠ "IgnL")
    (hl : lenientKind_tr k = false) (hlt : k ≠ "Lifetime") (hq : k ≠ "QSelf") : specialKind k = false := by
  obtain ⟨l1, l2, l3, l5, l6⟩ := lenientKind_false_tr hl
  simp [specialKind, hw, hi, hil, l1, l2, l3, l5, l6, hlt, hq]

/-! ### The scope: the reachable sub-trees of the target -/

/-- what the induction needs to know about the set `S` of reachable sub-trees of the target `c` -/
structure Scope_tr (S : T → Prop) : Prop where
  kids : ∀ {k : String} {as : List String} {ks : List T}, S (.node k as ks) → isIgnored k = false → ∀ t ∈ ks, S t
  ok : ∀ {x : T}, S x → okT_tr x = true
  inj : ∀ {u v : T}, S u → S v → erase u = erase v → stripTop u = stripTop v

theorem Scope_tr.strip {S : T → Prop} (hS : Scope_tr S) : ∀ x : T, S x → S (stripTop x) :=
  stripTop_ind (P := fun b s => S b → S s) (fun _ _ h => h)
    (fun hw he _ ih h => ih (hS.kids h (isWrapper_not_ignored_tr hw) _ he))

/-! ### `supL` step by step -/

theorem supL_cons_fwd_tr {a : T} (as : List T) {b : T} (bs : List T) {acc : Subst} (fl : Bool) {σ1 : Subst} {f : Bool}
    {acc' : Subst} (h1 : supS a (stripTop b) = .yes σ1 f) (hm : merge acc σ1 = some acc') :
    supL (a :: as) (b :: bs) acc fl = supL as bs acc' (fl || f) := by
  rw [supL]; simp only [h1, hm]

theorem supL_ext_tr : ∀ (as bs : List T) (acc : Subst) (fl : Bool) (σ : Subst) (l : Bool),
    supL as bs acc fl = .yes σ l → Ext acc σ := by
  intro as
  induction as with
  | nil => intro bs acc fl σ l h; rw [(supL_nil_inv h).2.1]; exact Ext.refl _
  | cons a as rec =>
    intro bs acc fl σ l h
    obtain ⟨b, bs, σ1, f, acc', rfl, _, hm, h'⟩ := supL_cons_inv h
    exact (merge_ext σ1 acc acc' hm).1.trans (rec bs acc' _ σ l h')

theorem faces_node_tr {k : String} {as as' : List String} {ks ks' : List T} (hw : isWrapper k = false)
    (hi : k ≠ "Ign") (hil : k ≠ "IgnL") :
    faces_tr (.node k as ks) (.node k as' ks') = facesL_tr ks ks' := by
  rw [faces_tr]; simp [hw, hi, hil]

theorem facesL_cons_tr (a : T) (as : List T) (b : T) (bs : List T) :
    facesL_tr (a :: as) (b :: bs) = (faces_tr a (stripTop b) && facesL_tr as bs) := by
  rw [facesL_tr]

/-! ### Rigidity: a pattern matched against two targets with compatible answers -/

def RigP_tr (S : T → Prop) (t : T) : Prop :=
  ∀ (c c' : T) (τ1 τ1' : Subst) (l l' : Bool) (τ : Subst), okT_tr t = true → S c → S c' →
    supS t c = .yes τ1 l → supS t c' = .yes τ1' l' → Ext τ1 τ → Ext τ1' τ →
    faces_tr t c = true → faces_tr t c' = true → erase c = erase c'

theorem rigL_tr {S : T → Prop} (hS : Scope_tr S) : ∀ (ks cs cs' : List T) (acc : Subst) (fl : Bool) (acc' : Subst)
    (fl' : Bool) (τ1 : Subst) (l : Bool) (τ1' : Subst) (l' : Bool) (τ : Subst),
    (∀ t ∈ ks, RigP_tr S t) → okTL_tr ks = true → (∀ x ∈ cs, S x) → (∀ x ∈ cs', S x) →
    supL ks cs acc fl = .yes τ1 l → supL ks cs' acc' fl' = .yes τ1' l' → Ext τ1 τ → Ext τ1' τ →
    facesL_tr ks cs = true → facesL_tr ks cs' = true → eraseL cs = eraseL cs' := by
  intro ks
  induction ks with
  | nil =>
    intro cs cs' acc fl acc' fl' τ1 l τ1' l' τ _ _ _ _ h h' _ _ _ _
    rw [(supL_nil_inv h).1, (supL_nil_inv h').1]
  | cons t ts rec =>
    intro cs cs' acc fl acc' fl' τ1 l τ1' l' τ ih hok hs hs' h h' he he' hf hf'
    obtain ⟨c, cs, σ1, f, a1, rfl, h1, hm, hr⟩ := supL_cons_inv h
    obtain ⟨c', cs', σ1', f', a1', rfl, h1', hm', hr'⟩ := supL_cons_inv h'
    rw [okTL_tr] at hok; simp only [Bool.and_eq_true] at hok
    rw [facesL_cons_tr] at hf hf'; simp only [Bool.and_eq_true] at hf hf'
    have e1 : Ext σ1 τ := ((merge_ext σ1 acc a1 hm).2.trans (supL_ext_tr _ _ _ _ _ _ hr)).trans he
    have e1' : Ext σ1' τ := ((merge_ext σ1' acc' a1' hm').2.trans (supL_ext_tr _ _ _ _ _ _ hr')).trans he'
    have hc := ih t (by simp) (stripTop c) (stripTop c') σ1 σ1' f f' τ hok.1 (hS.strip c (hs c (by simp)))
      (hS.strip c' (hs' c' (by simp))) h1 h1' e1 e1' hf.1 hf'.1
    rw [erase_stripTop, erase_stripTop] at hc
    have hrest := rec cs cs' a1 _ a1' _ τ1 l τ1' l' τ (fun t ht => ih t (List.mem_cons_of_mem _ ht)) hok.2
      (fun x hx => hs x (List.mem_cons_of_mem _ hx)) (fun x hx => hs' x (List.mem_cons_of_mem _ hx))
      hr hr' he he' hf.2 hf'.2
    rw [eraseL, eraseL, hc, hrest]

theorem lookup_of_ext_single_tr {n : String} {v : Val} {τ : Subst} (h : Ext [(n, v)] τ) : lookup τ n = some v :=
  h n v (lookup_single n v)

theorem faces_ign_tr (as : List String) (ks : List T) (b : T) :
    faces_tr (.node "Ign" as ks) b = isIgnNode b := by
  unfold faces_tr; simp [isWrapper]

theorem faces_ignL_tr (as : List String) (ks : List T) (b : T) :
    faces_tr (.node "IgnL" as ks) b = (b == .node "IgnL" as ks) := by
  unfold faces_tr; simp [isWrapper]

/-- the value the matcher reports for the type parameter `n` facing `b` -/
def valT_tr (n : String) (b : T) : Val := if b = .tparam n then .identity else .ty b
def valE_tr (n : String) (b : T) : Val := if b = .eparam n then .identity else .ex b

theorem valT_inj_tr {n : String} {b b' : T} (h : valT_tr n b = valT_tr n b') : b = b' := by
  unfold valT_tr at h
  split at h <;> split at h
  · next h1 h2 => rw [h1, h2]
  · cases h
  · cases h
  · injection h
theorem valE_inj_tr {n : String} {b b' : T} (h : valE_tr n b = valE_tr n b') : b = b' := by
  unfold valE_tr at h
  split at h <;> split at h
  · next h1 h2 => rw [h1, h2]
  · cases h
  · cases h
  · injection h

theorem valT_ne_ex_tr (n : String) (b e : T) : valT_tr n b ≠ .ex e := by
  unfold valT_tr; split <;> simp
theorem valE_ne_ty_tr (n : String) (b e : T) : valE_tr n b ≠ .ty e := by
  unfold valE_tr; split <;> simp

theorem supS_tparam_tr (n : String) (b : T) : supS (.tparam n) b = .yes [(n, valT_tr n b)] false :=
  supS_tparam_fwd n b
theorem supS_eparam_tr (n : String) (b : T) : supS (.eparam n) b = .yes [(n, valE_tr n b)] false :=
  supS_eparam_fwd n b

theorem rig_node_tr {S : T → Prop} (hS : Scope_tr S) (k : String) (as : List String) (ks : List T)
    (ih : ∀ t ∈ ks, RigP_tr S t) : RigP_tr S (.node k as ks) := by
  intro c c' τ1 τ1' l l' τ hok hs hs' h h' he he' hf hf'
  by_cases hw : isWrapper k = true
  · rw [supS_wrapper _ _ _ hw] at h h'
    rcases lastKid_cases ks with rfl | ⟨e, hmem, hl⟩
    · rw [supLast] at h; cases h
    rw [supLast_of_last hl] at h h'
    rw [faces_wrapper_tr _ _ _ hw, facesLast_of_last_tr hl] at hf hf'
    exact ih e hmem c c' τ1 τ1' l l' τ (okTL_iff_tr.1 (okT_node_wrapper_tr hw hok) e hmem) hs hs' h h' he he' hf hf'
  have hw : isWrapper k = false := by simpa using hw
  by_cases hi : k = "Ign"
  · subst hi
    rw [faces_ign_tr] at hf hf'
    obtain ⟨a1, k1, rfl⟩ := isIgnNode_inv hf
    obtain ⟨a2, k2, rfl⟩ := isIgnNode_inv hf'
    rw [erase_ign, erase_ign]
  by_cases hil : k = "IgnL"
  · subst hil
    rw [faces_ignL_tr] at hf hf'
    rw [eq_of_beq hf, eq_of_beq hf']
  obtain ⟨hnode, hkids⟩ := okT_node_tr hw hi hil hok
  obtain ⟨k1, as1, ks1, rfl, inv1⟩ := supS_frag_inv_tr hw hi hil hnode (hS.ok hs) h
  obtain ⟨k2, as2, ks2, rfl, inv2⟩ := supS_frag_inv_tr hw hi hil hnode (hS.ok hs') h'
  -- a `GenericArgument::Type [tparam n]` cannot match by the default rule with an `ex` value
  have gaClash : ∀ (n : String) (e : T) (ks' : List T) (σ' : Subst) (f : Bool), ks = [.tparam n] →
      lookup τ n = some (.ex e) → supL ks ks' [] false = .yes σ' f → Ext σ' τ → False := by
    intro n e ks' σ' f hks hl hsup hext
    subst hks
    obtain ⟨b0, σ1, _, hs1, hext1⟩ := supL_single hsup
    rw [supS_tparam_tr] at hs1
    cases hs1
    have := lookup_of_ext_single_tr (hext1.trans hext)
    rw [hl] at this
    injection this with this
    exact valT_ne_ex_tr _ _ _ this.symm
  by_cases hlt : k = "Lifetime"
  · obtain ⟨x, _, hx, hy, _⟩ := (FragNN_kind_tr inv1).1 hlt
    obtain ⟨x', _, hx', hy', _⟩ := (FragNN_kind_tr inv2).1 hlt
    rw [hx] at hx'; cases hx'
    rw [lifetimeIdent_inv hy, lifetimeIdent_inv hy']
  by_cases hq : k = "QSelf"
  · obtain ⟨ty, rest, ty1, hkk, hks, hks1, hsq, _⟩ := (FragNN_kind_tr inv1).2 hq
    obtain ⟨ty', rest', ty2, hkk', hks', hks2, hsq', _⟩ := (FragNN_kind_tr inv2).2 hq
    subst hkk hkk' hks hks1
    cases hks'
    subst hks2
    have has1 := (nodeOK_parts_tr (okT_node_tr hw hi hil (hS.ok hs)).1).2.2.2.2 hq
    have has2 := (nodeOK_parts_tr (okT_node_tr hw hi hil (hS.ok hs')).1).2.2.2.2 hq
    rw [faces_node_tr hw hi hil, facesL_cons_tr] at hf hf'
    simp only [Bool.and_eq_true] at hf hf'
    rw [okTL_tr] at hkids; simp only [Bool.and_eq_true] at hkids
    have hS1 := hS.kids hs (isIgnored_false_tr hi hil) ty1 (by simp)
    have hS2 := hS.kids hs' (isIgnored_false_tr hi hil) ty2 (by simp)
    have := ih ty (by simp) (stripTop ty1) (stripTop ty2) τ1 τ1' l l' τ hkids.1 (hS.strip _ hS1) (hS.strip _ hS2)
      hsq hsq' he he' hf.1 hf'.1
    rw [erase_stripTop, erase_stripTop] at this
    rw [erase_plain _ _ hw hi, erase_plain _ _ hw hi, eraseL, eraseL, this, has1, has2]
  cases inv1 with
  | lifetime _ _ hk => exact absurd hk hlt
  | qself _ _ _ _ hk => exact absurd hk hq
  | gaConst n e hk has hks hk1 has1 hks1 hσ _ =>
    subst hσ
    have hl := lookup_of_ext_single_tr he
    cases inv2 with
    | lifetime _ _ hk' => exact absurd hk' hlt
    | qself _ _ _ _ hk' => exact absurd hk' hq
    | gaConst n' e' _ _ hks' hk2 has2 hks2 hσ' _ =>
      subst hσ'
      rw [hks] at hks'
      cases hks'
      have hl' := lookup_of_ext_single_tr he'
      rw [hl] at hl'
      cases hl'
      rw [hk1, has1, hks1, hk2, has2, hks2]
    | dflt _ _ _ _ hsup => exact (gaClash n e _ _ _ hks hl hsup he').elim
  | dflt hkk _ _ has hsup =>
    cases inv2 with
    | lifetime _ _ hk' => exact absurd hk' hlt
    | qself _ _ _ _ hk' => exact absurd hk' hq
    | gaConst n' e' _ _ hks' _ _ _ hσ' _ =>
      subst hσ'
      exact (gaClash n' e' _ _ _ hks' (lookup_of_ext_single_tr he') hsup he).elim
    | dflt hkk' _ _ has' hsup' =>
      subst hkk hkk' has has'
      rw [faces_node_tr hw hi hil] at hf hf'
      have := rigL_tr hS ks ks1 ks2 [] false [] false τ1 l τ1' l' τ ih hkids
        (hS.kids hs (isIgnored_false_tr hi hil)) (hS.kids hs' (isIgnored_false_tr hi hil)) hsup hsup' he he' hf hf'
      rw [erase_plain _ _ hw hi, erase_plain _ _ hw hi, this]

theorem rig_tr {S : T → Prop} (hS : Scope_tr S) : ∀ t : T, RigP_tr S t := by
  apply T.ind
  · intro n c c' τ1 τ1' l l' τ _ _ _ h h' he he' _ _
    rw [supS_tparam_tr] at h h'
    cases h; cases h'
    have h1 := lookup_of_ext_single_tr he
    have h2 := lookup_of_ext_single_tr he'
    rw [h1] at h2
    injection h2 with h2
    rw [valT_inj_tr h2]
  · intro n c c' τ1 τ1' l l' τ _ _ _ h h' he he' _ _
    rw [supS_eparam_tr] at h h'
    cases h; cases h'
    have h1 := lookup_of_ext_single_tr he
    have h2 := lookup_of_ext_single_tr he'
    rw [h1] at h2
    injection h2 with h2
    rw [valE_inj_tr h2]
  · exact rig_node_tr hS

/-! ### The image of a reported value under the second match -/

/-- `w` is what the match `a → c` reports for `n` when `a → b` reported `v` and `b → c` answered (a sub-answer of) `τ` -/
def Img_tr (S : T → Prop) (τ : Subst) (n : String) (v w : Val) : Prop :=
  match v with
  | .identity => lookup τ n = some w
  | .ty t =>
      (∃ c1 τ1 l, okT_tr t = true ∧ supS t c1 = .yes τ1 l ∧ Ext τ1 τ ∧ faces_tr t c1 = true ∧ S c1 ∧
        stripTop c1 = c1 ∧ w = valT_tr n c1) ∨
      (∃ m e, t = .tparam m ∧ lookup τ m = some (.ex e) ∧ w = .ex e)
  | .ex t =>
      ∃ c1 τ1 l, okT_tr t = true ∧ supS t c1 = .yes τ1 l ∧ Ext τ1 τ ∧ faces_tr t c1 = true ∧ S c1 ∧
        stripTop c1 = c1 ∧ w = valE_tr n c1

theorem Img_functional_tr {S : T → Prop} (hS : Scope_tr S) {τ : Subst} {n : String} {v w w' : Val}
    (h : Img_tr S τ n v w) (h' : Img_tr S τ n v w') : w = w' := by
  cases v with
  | identity =>
    simp only [Img_tr] at h h'
    rw [h] at h'; injection h'
  | ty t =>
    simp only [Img_tr] at h h'
    rcases h with ⟨c1, τ1, l, hok, hs, he, hf, hsc, hst, rfl⟩ | ⟨m, e, rfl, hl, rfl⟩
    · rcases h' with ⟨c1', τ1', l', _, hs', he', hf', hsc', hst', rfl⟩ | ⟨m, e, rfl, hl, rfl⟩
      · have := rig_tr hS t c1 c1' τ1 τ1' l l' τ hok hsc hsc' hs hs' he he' hf hf'
        have := hS.inj hsc hsc' this
        rw [hst, hst'] at this
        rw [this]
      · rw [supS_tparam_tr] at hs; cases hs
        have := lookup_of_ext_single_tr he
        rw [hl] at this; injection this with this
        exact absurd this.symm (valT_ne_ex_tr _ _ _)
    · rcases h' with ⟨c1', τ1', l', _, hs', he', _, _, _, rfl⟩ | ⟨m', e', hm, hl', rfl⟩
      · rw [supS_tparam_tr] at hs'; cases hs'
        have := lookup_of_ext_single_tr he'
        rw [hl] at this; injection this with this
        exact absurd this.symm (valT_ne_ex_tr _ _ _)
      · cases hm
        rw [hl] at hl'; injection hl'
  | ex t =>
    simp only [Img_tr] at h h'
    obtain ⟨c1, τ1, l, hok, hs, he, hf, hsc, hst, rfl⟩ := h
    obtain ⟨c1', τ1', l', _, hs', he', hf', hsc', hst', rfl⟩ := h'
    have := rig_tr hS t c1 c1' τ1 τ1' l l' τ hok hsc hsc' hs hs' he he' hf hf'
    have := hS.inj hsc hsc' this
    rw [hst, hst'] at this
    rw [this]

/-- the invariant of the answer of `a → c`: every entry is the image of the entry of `a → b` for the same parameter -/
def FImg_tr (S : T → Prop) (σ τ : Subst) (p : String × Val) : Prop :=
  ∃ v, lookup σ p.1 = some v ∧ Img_tr S τ p.1 v p.2

theorem FImg_functional_tr {S : T → Prop} (hS : Scope_tr S) (σ τ : Subst) : Functional (FImg_tr S σ τ) := by
  intro n w w' ⟨v, hv, hi⟩ ⟨v', hv', hi'⟩
  simp only at hv hv' hi hi'
  rw [hv] at hv'; injection hv' with hv'; subst hv'
  exact Img_functional_tr hS hi hi'

theorem Img_mono_tr {S : T → Prop} {τ τ' : Subst} (he : Ext τ τ') {n : String} {v w : Val}
    (h : Img_tr S τ n v w) : Img_tr S τ' n v w := by
  cases v with
  | identity => simp only [Img_tr] at h ⊢; exact he _ _ h
  | ty t =>
    simp only [Img_tr] at h ⊢
    rcases h with ⟨c1, τ1, l, hok, hs, he1, hf, hsc, hst, hw⟩ | ⟨m, e, ht, hl, hw⟩
    · exact Or.inl ⟨c1, τ1, l, hok, hs, he1.trans he, hf, hsc, hst, hw⟩
    · exact Or.inr ⟨m, e, ht, he _ _ hl, hw⟩
  | ex t =>
    simp only [Img_tr] at h ⊢
    obtain ⟨c1, τ1, l, hok, hs, he1, hf, hsc, hst, hw⟩ := h
    exact ⟨c1, τ1, l, hok, hs, he1.trans he, hf, hsc, hst, hw⟩

theorem FImg_mono_tr {S : T → Prop} {σ σ' τ τ' : Subst} (hσ : Ext σ σ') (hτ : Ext τ τ') {p : String × Val}
    (h : FImg_tr S σ τ p) : FImg_tr S σ' τ' p := by
  obtain ⟨v, hv, hi⟩ := h
  exact ⟨v, hσ _ _ hv, Img_mono_tr hτ hi⟩

/-! ### Transitivity -/

def TransP_tr (S : T → Prop) (a : T) : Prop :=
  ∀ (b c : T) (σ : Subst) (l1 : Bool) (τ : Subst) (l2 : Bool), okT_tr a = true → okT_tr b = true →
    S c → stripTop c = c → supS a b = .yes σ l1 → supS b c = .yes τ l2 → faces_tr b c = true →
    ∃ ρ l, supS a c = .yes ρ l ∧ ∀ p ∈ ρ, FImg_tr S σ τ p

theorem transL_tr {S : T → Prop} (hS : Scope_tr S) : ∀ (as bs cs : List T) (accσ : Subst) (fl : Bool) (σ : Subst)
    (l1 : Bool) (accτ : Subst) (fl' : Bool) (τ : Subst) (l2 : Bool) (accρ : Subst) (fl'' : Bool),
    (∀ a ∈ as, TransP_tr S a) → okTL_tr as = true → okTL_tr bs = true → (∀ c ∈ cs, S c) →
    supL as bs accσ fl = .yes σ l1 → supL bs cs accτ fl' = .yes τ l2 → facesL_tr bs cs = true →
    (∀ p ∈ accρ, FImg_tr S σ τ p) →
    ∃ ρ l, supL as cs accρ fl'' = .yes ρ l ∧ ∀ p ∈ ρ, FImg_tr S σ τ p := by
  intro as
  induction as with
  | nil =>
    intro bs cs accσ fl σ l1 accτ fl' τ l2 accρ fl'' _ _ _ _ h h' _ hacc
    obtain ⟨rfl, _, _⟩ := supL_nil_inv h
    obtain ⟨rfl, _, _⟩ := supL_nil_inv h'
    exact ⟨accρ, fl'', by rw [supL], hacc⟩
  | cons a as rec =>
    intro bs cs accσ fl σ l1 accτ fl' τ l2 accρ fl'' ih hoka hokb hs h h' hf hacc
    obtain ⟨b, bs, σ1, f, aσ, rfl, h1, hm, hr⟩ := supL_cons_inv h
    obtain ⟨c, cs, τa, f', aτ, rfl, h1', hm', hr'⟩ := supL_cons_inv h'
    rw [okTL_tr] at hoka hokb; simp only [Bool.and_eq_true] at hoka hokb
    rw [facesL_cons_tr] at hf; simp only [Bool.and_eq_true] at hf
    have eσ : Ext σ1 σ := (merge_ext σ1 accσ aσ hm).2.trans (supL_ext_tr _ _ _ _ _ _ hr)
    have eτ : Ext τa τ := (merge_ext τa accτ aτ hm').2.trans (supL_ext_tr _ _ _ _ _ _ hr')
    rw [supS_stripTop_tr] at h1'
    obtain ⟨ρ1, lρ, hρ1, hF1⟩ := ih a (by simp) (stripTop b) (stripTop c) σ1 f τa f' hoka.1
      (okT_stripTop_tr b hokb.1) (hS.strip c (hs c (by simp))) (stripTop_idem_tr c) h1 h1'
      (faces_stripTop_tr _ b hf.1)
    have hF1' : ∀ p ∈ ρ1, FImg_tr S σ τ p := fun p hp => FImg_mono_tr eσ eτ (hF1 p hp)
    obtain ⟨aρ, hmρ⟩ := merge_ok (FImg_functional_tr hS σ τ) ρ1 accρ hacc hF1'
    have haρ : ∀ p ∈ aρ, FImg_tr S σ τ p := fun p hp =>
      (merge_mem ρ1 accρ aρ hmρ p hp).elim (hacc p) (hF1' p)
    obtain ⟨ρ, l, hρ, hF⟩ := rec bs cs aσ _ σ l1 aτ _ τ l2 aρ (fl'' || lρ)
      (fun t ht => ih t (List.mem_cons_of_mem _ ht)) hoka.2 hokb.2 (fun x hx => hs x (List.mem_cons_of_mem _ hx))
      hr hr' hf.2 haρ
    exact ⟨ρ, l, by rw [supL_cons_fwd_tr as cs fl'' hρ1 hmρ]; exact hρ, hF⟩

theorem properNode_inv_tr {e : T} (h : properNode_tr e = true) :
    ∃ k as ks, e = .node k as ks ∧ isWrapper k = false ∧ k ≠ "Ign" ∧ k ≠ "IgnL" := by
  cases e with
  | tparam n => simp [properNode_tr] at h
  | eparam n => simp [properNode_tr] at h
  | node k as ks =>
    simp only [properNode_tr, Bool.and_eq_true, Bool.not_eq_true', isIgnored, Bool.or_eq_false_iff, beq_eq_false_iff_ne] at h
    exact ⟨k, as, ks, rfl, h.1, h.2.1, h.2.2⟩

theorem gaOK_const_tr {as : List String} {e : T} (h : gaOK_tr "GenericArgument::Const" as [e] = true) :
    properNode_tr e = true := by
  simp only [gaOK_tr, Bool.and_eq_true, Bool.or_eq_true] at h
  rcases h.1 with h1 | h1
  · simp at h1
  · exact h1.2

theorem gaOK_type_tr {as : List String} {a1 : T} (h : gaOK_tr "GenericArgument::Type" as [a1] = true) :
    (∃ n, a1 = .tparam n) ∨ properNode_tr a1 = true := by
  simp only [gaOK_tr, Bool.and_eq_true, Bool.or_eq_true] at h
  rcases h.2 with h1 | h1
  · simp at h1
  · have h2 := h1.2
    cases a1 with
    | tparam n => exact Or.inl ⟨n, rfl⟩
    | eparam n => exact Or.inr h2
    | node k as ks => exact Or.inr h2

theorem supL_single_right_tr {ks : List T} {b0 : T} {σ : Subst} {l : Bool}
    (h : supL ks [b0] [] false = .yes σ l) :
    ∃ a1 σ1, ks = [a1] ∧ supS a1 (stripTop b0) = .yes σ1 l ∧ Ext σ1 σ := by
  cases ks with
  | nil => cases (supL_nil_inv h).1
  | cons a1 rest =>
    cases rest with
    | nil =>
      obtain ⟨b0', σ1, hb, hs, he⟩ := supL_single h
      cases hb
      exact ⟨a1, σ1, rfl, hs, he⟩
    | cons a2 rest =>
      obtain ⟨_, _, _, _, _, e, _, _, hr⟩ := supL_cons_inv h
      cases e
      rw [supL_cons_nil] at hr; cases hr

theorem allIdentity_mem_tr {σ : Subst} (h : allIdentity σ = true) {p : String × Val} (hp : p ∈ σ) :
    p.2 = .identity := by
  simp only [allIdentity, List.all_eq_true, beq_iff_eq] at h
  exact h p hp

theorem trans_node_tr {S : T → Prop} (hS : Scope_tr S) (k : String) (as : List String) (ks : List T)
    (ih : ∀ t ∈ ks, TransP_tr S t) : TransP_tr S (.node k as ks) := by
  intro b c σ l1 τ l2 hoka hokb hs hst h h' hf
  by_cases hw : isWrapper k = true
  · rw [supS_wrapper _ _ _ hw] at h ⊢
    rcases lastKid_cases ks with rfl | ⟨e, hmem, hl⟩
    · rw [supLast] at h; cases h
    rw [supLast_of_last hl] at h ⊢
    exact ih e hmem b c σ l1 τ l2 (okTL_iff_tr.1 (okT_node_wrapper_tr hw hoka) e hmem) hokb hs hst h h' hf
  have hw : isWrapper k = false := by simpa using hw
  by_cases hi : k = "Ign"
  · subst hi
    exact ⟨[], false, supS_ign _ _ _, fun p hp => by cases hp⟩
  by_cases hil : k = "IgnL"
  · subst hil
    exact ⟨[], _, supS_ignL _ _ _, fun p hp => by cases hp⟩
  obtain ⟨hnode, hkids⟩ := okT_node_tr hw hi hil hoka
  obtain ⟨hlen, _, hpp, hga, _⟩ := nodeOK_parts_tr hnode
  obtain ⟨kb, asb, ksb, rfl, inv1⟩ := supS_frag_inv_tr hw hi hil hnode hokb h
  by_cases hlt : k = "Lifetime"
  · obtain ⟨x, hkk, hx, hy, hσ⟩ := (FragNN_kind_tr inv1).1 hlt
    subst hkk hσ
    obtain ⟨kc, asc, ksc, rfl, inv2⟩ := supS_frag_inv_tr hw hi hil (okT_node_tr hw hi hil hokb).1 (hS.ok hs) h'
    obtain ⟨y, _, hy', hz, _⟩ := (FragNN_kind_tr inv2).1 hlt
    rw [hy] at hy'; cases hy'
    rw [lifetimeIdent_inv hx, lifetimeIdent_inv hz]
    obtain ⟨l, hl⟩ := supS_lifetime x
    exact ⟨[], l, hl, fun p hp => by cases hp⟩
  by_cases hq : k = "QSelf"
  · obtain ⟨ty, rest, ty', hkk, hks, hksb, hsq, hidσ⟩ := (FragNN_kind_tr inv1).2 hq
    subst hkk hks hksb
    obtain ⟨hnodeb, hkidsb⟩ := okT_node_tr hw hi hil hokb
    obtain ⟨kc, asc, ksc, rfl, inv2⟩ := supS_frag_inv_tr hw hi hil hnodeb (hS.ok hs) h'
    obtain ⟨ty2, rest2, ty'', hkc, hksb2, hksc, hsq', hidτ⟩ := (FragNN_kind_tr inv2).2 hq
    subst hkc hksc
    cases hksb2
    rw [okTL_tr] at hkids hkidsb; simp only [Bool.and_eq_true] at hkids hkidsb
    rw [faces_node_tr hw hi hil, facesL_cons_tr] at hf
    simp only [Bool.and_eq_true] at hf
    rw [supS_stripTop_tr] at hsq'
    have hS'' := hS.kids hs (isIgnored_false_tr hi hil) ty'' (by simp)
    obtain ⟨ρ, l, hρ, hF⟩ := ih ty (by simp) (stripTop ty') (stripTop ty'') σ l1 τ l2 hkids.1
      (okT_stripTop_tr _ hkidsb.1) (hS.strip _ hS'') (stripTop_idem_tr _) hsq hsq' (faces_stripTop_tr _ _ hf.1)
    have hidρ : allIdentity ρ = true := by
      simp only [allIdentity, List.all_eq_true, beq_iff_eq]
      intro p hp
      obtain ⟨v, hv, hi⟩ := hF p hp
      have hv' : v = .identity := allIdentity_mem_tr hidσ (lookup_mem σ p.1 v hv)
      subst hv'
      simp only [Img_tr] at hi
      exact allIdentity_mem_tr hidτ (lookup_mem τ p.1 p.2 hi)
    subst hq
    exact ⟨ρ, l, supS_qself_yes as asc ty ty'' rest rest hρ (by simp [hidρ]), hF⟩
  cases inv1 with
  | lifetime _ _ hk => exact absurd hk hlt
  | qself _ _ _ _ hk => exact absurd hk hq
  | gaConst n e hk has hks hkb hasb hksb hσ _ =>
    subst hk has hks hkb hasb hksb hσ
    have hwc : isWrapper "GenericArgument::Const" = false := by simp [isWrapper]
    have hic : "GenericArgument::Const" ≠ "Ign" := by simp
    have hilc : "GenericArgument::Const" ≠ "IgnL" := by simp
    obtain ⟨hnodeb, hkidsb⟩ := okT_node_tr hwc hic hilc hokb
    obtain ⟨kc, asc, ksc, rfl, inv2⟩ := supS_frag_inv_tr hwc hic hilc hnodeb (hS.ok hs) h'
    cases inv2 with
    | gaConst _ _ hk' _ _ _ _ _ _ _ => exact absurd hk' (by simp)
    | lifetime _ _ hk' _ _ _ => exact absurd hk' (by simp)
    | qself _ _ _ _ hk' _ _ _ _ => exact absurd hk' (by simp)
    | dflt hkc _ _ hasc hsup =>
      subst hkc hasc
      obtain ⟨e'', σ1', hksc, hs1, he1⟩ := supL_single hsup
      subst hksc
      obtain ⟨_, _, _, hgac, _⟩ := nodeOK_parts_tr (okT_node_tr hwc hic hilc (hS.ok hs)).1
      obtain ⟨k2, as2, ks2, rfl, hw2, _, _⟩ := properNode_inv_tr (gaOK_const_tr hgac)
      rw [stripTop_plain_tr as2 ks2 hw2] at hs1
      rw [faces_node_tr hwc hic hilc, facesL_cons_tr, stripTop_plain_tr as2 ks2 hw2] at hf
      simp only [Bool.and_eq_true] at hf
      refine ⟨_, _, supS_gaConst n _, ?_⟩
      intro p hp
      simp only [List.mem_singleton] at hp; subst hp
      refine ⟨.ex e, lookup_single _ _, ?_⟩
      simp only [Img_tr]
      refine ⟨_, σ1', l2, okTL_iff_tr.1 hkidsb e (by simp), hs1, he1, hf.1,
        hS.kids hs (isIgnored_false_tr hic hilc) _ (by simp), stripTop_plain_tr as2 ks2 hw2, ?_⟩
      unfold valE_tr; rw [if_neg (by intro e; cases e)]
  | dflt hkk _ _ has hsup =>
    subst hkk has
    obtain ⟨hnodeb, hkidsb⟩ := okT_node_tr hw hi hil hokb
    obtain ⟨kc, asc, ksc, rfl, inv2⟩ := supS_frag_inv_tr hw hi hil hnodeb (hS.ok hs) h'
    cases inv2 with
    | gaConst m e hk has hksb hkc hasc hksc hτ _ =>
      subst hk has hksb hkc hasc hksc hτ
      obtain ⟨a1, σ1, hks, hs1, he1⟩ := supL_single_right_tr hsup
      subst hks
      rw [stripTop] at hs1
      rcases gaOK_type_tr hga with ⟨n, rfl⟩ | hprop
      · rw [supS_tparam_tr] at hs1
        cases hs1
        refine ⟨_, _, supS_gaConst n e, ?_⟩
        intro p hp
        simp only [List.mem_singleton] at hp; subst hp
        refine ⟨valT_tr n (.tparam m), lookup_of_ext_single_tr he1, ?_⟩
        have hτm : lookup [(m, Val.ex e)] m = some (.ex e) := lookup_single _ _
        unfold valT_tr
        split
        · next heq =>
          cases heq
          simp only [Img_tr]; exact hτm
        · simp only [Img_tr]
          exact Or.inr ⟨m, e, rfl, hτm, rfl⟩
      · obtain ⟨k2, as2, ks2, rfl, hw2, hi2, hil2⟩ := properNode_inv_tr hprop
        rw [supS_frag_param_tr hw2 hi2 hil2 (by intro _ _ _ e; cases e)] at hs1; cases hs1
    | lifetime _ _ hk' _ _ _ => exact absurd hk' hlt
    | qself _ _ _ _ hk' _ _ _ _ => exact absurd hk' hq
    | dflt hkc _ _ hasc hsup' =>
      subst hkc hasc
      rw [faces_node_tr hw hi hil] at hf
      obtain ⟨ρ, l, hρ, hF⟩ := transL_tr hS ks ksb ksc [] false σ l1 [] false τ l2 [] false ih hkids hkidsb
        (hS.kids hs (isIgnored_false_tr hi hil)) hsup hsup' hf (fun p hp => by cases hp)
      exact ⟨ρ, l, by rw [(supS_ordinary as ks ksc (specialKind_false_of_frag_tr hw hi hil hlen hlt hq)).1 hpp]; exact hρ, hF⟩

theorem trans_tr {S : T → Prop} (hS : Scope_tr S) : ∀ a : T, TransP_tr S a := by
  apply T.ind
  · intro n b c σ l1 τ l2 _ hokb hs hst h h' hf
    rw [supS_tparam_tr] at h; cases h
    refine ⟨_, _, supS_tparam_tr n c, ?_⟩
    intro p hp
    simp only [List.mem_singleton] at hp; subst hp
    refine ⟨valT_tr n b, lookup_single _ _, ?_⟩
    by_cases hb : b = .tparam n
    · subst hb
      rw [supS_tparam_tr] at h'; cases h'
      have : valT_tr n (.tparam n) = .identity := by simp [valT_tr]
      rw [this]; simp only [Img_tr]
      exact lookup_single _ _
    · have : valT_tr n b = .ty b := by simp [valT_tr, hb]
      rw [this]; simp only [Img_tr]
      exact Or.inl ⟨c, τ, l2, hokb, h', Ext.refl _, hf, hs, hst, rfl⟩
  · intro n b c σ l1 τ l2 _ hokb hs hst h h' hf
    rw [supS_eparam_tr] at h; cases h
    refine ⟨_, _, supS_eparam_tr n c, ?_⟩
    intro p hp
    simp only [List.mem_singleton] at hp; subst hp
    refine ⟨valE_tr n b, lookup_single _ _, ?_⟩
    by_cases hb : b = .eparam n
    · subst hb
      rw [supS_eparam_tr] at h'; cases h'
      have : valE_tr n (.eparam n) = .identity := by simp [valE_tr]
      rw [this]; simp only [Img_tr]
      exact lookup_single _ _
    · have : valE_tr n b = .ex b := by simp [valE_tr, hb]
      rw [this]; simp only [Img_tr]
      exact ⟨c, τ, l2, hokb, h', Ext.refl _, hf, hs, hst, rfl⟩
  · exact trans_node_tr hS

/-! ### The scope of a concrete target -/

theorem mem_subs_node_tr {k : String} {as : List String} {ks : List T} {x : T} :
    x ∈ subs_tr (.node k as ks) ↔ x = .node k as ks ∨ (isIgnored k = false ∧ ∃ t ∈ ks, x ∈ subs_tr t) := by
  rw [subs_tr, List.mem_cons]
  cases hig : isIgnored k
  · simp [mem_subsL_tr]
  · simp

theorem subs_trans_tr : ∀ (C : T) (x : T), x ∈ subs_tr C → ∀ y ∈ subs_tr x, y ∈ subs_tr C := by
  apply T.ind
  · intro n x hx y hy
    simp only [subs_tr, List.mem_singleton] at hx; subst hx; exact hy
  · intro n x hx y hy
    simp only [subs_tr, List.mem_singleton] at hx; subst hx; exact hy
  · intro k as ks ih x hx y hy
    rcases mem_subs_node_tr.1 hx with rfl | ⟨hig, t, ht, hxt⟩
    · exact hy
    · exact mem_subs_node_tr.2 (.inr ⟨hig, t, ht, ih t ht x hxt y hy⟩)

theorem okT_subs_tr : ∀ (C : T), okT_tr C = true → ∀ x ∈ subs_tr C, okT_tr x = true := by
  apply T.ind
  · intro n h x hx
    simp only [subs_tr, List.mem_singleton] at hx; subst hx; exact h
  · intro n h x hx
    simp only [subs_tr, List.mem_singleton] at hx; subst hx; exact h
  · intro k as ks ih h x hx
    rcases mem_subs_node_tr.1 hx with rfl | ⟨hig, t, ht, hxt⟩
    · exact h
    · have hk : okTL_tr ks = true := by
        rw [okT_tr, if_neg (by simp [hig])] at h
        by_cases hw : isWrapper k = true
        · rw [if_pos hw] at h; exact h
        · rw [if_neg hw] at h; simp only [Bool.and_eq_true] at h; exact h.2
      exact ih t ht (okTL_iff_tr.1 hk t ht) x hxt

theorem presInj_spec_tr {c : T} (h : presInj_tr c = true) {u v : T} (hu : u ∈ subs_tr c) (hv : v ∈ subs_tr c)
    (he : erase u = erase v) : stripTop u = stripTop v := by
  simp only [presInj_tr, List.all_eq_true, List.mem_map, forall_exists_index, and_imp,
    forall_apply_eq_imp_iff₂, Bool.or_eq_true, bne_iff_ne, ne_eq, beq_iff_eq] at h
  rcases h u hu v hv with h1 | h1
  · exact absurd he h1
  · exact h1

/-- the reachable sub-trees of a target of the fragment in which presentation is used consistently -/
theorem scope_of_tr {c : T} (hok : okT_tr c = true) (hinj : presInj_tr c = true) : Scope_tr (· ∈ subs_tr c) where
  kids := by
    intro k as ks h hig t ht
    exact subs_trans_tr c _ h t (mem_subs_node_tr.2 (.inr ⟨hig, t, ht, self_mem_subs_tr t⟩))
  ok := fun h => okT_subs_tr c hok _ h
  inj := fun hu hv he => presInj_spec_tr hinj hu hv he

/-- transitivity on the fragment, with what the answer of `a → c` is made of: every entry is the image (`Img_tr`) under
    the match `b → c` of the entry of `a → b` for the same parameter -/
theorem sup_trans_answer_tr (a b c : T) (σ τ : Subst) (l1 l2 : Bool) (ha : okT_tr a = true) (hb : okT_tr b = true)
    (hc : okT_tr c = true) (hf : faces_tr b (stripTop c) = true) (hinj : presInj_tr c = true)
    (h1 : sup a b = .yes σ l1) (h2 : sup b c = .yes τ l2) :
    ∃ ρ l, sup a c = .yes ρ l ∧
      ∀ p ∈ ρ, ∃ v, lookup σ p.1 = some v ∧ Img_tr (· ∈ subs_tr c) τ p.1 v p.2 := by
  have hS := scope_of_tr hc hinj
  unfold sup at h1 h2 ⊢
  rw [supS_stripTop_tr] at h2
  exact trans_tr hS a (stripTop b) (stripTop c) σ l1 τ l2 ha (okT_stripTop_tr b hb)
    (hS.strip c (self_mem_subs_tr c)) (stripTop_idem_tr c) h1 h2 (faces_stripTop_tr _ b hf)

/-- transitivity of "the matcher answers yes" on the fragment -/
theorem sup_trans_tr (a b c : T) (σ τ : Subst) (l1 l2 : Bool) (ha : okT_tr a = true) (hb : okT_tr b = true)
    (hc : okT_tr c = true) (hf : faces_tr b (stripTop c) = true) (hinj : presInj_tr c = true)
    (h1 : sup a b = .yes σ l1) (h2 : sup b c = .yes τ l2) : ∃ ρ l, sup a c = .yes ρ l :=
  (sup_trans_answer_tr a b c σ τ l1 l2 ha hb hc hf hinj h1 h2).imp fun _ => Exists.imp fun _ => And.left

end DI

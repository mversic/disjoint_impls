/-
  Inherent mode of the generators (`Props/C17.lean`): the helper trait derived from the first block
  (`helperTraitOfInherent`), the helper impls (`helperImpls` with the generated helper path) and the main inherent
  impl (`mainImplInherent`) of `Expand.lean` pass `expandOKB` and the stronger `expandOKInh_inh` — the counterpart of
  `Lemmas/ExpandLemmas.lean` (trait mode). Core-only.

  Names declared here carry the suffix `_inh`.
-/
import DisjointImpls.Lemmas.ExpandLemmas
import DisjointImpls.Lemmas.CanonLemmas
namespace DI

open XOK

/-! ### paths built by the generators -/

theorem lastSegOf_pathNode_inh (lc : T) (xs : List T) (l : T) : lastSegOf (pathNode lc (xs ++ [l])) = some l := by
  simp [lastSegOf, pathNode, tList, pathSegments]

theorem initSegsOf_pathNode_inh (lc : T) (xs : List T) (l : T) : initSegsOf (pathNode lc (xs ++ [l])) = xs := by
  simp [initSegsOf, pathNode, tList, pathSegments]

theorem pathLead_pathNode_inh (lc : T) (segs : List T) : pathLead (pathNode lc segs) = lc := by
  simp [pathLead, pathNode, tList]

/-- the arguments `gen_inherent_self_ty_args` prints: the sorted lifetimes, then the sorted other parameters -/
def inhArgs_inh (generics : T) : List T :=
  (sortStr (lifetimeParamIdents generics)).map lifetimeArg ++
    (sortStr (otherParamIdents generics)).map (fun x => gaType (mkTypeIdent x))

/-- `inherentSelfTy` read back: same qualified self, same leading segments, the last segment keeps its identifier and
    gets the arguments `inhArgs_inh` -/
theorem inherentSelfTy_inv_inh {st gen r : T} (h : inherentSelfTy st gen = some r) :
    ∃ q p id, st = .node "Type::Path" [] [q, p] ∧
      r = tyPath q (pathNode (pathLead p) (initSegsOf p ++ [.node "PathSegment" [] [id, angle (inhArgs_inh gen)]])) ∧
      (∃ a, lastSegOf p = some (.node "PathSegment" [] [id, a])) := by
  unfold inherentSelfTy at h
  split at h
  · next q p =>
    split at h
    · next l hl =>
      split at h
      · split at h
        · next id a _ =>
          cases h
          exact ⟨q, p, id, rfl, rfl, a, hl⟩
        · cases h
      · cases h
    · cases h
  · cases h

theorem segArgList_angle_inh (id : T) (args : List T) :
    segArgList (.node "PathSegment" [] [id, angle args]) = some args := by
  simp [segArgList, angle, tList, ignNone]

/-- the helper-trait reference of the main inherent impl of a family whose first block has self-type identifier `x`
    and generics `gen` -/
def inhHref_inh (x : String) (idx : Nat) (abg : ABG) (gen : T) : T :=
  helperRef (genIdentStr x idx) abg.idents (inhArgs_inh gen)

/-- the generics of the first block as the generators of inherent mode read them (where-clause dropped) -/
def inhEg_inh (lt : T) (ps : List T) (gt : T) : T := .node "Generics" [] [lt, tList ps, gt, tNone]

/-- the state the indexer of the main impl starts from: the first block's parameters, none indexed -/
def inhIx0_inh (eg : T) : IxState :=
  ⟨kindNames eg "GenericParam::Lifetime", kindNames eg "GenericParam::Type", kindNames eg "GenericParam::Const", [], [], [], 0⟩

theorem mainImplInherent_ok_inv_inh {idx : Nat} {g : T × ABG × List Blk} {m : T}
    (h : mainImplInherent idx g = .ok (some m)) :
    ∃ first rest a d u lt ps gt wc tr q sp items x params finals,
      g.2.2 = first :: rest ∧
      first.item = .node "ItemImpl" [] [a, d, u, .node "Generics" [] [lt, tList ps, gt, wc], tr,
        .node "Type::Path" [] [q, sp], tList items] ∧
      lastSegIdentOf sp = some x ∧
      (inherentSelfTy (.node "Type::Path" [] [q, sp]) (inhEg_inh lt ps gt)).isSome = true ∧
      genAll (items.map (delegateImplItem (inhHref_inh x idx g.2.1 (inhEg_inh lt ps gt)))) = .ok finals ∧
      (∃ (s : IxState) (cps : List T), SameNames (inhIx0_inh (inhEg_inh lt ps gt)) s ∧
        allSome (s.ixCo.map (fun xi => newConstParam (inhEg_inh lt ps gt) xi.1)) = some cps ∧
        params = s.ixLt.map (fun xi => newLifetimeParam xi.1) ++ s.ixTy.map (fun xi => newTypeParam xi.1) ++ cps) ∧
      m = .node "ItemImpl" [] [a, d, u,
        .node "Generics" [] [lt, tList params, gt,
          mkWhere (assocBoundPredicates g.2.1 (inhHref_inh x idx g.2.1 (inhEg_inh lt ps gt)))],
        tr, .node "Type::Path" [] [q, sp], tList finals] := by
  unfold mainImplInherent at h
  split at h
  · cases h
  · next first rest hg =>
    split at h
    · next a d u lt ps gt wc tr st items hitem =>
      simp only at h
      split at h
      · next q sp =>
        split at h
        · next x q' argPath hx hst =>
          obtain ⟨q0, p0, id, hst0, hr, a0, hl0⟩ := inherentSelfTy_inv_inh hst
          cases hst0
          simp only [tyPath] at hr
          injection hr with _ _ hr
          injection hr with _ hr
          injection hr with hr _
          subst hr
          simp only [lastSegOf_pathNode_inh, segArgList_angle_inh, Option.getD_some] at h
          split at h
          · next cps finals hc hf =>
            cases h
            exact ⟨first, rest, a, d, u, lt, ps, gt, wc, tr, q, sp, items, x, _, finals, hg, hitem, hx,
              by rw [inhEg_inh, hst]; rfl, hf,
              ⟨_, cps, sameNames_rel.trans (ixT_rel sameNames_rel _ _)
                (ixL_rel sameNames_rel _ (fun t _ => ixT_rel sameNames_rel t) _), hc, rfl⟩, rfl⟩
          · cases h
          · cases h
          · cases h
        · cases h
        · cases h
      · cases h
    · cases h

/-! ### the main inherent impl passes `checkMain` -/

theorem checkMain_of_mainInherent_inh {idx : Nat} {g : T × ABG × List Blk} {m : T}
    (hm : mainImplInherent idx g = .ok (some m)) (hwf : expandWF g = true) :
    checkMain true g.1 (keysOf g.2.1.idents) m = true := by
  obtain ⟨first, rest, a, d, u, lt, ps, gt, wc, tr, q, sp, items, x, params, finals, hg, hitem, hx, hst, hf, hpar, rfl⟩ :=
    mainImplInherent_ok_inv_inh hm
  simp only [expandWF, Bool.and_eq_true, hg, List.all_eq_true, Bool.not_eq_true'] at hwf
  unfold checkMain
  exact checkMain_where g.2.1 (fun kx h => (hwf.2 kx h).1) (fun kx h => (hwf.2 kx h).2) _ _ _ _ _ _ [] ..

/-! ### the helper impls of inherent mode -/

/-- the items of a member with every visibility removed (disjoint.rs:24-36) -/
def visErased_inh : T → T
  | .node "List" [] items => tList (items.map setVisInherited)
  | t => t

theorem mapImplItems_impl7_inh (a d u g tr s items : T) :
    mapImplItems setVisInherited (.node "ItemImpl" [] [a, d, u, g, tr, s, items]) =
      .node "ItemImpl" [] [a, d, u, g, tr, s, visErased_inh items] := by
  unfold mapImplItems visErased_inh
  split
  · next heq => injection heq with _ _ heq; simp only [List.cons.injEq, and_true] at heq
                obtain ⟨rfl, rfl, rfl, rfl, rfl, rfl, rfl⟩ := heq; rfl
  · next hne =>
    split
    · next l => exact absurd rfl (hne a d u g tr s l)
    · rfl

/-- a helper impl of inherent mode, any generated path `p0`: `helperImpl_trait_inv` read for the member with `p0` as its
    trait, and the items' visibilities removed -/
theorem helperImpl_inherent_shape_inh {idx : Nat} {p0 : T} {idents : List (BKey × String)} {row : List (Option T)}
    {member h : T} (hh : helperImpl idx (some p0) idents row member = some h) :
    ∃ a d u g tr s items x args na, member = .node "ItemImpl" [] [a, d, u, g, tr, s, items] ∧
      lastSegOf p0 = some (.node "PathSegment" [] [.node "Ident" [x] [], args]) ∧
      ((args = noArgs ∧ na = angle (rowArgs idents row)) ∨
       (∃ c2 old, args = .node "PathArguments::AngleBracketed" [] [c2, .node "List" [] old] ∧
          na = .node "PathArguments::AngleBracketed" [] [c2, tList (rowArgs idents row ++ old)])) ∧
      h = .node "ItemImpl" [] [a, d, u, g,
        tSome (.node "Tuple" [] [tNone, pathNode noLead [.node "PathSegment" [] [tIdent (genIdentStr x idx), na]]]),
        s, visErased_inh items] := by
  rw [helperImpl_some] at hh
  obtain ⟨a, d, u, g, b, p, s, items', x, args, na, hm, hl, hna, rfl⟩ := helperImpl_trait_inv hh
  unfold setImplTrait at hm
  split at hm
  · next a' d' u' g' tr s' items =>
    rw [mapImplItems_impl7_inh] at hm
    cases hm
    exact ⟨a, d, u, g, tr, s, items, x, args, na, rfl, hl, hna, rfl⟩
  · next hne =>
    -- a member that is no `ItemImpl` of seven children is left alone and has no trait path
    unfold mapImplItems at hm
    split at hm
    · exact absurd rfl (hne _ _ _ _ _ _ _)
    · exact absurd hm (hne _ _ _ _ _ _ _)

theorem helperImpl_inherent_inv_inh {idx : Nat} {p0 id : T} {args0 : List T} {idents : List (BKey × String)}
    {row : List (Option T)} {member h : T}
    (hl : lastSegOf p0 = some (.node "PathSegment" [] [id, angle args0]))
    (hh : helperImpl idx (some p0) idents row member = some h) :
    ∃ x a d u g tr s items, id = .node "Ident" [x] [] ∧ member = .node "ItemImpl" [] [a, d, u, g, tr, s, items] ∧
      h = .node "ItemImpl" [] [a, d, u, g,
        tSome (.node "Tuple" [] [tNone, pathNode noLead
          [.node "PathSegment" [] [tIdent (genIdentStr x idx), angle (rowArgs idents row ++ args0)]]]),
        s, visErased_inh items] := by
  obtain ⟨a, d, u, g, tr, s, items, x, args, na, rfl, hl', hna, rfl⟩ := helperImpl_inherent_shape_inh hh
  rw [hl] at hl'
  cases hl'
  rcases hna with ⟨h1, _⟩ | ⟨c2, old, h1, rfl⟩
  · simp [angle, noArgs] at h1
  · cases h1
    exact ⟨x, a, d, u, g, tr, s, items, rfl, rfl, rfl⟩

/-- the family is an inherent one: its first block has no trait path -/
def inherentFamily_inh (g : T × ABG × List Blk) : Bool :=
  match g.2.2 with
  | first :: _ => (implTraitPath first.item).isNone
  | [] => false

theorem typeAsPath_inv_inh {st p : T} (h : typeAsPath st = some p) : st = .node "Type::Path" [] [tNone, p] := by
  unfold typeAsPath at h
  split at h
  · cases h; rfl
  · cases h

/-- `helperImpls` in inherent mode, read back: the path handed to `helperImpl` is the first block's self-type path with the
    arguments `inhArgs_inh` on its last segment (leading segments and leading `::` as the user wrote them — `helperImpl`
    then uses its LAST segment only), and every member is passed through `helperImpl` with that path -/
theorem helperImpls_inherent_inv_inh {idx : Nat} {g : T × ABG × List Blk} {hs : List T} {first : Blk} {rest : List Blk}
    (hg : g.2.2 = first :: rest) (hnone : implTraitPath first.item = none) (hh : helperImpls idx g = some hs) :
    ∃ s gen p sid, implSelfTy first.item = some s ∧ implGenerics first.item = some gen ∧
      s = .node "Type::Path" [] [tNone, p] ∧
      (∃ a, lastSegOf p = some (.node "PathSegment" [] [sid, a])) ∧
      let p0 := pathNode (pathLead p) (initSegsOf p ++ [.node "PathSegment" [] [sid, angle (inhArgs_inh gen)]])
      ((List.zip (g.2.2.map (·.item)) g.2.1.payloads).map
          (fun mr => helperImpl idx (some p0) g.2.1.idents mr.2 mr.1)).all Option.isSome = true ∧
      hs = ((List.zip (g.2.2.map (·.item)) g.2.1.payloads).map
          (fun mr => helperImpl idx (some p0) g.2.1.idents mr.2 mr.1)).filterMap id := by
  obtain ⟨ip, hip, hall, rfl⟩ := helperImpls_inv hh
  obtain ⟨s, gen, st, p0, hs', hgen, hst, hp, rfl⟩ : ∃ s gen st p0, implSelfTy first.item = some s ∧
      implGenerics first.item = some gen ∧ inherentSelfTy s gen = some st ∧ typeAsPath st = some p0 ∧ ip = some p0 := by
    simpa [hnone] using hip first rest hg
  obtain ⟨q, p, sid, rfl, hr, a, hl⟩ := inherentSelfTy_inv_inh hst
  have := typeAsPath_inv_inh hp
  rw [hr] at this
  cases this
  exact ⟨_, gen, p, sid, hs', hgen, rfl, ⟨a, hl⟩, hall, rfl⟩

/-- the per-member check of `ExpandOK` in inherent mode (generics, self type and safety qualifier of the member kept, a trait
    path present) holds of a generated helper impl -/
theorem checkHelper_inherent_inh {idx : Nat} {p0 sid : T} {args0 : List T} {idents : List (BKey × String)}
    {row : List (Option T)} {member h : T} (keys : List CKey) (θ : Subst)
    (hl : lastSegOf p0 = some (.node "PathSegment" [] [sid, angle args0]))
    (hh : helperImpl idx (some p0) idents row member = some h) :
    checkHelper true keys member h row θ = true := by
  obtain ⟨x, a, d, u, g, tr, s, items, rfl, rfl, rfl⟩ := helperImpl_inherent_inv_inh hl hh
  simp [checkHelper, traitPathOf, kid, kids, kind, tSome]

theorem checkHelpers_inherent_inh {idx : Nat} {p0 sid : T} {args0 : List T} (idents : List (BKey × String))
    (keys : List CKey) (hl : lastSegOf p0 = some (.node "PathSegment" [] [sid, angle args0])) :
    ∀ (ms : List T) (rows : List (List (Option T))) (thetas : List Subst),
      ms.length ≤ rows.length →
      ((List.zip ms rows).map (fun mr => helperImpl idx (some p0) idents mr.2 mr.1)).all Option.isSome = true →
      (((List.zip ms rows).map (fun mr => helperImpl idx (some p0) idents mr.2 mr.1)).filterMap id).length = ms.length ∧
      checkHelpers true keys ms
        (((List.zip ms rows).map (fun mr => helperImpl idx (some p0) idents mr.2 mr.1)).filterMap id) rows thetas = true
  | [], rows, thetas, _, _ => by simp [checkHelpers]
  | m :: ms, [], thetas, hlen, _ => by simp at hlen
  | m :: ms, r :: rows, thetas, hlen, hall => by
      simp only [List.zip_cons_cons, List.map_cons, List.all_cons, Bool.and_eq_true] at hall
      cases hh : helperImpl idx (some p0) idents r m with
      | none => rw [hh] at hall; simp at hall
      | some h =>
        obtain ⟨ih1, ih2⟩ := checkHelpers_inherent_inh idents keys hl ms rows thetas.tail (by simpa using hlen) hall.2
        simp only [List.zip_cons_cons, List.map_cons, hh, List.filterMap_cons, id, List.length_cons, ih1,
          checkHelpers, List.headD_cons, List.tail_cons, ih2, Bool.and_true, true_and]
        exact checkHelper_inherent_inh keys _ hl hh

/-- `ExpandOK` holds of the model's expansion in inherent mode -/
theorem expandOK_of_expand_inherent_inh (idx : Nat) (g : T × ABG × List Blk) (hs : List T) (m : T)
    (hh : helperImpls idx g = some hs) (hm : mainImplInherent idx g = .ok (some m))
    (hwf : expandWF g = true) (hinh : inherentFamily_inh g = true) :
    expandOKB g (thetasOf g) hs m = true := by
  have hmain := checkMain_of_mainInherent_inh hm hwf
  obtain ⟨first, rest, a, d, u, lt, ps, gt, wc, tr, q, sp, items, x, params, finals, hg, hitem, hx, hst, hf, hpar, rfl⟩ :=
    mainImplInherent_ok_inv_inh hm
  have hwf' := hwf
  simp only [expandWF, Bool.and_eq_true, hg, List.all_eq_true, Bool.not_eq_true', beq_iff_eq] at hwf'
  obtain ⟨⟨_, hgid⟩, hid⟩ := hwf'
  have hnone : implTraitPath first.item = none := by
    simpa [inherentFamily_inh, hg] using hinh
  have hinhflag : (kind (kid g.1 0) == "None") = true := by
    rw [hgid]; simp [mkHdr, hnone, kid, kids, kind]
  have hplen := payloads_length_of_wf hwf
  obtain ⟨s, gen, p, sid, _, _, _, ⟨a0, hl0⟩, hall, rfl⟩ := helperImpls_inherent_inv_inh hg hnone hh
  obtain ⟨hlen, hchk⟩ := checkHelpers_inherent_inh (idx := idx) g.2.1.idents (keysOf g.2.1.idents)
    (lastSegOf_pathNode_inh (pathLead p) (initSegsOf p) _) (g.2.2.map (·.item)) g.2.1.payloads (thetasOf g)
    (by rw [hplen]; simp) hall
  unfold expandOKB expandOKCore
  simp only [hinhflag, Bool.and_eq_true, beq_iff_eq]
  exact ⟨⟨hlen, hchk⟩, hmain⟩

/-! ### the items of the main inherent impl delegate to the helper trait (`ImplItemResolver`) -/

theorem genAll_ok_inv_inh {α : Type} : ∀ {l : List (Gen α)} {r : List α}, genAll l = .ok r →
    l = r.map Gen.ok
  | [], r, h => by simp [genAll] at h; subst h; rfl
  | .panic :: l, r, h => by simp [genAll] at h
  | .unmodelled :: l, r, h => by
      simp only [genAll] at h
      split at h <;> cases h
  | .ok a :: l, r, h => by
      simp only [genAll] at h
      split at h
      · next r' hr => cases h; simp [genAll_ok_inv_inh hr]
      · cases h
      · cases h

/-- everything of an item except its last child (the value of a const, the type of an associated type, the body of
    a function) is kept: attributes, visibility, defaultness, name, generics, type / signature -/
def itemKeeps_inh (it fin : T) : Bool :=
  kind fin == kind it && atoms fin == atoms it && (kids fin).length == (kids it).length &&
    (kids fin).dropLast == (kids it).dropLast

/-- the item is a const / type / function item of the shape `syn` produces -/
def itemShaped_inh : T → Bool
  | .node "ImplItem::Const" [] [_, _, _, _, _, _, _] => true
  | .node "ImplItem::Type" [] [_, _, _, _, _, _] => true
  | .node "ImplItem::Fn" [] [_, _, _, .node "Signature" [] [_, _, _, _, _, _, .node "List" [] _, _, _], _] => true
  | _ => false

/-- the last child of `fin` is the delegation of item `it` to `<Self as href>::name`: a path expression for a const,
    a path type for an associated type, the call `<Self as href>::name(args…)` with the parameter patterns re-read as
    expressions for a function -/
def delegatesTo_inh (href it fin : T) : Bool :=
  let body := lastOf (kids fin)
  if kind it == "ImplItem::Const" then
    body == .node "Expr::Path" [] [ignAttrs, (selfAsHelperPath href (kid it 3)).1, (selfAsHelperPath href (kid it 3)).2]
  else if kind it == "ImplItem::Type" then
    body == tyPath (selfAsHelperPath href (kid it 3)).1 (selfAsHelperPath href (kid it 3)).2
  else
    let sig := kid it 3
    match allSome ((kids (kid sig 6)).map fnArgAsExpr) with
    | some args =>
        body == .node "Block" [] [tList [.node "Stmt::Expr" [] [.node "Expr::Call" [] [ignAttrs,
          .node "Expr::Path" [] [ignAttrs, (selfAsHelperPath href (kid sig 4)).1, (selfAsHelperPath href (kid sig 4)).2],
          tList args], noLead]]]
    | none => false

theorem delegateImplItem_spec_inh {href it fin : T} (h : delegateImplItem href it = .ok fin) :
    itemKeeps_inh it fin = true ∧ (itemShaped_inh it = true → delegatesTo_inh href it fin = true) := by
  unfold delegateImplItem at h
  split at h
  · cases h
    exact ⟨by simp [itemKeeps_inh, kind, atoms, kids],
      fun _ => by simp [delegatesTo_inh, kind, kids, kid, lastOf, selfAsHelperPath]⟩
  · cases h
    exact ⟨by simp [itemKeeps_inh, kind, atoms, kids],
      fun _ => by simp [delegatesTo_inh, kind, kids, kid, lastOf, selfAsHelperPath]⟩
  · next a v d c as_ u abi id g inputs variadic out blk =>
    split at h
    · cases h
    · split at h
      · cases h
      · next args hargs =>
        cases h
        exact ⟨by simp [itemKeeps_inh, kind, atoms, kids, tList],
          fun _ => by simp [delegatesTo_inh, kind, kids, kid, lastOf, tList, hargs, selfAsHelperPath]⟩
  · next h1 h2 h3 =>
    cases h
    refine ⟨by simp [itemKeeps_inh], ?_⟩
    intro hs
    unfold itemShaped_inh at hs
    split at hs
    · exact absurd rfl (h1 _ _ _ _ _ _ _)
    · exact absurd rfl (h2 _ _ _ _ _ _)
    · exact absurd rfl (h3 _ _ _ _ _ _ _ _ _ _ _ _ _)
    · cases hs

theorem getD_of_dropLast_inh {l1 l2 : List T} (hl : l1.length = l2.length) (hd : l1.dropLast = l2.dropLast)
    (i : Nat) (hi : i + 1 < l2.length) (d : T) : l1.getD i d = l2.getD i d := by
  have h1 : l1.dropLast[i]? = l1[i]? := by
    rw [List.getElem?_dropLast]; simp; omega
  have h2 : l2.dropLast[i]? = l2[i]? := by
    rw [List.getElem?_dropLast]; simp; omega
  simp only [List.getD_eq_getElem?_getD, ← h1, ← h2, hd]

/-- an item that is kept has the kind and the children 0–3 (attributes, visibility, defaultness, name / signature) of the
    original -/
theorem itemKeeps_vis_inh {it fin : T} (hk : itemKeeps_inh it fin = true) (hs : itemShaped_inh it = true) :
    kind fin = kind it ∧ kid fin 0 = kid it 0 ∧ kid fin 1 = kid it 1 ∧ kid fin 2 = kid it 2 ∧ kid fin 3 = kid it 3 := by
  simp only [itemKeeps_inh, Bool.and_eq_true, beq_iff_eq] at hk
  obtain ⟨⟨⟨hk1, _⟩, hlen⟩, hdl⟩ := hk
  have h5 : 5 ≤ (kids it).length := by
    unfold itemShaped_inh at hs
    split at hs
    · simp [kids]
    · simp [kids]
    · simp [kids]
    · cases hs
  refine ⟨hk1, ?_, ?_, ?_, ?_⟩ <;> exact getD_of_dropLast_inh hlen hdl _ (by omega) _

/-- the helper reference the main impl bounds `Self` by (`where Self: _Helper<…>`) -/
def mainHref_inh (m : T) : Option T := selfPred (wherePredsOf (kid m 3))

theorem mainHref_shape_inh (a d u lt : T) (params : List T) (gt : T) (abg : ABG) (href tr st finals : T) :
    mainHref_inh (.node "ItemImpl" [] [a, d, u,
      .node "Generics" [] [lt, tList params, gt, mkWhere (assocBoundPredicates abg href)], tr, st, finals]) = some href :=
  selfPred_assocBoundPredicates [] abg href

theorem items_delegate_inh {idx : Nat} {g : T × ABG × List Blk} {m : T}
    (hm : mainImplInherent idx g = .ok (some m)) :
    ∃ first rest href, g.2.2 = first :: rest ∧ mainHref_inh m = some href ∧
      (implItems m).length = (implItems first.item).length ∧
      ∀ (i : Nat) (h1 : i < (implItems first.item).length) (h2 : i < (implItems m).length),
        itemKeeps_inh (implItems first.item)[i] (implItems m)[i] = true ∧
        (itemShaped_inh (implItems first.item)[i] = true →
          delegatesTo_inh href (implItems first.item)[i] (implItems m)[i] = true) := by
  obtain ⟨first, rest, a, d, u, lt, ps, gt, wc, tr, q, sp, items, x, params, finals, hg, hitem, hx, hst, hf, hpar, rfl⟩ :=
    mainImplInherent_ok_inv_inh hm
  generalize inhHref_inh x idx g.2.1 (inhEg_inh lt ps gt) = href at hf
  refine ⟨first, rest, href, hg, ?_, ?_⟩
  · exact mainHref_shape_inh ..
  · obtain ⟨hlen, hget⟩ := map_eq_map_get (genAll_ok_inv_inh hf)
    rw [hitem]
    simp only [implItems, tList]
    exact ⟨hlen, fun i h1 h2 => delegateImplItem_spec_inh (hget i h1 h2)⟩

/-! ### the two sorts agree: `sort_by_key` on the declared parameters (helper_trait.rs:34-39) and `sort()` on the
    identifiers (`gen_inherent_self_ty_args`, lib.rs:1006-1007) -/

theorem sortStr_perm_sorted_inh (l : List String) : (sortStr l).Perm l ∧ (sortStr l).Pairwise (· ≤ ·) :=
  foldr_ins_perm_sorted (ins := sortStr.ins) (before := fun y x => y < x) (fun _ => rfl) (fun _ _ _ => rfl)
    (fun h => String.not_lt.1 (String.lt_asymm h)) String.not_lt.1 String.le_trans l

/-- the sort key of `params.sort_by_key(|param| (!is_lifetime, ident))` -/
def pkey_inh (p : T) : Bool × String := (!isLifetimeParam p, (paramIdent p).getD "")

def pkLe_inh (a b : Bool × String) : Prop := a.1 < b.1 ∨ (a.1 = b.1 ∧ a.2 ≤ b.2)

instance (a b : Bool × String) : Decidable (pkLe_inh a b) := by unfold pkLe_inh; exact inferInstance

theorem bool_lt_facts_inh : (false < true) ∧ ¬ (true < false) ∧ ¬ (false < false) ∧ ¬ (true < true) := by decide

theorem pkLe_total_inh (a b : Bool × String) : pkLe_inh a b ∨ pkLe_inh b a := by
  obtain ⟨a1, a2⟩ := a
  obtain ⟨b1, b2⟩ := b
  obtain ⟨f1, f2, f3, f4⟩ := bool_lt_facts_inh
  unfold pkLe_inh
  cases a1 <;> cases b1 <;> simp [f1, f2, f3, f4] <;> exact String.le_total _ _

theorem pkLe_trans_inh {a b c : Bool × String} (h1 : pkLe_inh a b) (h2 : pkLe_inh b c) : pkLe_inh a c := by
  obtain ⟨a1, a2⟩ := a
  obtain ⟨b1, b2⟩ := b
  obtain ⟨c1, c2⟩ := c
  obtain ⟨f1, f2, f3, f4⟩ := bool_lt_facts_inh
  unfold pkLe_inh at *
  cases a1 <;> cases b1 <;> cases c1 <;> simp [f1, f2, f3, f4] at * <;> exact String.le_trans h1 h2

theorem insertParamSorted_cons_inh (p q : T) (qs : List T) :
    insertParamSorted p (q :: qs) =
      if pkLe_inh (pkey_inh q) (pkey_inh p) then q :: insertParamSorted p qs else p :: q :: qs := by
  simp only [insertParamSorted, pkLe_inh, pkey_inh, Bool.or_eq_true, Bool.and_eq_true, decide_eq_true_eq, beq_iff_eq]
  congr

theorem sortParams_perm_sorted_inh (l : List T) :
    (sortParams l).Perm l ∧ (sortParams l).Pairwise (fun a b => pkLe_inh (pkey_inh a) (pkey_inh b)) :=
  foldr_ins_perm_sorted (ins := insertParamSorted) (le := fun a b => pkLe_inh (pkey_inh a) (pkey_inh b))
    (before := fun q p => pkLe_inh (pkey_inh q) (pkey_inh p)) (fun _ => rfl) insertParamSorted_cons_inh id
    (fun h => (pkLe_total_inh _ _).resolve_right h) pkLe_trans_inh l

/-- `paramIdent` reads the kind of a parameter and the second child of its only child, nothing else -/
theorem paramIdent_congr_inh (k c : String) (a a' id : T) (r r' : List T) :
    paramIdent (.node k [] [.node c [] (a' :: id :: r')]) = paramIdent (.node k [] [.node c [] (a :: id :: r)]) := by
  conv => rhs; unfold paramIdent
  split
  · next heq => cases heq; rw [paramIdent]
  · next heq => cases heq; rw [paramIdent]
  · next heq => cases heq; rw [paramIdent]
  · next h1 h2 h3 =>
    rw [paramIdent.eq_4]
    · intro a0 x rest heq; cases heq; exact h1 _ _ _ rfl
    · intro a0 x rest heq; cases heq; exact h2 _ _ _ rfl
    · intro a0 x rest heq; cases heq; exact h3 _ _ _ rfl

theorem paramIdent_bareParam_inh (p : T) : paramIdent (bareParam p) = paramIdent p := by
  unfold bareParam
  split
  · exact paramIdent_congr_inh ..
  · exact paramIdent_congr_inh ..
  · exact paramIdent_congr_inh ..
  · rfl

theorem isLifetimeParam_bareParam_inh (p : T) : isLifetimeParam (bareParam p) = isLifetimeParam p := by
  unfold bareParam
  split <;> simp [isLifetimeParam]

/-- the name a declared parameter is sorted by -/
def pname_inh (p : T) : String := (paramIdent p).getD ""

def ltNames_inh (l : List T) : List String := (l.filter isLifetimeParam).map pname_inh
def otNames_inh (l : List T) : List String := (l.filter (fun p => !isLifetimeParam p)).map pname_inh

/-- every declared parameter has an identifier (always the case for a parsed parameter list) -/
def paramsNamed_inh (ps : List T) : Bool := ps.all (fun p => (paramIdent p).isSome)

theorem filterMap_named_inh : ∀ (l : List T), paramsNamed_inh l = true → ∀ (c : T → Bool),
    l.filterMap (fun p => if c p then paramIdent p else none) = (l.filter c).map pname_inh
  | [], _, _ => rfl
  | p :: ps, h, c => by
      simp only [paramsNamed_inh, List.all_cons, Bool.and_eq_true] at h
      have ih := filterMap_named_inh ps (by simpa [paramsNamed_inh] using h.2) c
      cases hp : paramIdent p with
      | none => rw [hp] at h; simp at h
      | some x =>
        cases hc : c p with
        | true => simp [hc, hp, ih, pname_inh]
        | false => simp [hc, ih]

theorem lifetimeParamIdents_eq_inh {gen : T} (h : paramsNamed_inh (genericsParams gen) = true) :
    lifetimeParamIdents gen = ltNames_inh (genericsParams gen) := by
  unfold lifetimeParamIdents ltNames_inh
  rw [← filterMap_named_inh _ h]
  congr 1
  funext p
  unfold isLifetimeParam
  split <;> simp

theorem otherParamIdents_eq_inh {gen : T} (h : paramsNamed_inh (genericsParams gen) = true) :
    otherParamIdents gen = otNames_inh (genericsParams gen) := by
  unfold otherParamIdents otNames_inh
  rw [← filterMap_named_inh _ h]
  congr 1
  funext p
  unfold isLifetimeParam
  split <;> simp

theorem names_map_bare_inh (c : T → Bool) (hc : ∀ p, c (bareParam p) = c p) (ps : List T) :
    ((ps.map bareParam).filter c).map pname_inh = (ps.filter c).map pname_inh := by
  induction ps with
  | nil => rfl
  | cons p ps ih =>
    simp only [List.map_cons, List.filter_cons, hc]
    split <;> simp [ih, pname_inh, paramIdent_bareParam_inh]

theorem ltNames_map_bare_inh (ps : List T) : ltNames_inh (ps.map bareParam) = ltNames_inh ps :=
  names_map_bare_inh _ isLifetimeParam_bareParam_inh ps

theorem otNames_map_bare_inh (ps : List T) : otNames_inh (ps.map bareParam) = otNames_inh ps :=
  names_map_bare_inh _ (fun p => by rw [isLifetimeParam_bareParam_inh]) ps

/-- among parameters that are all lifetimes, or all not, `sort_by_key(|p| (!is_lifetime, ident))` orders by the identifier:
    it lists them in the order `sort()` puts their identifiers in -/
theorem names_sortParams_inh (c : T → Bool)
    (hc : ∀ a b, c a = true → c b = true → isLifetimeParam a = isLifetimeParam b) (l : List T) :
    ((sortParams l).filter c).map pname_inh = sortStr ((l.filter c).map pname_inh) := by
  have hs : (((sortParams l).filter c).map pname_inh).Pairwise (· ≤ ·) := by
    rw [List.pairwise_map]
    refine ((sortParams_perm_sorted_inh l).2.sublist List.filter_sublist).imp_of_mem ?_
    intro a b ha hb hab
    rcases hab with h | h
    · simp [pkey_inh, hc a b (List.mem_filter.1 ha).2 (List.mem_filter.1 hb).2] at h
    · exact h.2
  exact List.Perm.eq_of_pairwise (le := (· ≤ ·)) (fun a b _ _ h1 h2 => String.le_antisymm h1 h2) hs
    (sortStr_perm_sorted_inh _).2
    ((((sortParams_perm_sorted_inh l).1.filter _).map _).trans (sortStr_perm_sorted_inh _).1.symm)

theorem ltNames_sortParams_inh (l : List T) : ltNames_inh (sortParams l) = sortStr (ltNames_inh l) :=
  names_sortParams_inh _ (fun a b ha hb => by rw [ha, hb]) l

theorem otNames_sortParams_inh (l : List T) : otNames_inh (sortParams l) = sortStr (otNames_inh l) :=
  names_sortParams_inh _ (fun a b ha hb => by simp only [Bool.not_eq_true'] at ha hb; rw [ha, hb]) l

/-! ### the helper trait of inherent mode and the alignment of its parameters with every reference -/

def inhKeyParams_inh (start nkeys : Nat) : List T :=
  (List.range nkeys).map (fun i => keyParam (genIndexedIdent (start + i)))

/-- the parameter list the helper trait declares (helper_trait.rs:31-63): the first block's parameters without
    bounds, sorted by `(!is_lifetime, ident)`, the key parameters inserted after the lifetimes -/
def helperTraitParams_inh (ps : List T) (nkeys : Nat) : List T :=
  let sorted := sortParams (ps.map bareParam)
  sorted.filter isLifetimeParam ++ inhKeyParams_inh sorted.length nkeys ++ sorted.filter (fun p => !isLifetimeParam p)

theorem helperTraitOfInherent_ok_inv_inh {item : T} {idx nkeys : Nat} {tr : T}
    (h : helperTraitOfInherent item idx nkeys = .ok tr) :
    ∃ a d u lt ps gt wc trr st items x its lt' gt',
      item = .node "ItemImpl" [] [a, d, u, .node "Generics" [] [lt, tList ps, gt, wc], trr, st, tList items] ∧
      selfTraitIdent st = some x ∧ genAll (items.map traitItemOfImplItem) = .ok its ∧
      tr = .node "ItemTrait" [] [ignAttrs, .node "Visibility::Public" [] [], u, tNone, tNone, tIdent (genIdentStr x idx),
        .node "Generics" [] [lt', tList (helperTraitParams_inh ps nkeys), gt', tNone], tNone, tList [], tList its] := by
  unfold helperTraitOfInherent at h
  split at h
  · next a d u lt ps gt wc trr st items =>
    split at h
    · next x its hx hits =>
      cases h
      exact ⟨a, d, u, lt, ps, gt, wc, trr, st, items, x, its, _, _, rfl, hx, hits, rfl⟩
    · cases h
    · cases h
    · cases h
  · cases h

/-- the argument that names a declared parameter: `'a` for a lifetime, the identifier as a type otherwise -/
def argOfParam_inh (p : T) : T :=
  if isLifetimeParam p then lifetimeArg (pname_inh p) else gaType (mkTypeIdent (pname_inh p))

/-- generic arguments as they are printed: `syn` prints the lifetimes of an angle-bracketed list first -/
def printedArgs_inh (args : List T) : List T :=
  args.filter isLifetimeArg ++ args.filter (fun a => !isLifetimeArg a)

/-- a reference `Helper<args>` is aligned with the declaration `trait Helper<tp>` with `nkeys` key parameters: the
    declaration lists its lifetimes first; the reference passes as many arguments as there are parameters; the
    lifetime arguments name the lifetime parameters position by position; after them come `nkeys` non-lifetime
    arguments (the key slots); every further argument names the parameter declared at its position -/
def refAligned_inh (nkeys : Nat) (tp args : List T) : Bool :=
  let nl := (tp.filter isLifetimeParam).length
  let pr := printedArgs_inh args
  (tp.take nl).all isLifetimeParam && (tp.drop nl).all (fun p => !isLifetimeParam p) &&
  pr.length == tp.length &&
  (tp.take nl).map argOfParam_inh == pr.take nl &&
  ((pr.drop nl).take nkeys).all (fun a => !isLifetimeArg a) &&
  (tp.drop (nl + nkeys)).map argOfParam_inh == pr.drop (nl + nkeys)

theorem refAligned_of_parts_inh (nkeys : Nat) (L K O A R B : List T)
    (hL : ∀ p ∈ L, isLifetimeParam p = true) (hK : ∀ p ∈ K, isLifetimeParam p = false)
    (hO : ∀ p ∈ O, isLifetimeParam p = false)
    (hR : ∀ a ∈ R, isLifetimeArg a = false)
    (hKn : K.length = nkeys) (hRn : R.length = nkeys)
    (hLA : L.map argOfParam_inh = A) (hOB : O.map argOfParam_inh = B)
    (args : List T) (hargs : printedArgs_inh args = A ++ R ++ B) :
    refAligned_inh nkeys (L ++ K ++ O) args = true := by
  have hAl : A.length = L.length := by rw [← hLA]; simp
  have hBl : B.length = O.length := by rw [← hOB]; simp
  have hnl : ((L ++ K ++ O).filter isLifetimeParam).length = L.length := by
    rw [List.filter_append, List.filter_append, List.filter_eq_self.2 hL, filter_eq_nil_of_all hK,
      filter_eq_nil_of_all hO]; simp
  unfold refAligned_inh
  simp only [hnl, hargs]
  have t1 : (L ++ K ++ O).take L.length = L := by rw [List.append_assoc, List.take_left']; rfl
  have t2 : (L ++ K ++ O).drop L.length = K ++ O := by rw [List.append_assoc, List.drop_left']; rfl
  have t3 : (A ++ R ++ B).take L.length = A := by rw [List.append_assoc, List.take_left' hAl]
  have t4 : (A ++ R ++ B).drop L.length = R ++ B := by rw [List.append_assoc, List.drop_left' hAl]
  have t5 : (R ++ B).take nkeys = R := List.take_left' hRn
  have t6 : (L ++ K ++ O).drop (L.length + nkeys) = O := by
    rw [List.drop_left' (by simp [hKn])]
  have t7 : (A ++ R ++ B).drop (L.length + nkeys) = B := by
    rw [List.drop_left' (by simp [hRn, hAl])]
  rw [t1, t2, t3, t4, t5, t6, t7, hLA, hOB]
  simp only [Bool.and_eq_true, List.all_eq_true, beq_self_eq_true, and_true, Bool.not_eq_true', beq_iff_eq,
    List.length_append, List.mem_append]
  refine ⟨⟨⟨hL, ?_⟩, by omega⟩, hR⟩
  intro p hp
  rcases hp with hp | hp
  · exact hK p hp
  · exact hO p hp

theorem inhArgs_parts_inh (gen : T) (hn : paramsNamed_inh (genericsParams gen) = true) :
    ((sortParams ((genericsParams gen).map bareParam)).filter isLifetimeParam).map argOfParam_inh =
        (sortStr (lifetimeParamIdents gen)).map lifetimeArg ∧
    ((sortParams ((genericsParams gen).map bareParam)).filter (fun p => !isLifetimeParam p)).map argOfParam_inh =
        (sortStr (otherParamIdents gen)).map (fun x => gaType (mkTypeIdent x)) := by
  constructor
  · rw [lifetimeParamIdents_eq_inh hn, ← ltNames_map_bare_inh, ← ltNames_sortParams_inh, ltNames_inh, List.map_map]
    apply List.map_congr_left
    intro p hp
    simp [argOfParam_inh, (List.mem_filter.1 hp).2]
  · rw [otherParamIdents_eq_inh hn, ← otNames_map_bare_inh, ← otNames_sortParams_inh, otNames_inh, List.map_map]
    apply List.map_congr_left
    intro p hp
    have := (List.mem_filter.1 hp).2
    simp only [Bool.not_eq_true'] at this
    simp [argOfParam_inh, this]

theorem isLifetimeArg_lifetimeArg_inh (x : String) : isLifetimeArg (lifetimeArg x) = true := by
  simp [isLifetimeArg, lifetimeArg]
theorem isLifetimeArg_gaType_inh (t : T) : isLifetimeArg (gaType t) = false := by
  simp [isLifetimeArg, gaType]
theorem isLifetimeParam_keyParam_inh (x : String) : isLifetimeParam (keyParam x) = false := by
  simp [isLifetimeParam, keyParam]

theorem rowArgs_nonLifetime_inh (idents : List (BKey × String)) (row : List (Option T)) :
    ∀ a ∈ rowArgs idents row, isLifetimeArg a = false := by
  intro a ha
  obtain ⟨ir, _, rfl⟩ := List.mem_map.1 ha
  cases ir.2 <;> exact isLifetimeArg_gaType_inh _

/-- non-lifetime arguments `X` chained in front of arguments `ua` are printed after the lifetimes of `ua`; a list that
    already has that order is printed as it is -/
theorem printedArgs_around_inh (X ua : List T) (hX : ∀ a ∈ X, isLifetimeArg a = false) :
    printedArgs_inh (X ++ ua) = ua.filter isLifetimeArg ++ X ++ ua.filter (fun a => !isLifetimeArg a) ∧
    printedArgs_inh (ua.filter isLifetimeArg ++ X ++ ua.filter (fun a => !isLifetimeArg a)) =
      ua.filter isLifetimeArg ++ X ++ ua.filter (fun a => !isLifetimeArg a) := by
  have nX : ∀ a ∈ X, (!isLifetimeArg a) = true := fun a h => by simp [hX a h]
  have e : ua.filter (fun _ => false) = [] := List.filter_eq_nil_iff.2 (fun a _ => by simp)
  unfold printedArgs_inh
  simp [List.filter_append, List.filter_filter, filter_eq_nil_of_all hX, List.filter_eq_self.2 nX, e]

/-- the first block of the family, `?` when there is none -/
def firstItem_inh (g : T × ABG × List Blk) : T :=
  match g.2.2 with
  | b :: _ => b.item
  | [] => .node "?" [] []

theorem firstItem_cons_inh {g : T × ABG × List Blk} {first : Blk} {rest : List Blk} (hg : g.2.2 = first :: rest) :
    firstItem_inh g = first.item := by
  simp [firstItem_inh, hg]

/-- the generics the side conditions of inherent mode read off the first block -/
theorem firstGenerics_inh {g : T × ABG × List Blk} {first : Blk} {rest : List Blk} {gen : T}
    (hg : g.2.2 = first :: rest) (hgen : implGenerics first.item = some gen) :
    (implGenerics (firstItem_inh g)).getD (.node "?" [] []) = gen := by
  rw [firstItem_cons_inh hg, hgen]
  rfl

/-- every parameter the first block declares has an identifier -/
def firstNamed_inh (g : T × ABG × List Blk) : Bool :=
  paramsNamed_inh (genericsParams ((implGenerics (firstItem_inh g)).getD (.node "?" [] [])))

theorem inhArgs_congr_inh {g1 g2 : T} (h : genericsParams g1 = genericsParams g2) : inhArgs_inh g1 = inhArgs_inh g2 := by
  simp [inhArgs_inh, lifetimeParamIdents, otherParamIdents, h]

/-- `selfTraitIdent` read back: the self type is an unqualified path type (no `<T as Tr>::` prefix) whose LAST segment
    is named `x`; the path may have any number of leading segments and a leading `::` (helper_trait.rs: the helper trait
    is named by the last segment only) -/
theorem selfTraitIdent_inv_inh {st : T} {x : String} (h : selfTraitIdent st = some x) :
    ∃ p a, st = .node "Type::Path" [] [tNone, p] ∧
      lastSegOf p = some (.node "PathSegment" [] [.node "Ident" [x] [], a]) := by
  unfold selfTraitIdent at h
  split at h
  · next p =>
    split at h
    · next x' a heq => cases h; exact ⟨p, a, rfl, heq⟩
    · cases h
  · cases h

theorem selfTraitIdent_of_last_inh {p : T} {x : String} {a : T}
    (h : lastSegOf p = some (.node "PathSegment" [] [.node "Ident" [x] [], a])) :
    selfTraitIdent (.node "Type::Path" [] [tNone, p]) = some x := by
  simp [selfTraitIdent, tNone, h]

/-- declared parameters of an `ItemTrait` / the name of the trait, read positionally -/
def traitParams_inh (tr : T) : List T := genericsParams (kid tr 6)
def traitName_inh (tr : T) : String := (atoms (kid tr 5)).headD ""

theorem xsegArgs_named_inh (lc : T) (xs : List T) (name : String) (args : List T) :
    XOK.segArgs (XOK.lastSeg (pathNode lc (xs ++ [.node "PathSegment" [] [tIdent name, angle args]]))) = args ∧
    XOK.segIdent (XOK.lastSeg (pathNode lc (xs ++ [.node "PathSegment" [] [tIdent name, angle args]]))) = name := by
  simp [XOK.lastSeg, segsOf, pathNode, tList, kid, kids, lastOf, XOK.segArgs, XOK.segIdent, angle, kind, atoms, tIdent]

theorem xsegArgs_single_inh (lc : T) (name : String) (args : List T) :
    XOK.segArgs (XOK.lastSeg (pathNode lc [.node "PathSegment" [] [tIdent name, angle args]])) = args ∧
    XOK.segIdent (XOK.lastSeg (pathNode lc [.node "PathSegment" [] [tIdent name, angle args]])) = name :=
  xsegArgs_named_inh lc [] name args

theorem traitPathOf_impl_inh (a d u g s items P : T) :
    traitPathOf (.node "ItemImpl" [] [a, d, u, g, tSome (.node "Tuple" [] [tNone, P]), s, items]) = some P :=
  traitPathOf_of_implTraitPath rfl

theorem isLifetimeArg_map_lifetimeArg_inh (l : List String) : ∀ a ∈ l.map lifetimeArg, isLifetimeArg a = true := by
  intro a ha; obtain ⟨y, _, rfl⟩ := List.mem_map.1 ha; exact isLifetimeArg_lifetimeArg_inh y

theorem isLifetimeArg_map_gaType_inh {α : Type} (f : α → T) (l : List α) :
    ∀ a ∈ l.map (fun x => gaType (f x)), isLifetimeArg a = false := by
  intro a ha; obtain ⟨y, _, rfl⟩ := List.mem_map.1 ha; exact isLifetimeArg_gaType_inh _

theorem inhArgs_filters_inh (gen : T) :
    (inhArgs_inh gen).filter isLifetimeArg = (sortStr (lifetimeParamIdents gen)).map lifetimeArg ∧
    (inhArgs_inh gen).filter (fun a => !isLifetimeArg a) =
      (sortStr (otherParamIdents gen)).map (fun x => gaType (mkTypeIdent x)) :=
  filter_split (isLifetimeArg_map_lifetimeArg_inh _) (isLifetimeArg_map_gaType_inh _ _)

theorem traitParams_itemTrait_inh (a v u x y id lt : T) (ps : List T) (gt wc sc sup its : T) :
    traitParams_inh (.node "ItemTrait" [] [a, v, u, x, y, id, .node "Generics" [] [lt, tList ps, gt, wc], sc, sup, its]) = ps := by
  simp [traitParams_inh, kid, kids, genericsParams, tList]

theorem traitName_itemTrait_inh (a v u x y : T) (name : String) (gen sc sup its : T) :
    traitName_inh (.node "ItemTrait" [] [a, v, u, x, y, tIdent name, gen, sc, sup, its]) = name := rfl

/-- the three generators of inherent mode read back on ONE decomposition of the first block: the helper trait declares
    `helperTraitParams_inh`, every member goes through `helperImpl` with the self-type path whose last segment carries
    `inhArgs_inh`, and the main impl bounds `Self` by the helper reference with the same arguments -/
theorem inherentExpansion_inv_inh {idx : Nat} {g : T × ABG × List Blk} {tr : T} {hs : List T} {m : T}
    (ht : helperTraitOfInherent (firstItem_inh g) idx g.2.1.idents.length = .ok tr)
    (hh : helperImpls idx g = some hs) (hm : mainImplInherent idx g = .ok (some m)) (hinh : inherentFamily_inh g = true) :
    ∃ first rest a d u lt ps gt wc trr p a0 items x params finals its lt' gt' gen,
      g.2.2 = first :: rest ∧ gen = .node "Generics" [] [lt, tList ps, gt, wc] ∧
      first.item = .node "ItemImpl" [] [a, d, u, gen, trr, .node "Type::Path" [] [tNone, p], tList items] ∧
      lastSegOf p = some (.node "PathSegment" [] [.node "Ident" [x] [], a0]) ∧
      tr = .node "ItemTrait" [] [ignAttrs, .node "Visibility::Public" [] [], u, tNone, tNone, tIdent (genIdentStr x idx),
        .node "Generics" [] [lt', tList (helperTraitParams_inh ps g.2.1.idents.length), gt', tNone], tNone, tList [],
        tList its] ∧
      (let p0 := pathNode (pathLead p) (initSegsOf p ++ [.node "PathSegment" [] [.node "Ident" [x] [], angle (inhArgs_inh gen)]])
       ((List.zip (g.2.2.map (·.item)) g.2.1.payloads).map
          (fun mr => helperImpl idx (some p0) g.2.1.idents mr.2 mr.1)).all Option.isSome = true ∧
       hs = ((List.zip (g.2.2.map (·.item)) g.2.1.payloads).map
          (fun mr => helperImpl idx (some p0) g.2.1.idents mr.2 mr.1)).filterMap id) ∧
      m = .node "ItemImpl" [] [a, d, u,
        .node "Generics" [] [lt, tList params, gt,
          mkWhere (assocBoundPredicates g.2.1 (helperRef (genIdentStr x idx) g.2.1.idents (inhArgs_inh gen)))],
        trr, .node "Type::Path" [] [tNone, p], tList finals] := by
  obtain ⟨first, rest, a, d, u, lt, ps, gt, wc, trr, q, sp, items, x, params, finals, hg, hitem, hx, _, _, _, rfl⟩ :=
    mainImplInherent_ok_inv_inh hm
  have hnone : implTraitPath first.item = none := by
    simpa [inherentFamily_inh, hg] using hinh
  -- the helper trait: its self type is an unqualified path, named by the last segment
  rw [firstItem_cons_inh hg, hitem] at ht
  obtain ⟨_, _, _, _, _, _, _, _, _, _, x', its, lt', gt', heq, hx', _, rfl⟩ := helperTraitOfInherent_ok_inv_inh ht
  cases heq
  obtain ⟨p, a0, hsp, hlp⟩ := selfTraitIdent_inv_inh hx'
  cases hsp
  obtain rfl : x' = x := by simpa [lastSegIdentOf, hlp] using hx
  -- the helper impls read the same self type and generics
  obtain ⟨s, gen, p', sid, hs1, hgen, rfl, ⟨a1, hl1⟩, hall, rfl⟩ := helperImpls_inherent_inv_inh hg hnone hh
  rw [hitem] at hs1 hgen
  cases hs1
  cases hgen
  rw [hlp] at hl1
  cases hl1
  exact ⟨first, rest, a, d, u, lt, ps, gt, wc, trr, _, a0, items, _, params, finals, its, lt', gt', _, hg, rfl, hitem, hlp,
    rfl, ⟨hall, rfl⟩, by rw [inhHref_inh, inhArgs_congr_inh (g1 := inhEg_inh lt ps gt) (g2 := .node "Generics" [] [lt, tList ps, gt, wc]) rfl]⟩

theorem keyedParams_filter_inh (S : List T) (start nkeys : Nat) :
    (S.filter isLifetimeParam ++ inhKeyParams_inh start nkeys ++ S.filter (fun p => !isLifetimeParam p)).filter
      isLifetimeParam = S.filter isLifetimeParam ∧
    (S.filter isLifetimeParam ++ inhKeyParams_inh start nkeys ++ S.filter (fun p => !isLifetimeParam p)).filter
      (fun p => !isLifetimeParam p) = inhKeyParams_inh start nkeys ++ S.filter (fun p => !isLifetimeParam p) := by
  rw [List.append_assoc]
  refine filter_split (fun p hp => (List.mem_filter.1 hp).2) (fun p hp => ?_)
  rcases List.mem_append.1 hp with hp | hp
  · obtain ⟨i, _, rfl⟩ := List.mem_map.1 hp; exact isLifetimeParam_keyParam_inh _
  · simpa using (List.mem_filter.1 hp).2

/-- a reference whose printed arguments are the sorted lifetimes of the first block, `nkeys` non-lifetime arguments and
    the sorted other parameters is aligned with the helper trait's declaration -/
theorem refAligned_helperTraitParams_inh {gen : T} (hn : paramsNamed_inh (genericsParams gen) = true) (R args : List T)
    (hR : ∀ a ∈ R, isLifetimeArg a = false)
    (hargs : printedArgs_inh args = (sortStr (lifetimeParamIdents gen)).map lifetimeArg ++ R ++
      (sortStr (otherParamIdents gen)).map (fun x => gaType (mkTypeIdent x))) :
    refAligned_inh R.length (helperTraitParams_inh (genericsParams gen) R.length) args = true := by
  obtain ⟨hLA, hOB⟩ := inhArgs_parts_inh gen hn
  refine refAligned_of_parts_inh _ _ (inhKeyParams_inh _ _) _ _ R _ (fun p hp => (List.mem_filter.1 hp).2) ?_
    (fun p hp => by simpa using (List.mem_filter.1 hp).2) hR (by simp [inhKeyParams_inh]) rfl hLA hOB args hargs
  intro p hp; obtain ⟨i, _, rfl⟩ := List.mem_map.1 hp; exact isLifetimeParam_keyParam_inh _

/-- alignment of the helper trait's declaration with every reference to it (inherent mode) -/
theorem helper_params_aligned_inh (idx : Nat) (g : T × ABG × List Blk) (tr : T) (hs : List T) (m : T)
    (ht : helperTraitOfInherent (firstItem_inh g) idx g.2.1.idents.length = .ok tr)
    (hh : helperImpls idx g = some hs) (hm : mainImplInherent idx g = .ok (some m))
    (hinh : inherentFamily_inh g = true) (hn : firstNamed_inh g = true) :
    (∀ h ∈ hs, ∃ hpath, traitPathOf h = some hpath ∧ XOK.segIdent (XOK.lastSeg hpath) = traitName_inh tr ∧
        refAligned_inh g.2.1.idents.length (traitParams_inh tr) (XOK.segArgs (XOK.lastSeg hpath)) = true) ∧
    (∃ href, mainHref_inh m = some href ∧ XOK.segIdent (XOK.lastSeg href) = traitName_inh tr ∧
        refAligned_inh g.2.1.idents.length (traitParams_inh tr) (XOK.segArgs (XOK.lastSeg href)) = true) ∧
    (∃ gen, implGenerics (firstItem_inh g) = some gen ∧
      ((traitParams_inh tr).filter isLifetimeParam).map pname_inh = sortStr (lifetimeParamIdents gen) ∧
      (((traitParams_inh tr).filter (fun p => !isLifetimeParam p)).drop g.2.1.idents.length).map pname_inh =
        sortStr (otherParamIdents gen)) := by
  obtain ⟨first, rest, a, d, u, lt, ps, gt, wc, trr, p, a0, items, x, params, finals, its, lt', gt', gen, hg, hgen, hitem,
    hlp, rfl, ⟨hall, rfl⟩, rfl⟩ := inherentExpansion_inv_inh ht hh hm hinh
  have hfirst : implGenerics (firstItem_inh g) = some gen := by rw [firstItem_cons_inh hg, hitem]; rfl
  have hnamed : paramsNamed_inh (genericsParams gen) = true := by simpa [firstNamed_inh, hfirst] using hn
  have hgp : ps = genericsParams gen := by simp [hgen, genericsParams, tList]
  rw [traitParams_itemTrait_inh, traitName_itemTrait_inh, hgp]
  refine ⟨?_, ⟨_, mainHref_shape_inh _ _ _ _ _ _ _ _ _ _ _, (helperRef_read _ _ _).1, ?_⟩, gen, hfirst, ?_, ?_⟩
  · intro h hmem
    obtain ⟨oh, hoh, rfl⟩ := List.mem_filterMap.1 hmem
    obtain ⟨mr, hmr, hhi⟩ := List.mem_map.1 hoh
    obtain ⟨x2, am, dm, um, gm, trm, sm, itm, hid2, _, rfl⟩ := helperImpl_inherent_inv_inh (lastSegOf_pathNode_inh _ _ _) hhi
    cases hid2
    refine ⟨_, traitPathOf_impl_inh _ _ _ _ _ _ _, (xsegArgs_single_inh _ _ _).2, ?_⟩
    rw [(xsegArgs_single_inh _ _ _).1, ← rowArgs_length _ _ (payloads_row_length g.2.1 mr.2 (List.of_mem_zip hmr).2)]
    exact refAligned_helperTraitParams_inh hnamed _ _ (rowArgs_nonLifetime_inh _ _) (by
      rw [(printedArgs_around_inh _ _ (rowArgs_nonLifetime_inh _ _)).1, (inhArgs_filters_inh gen).1,
        (inhArgs_filters_inh gen).2])
  · have hP := isLifetimeArg_map_gaType_inh (fun kx : BKey × String => projection kx.1.1 kx.1.2 kx.2) g.2.1.idents
    have := refAligned_helperTraitParams_inh hnamed _ (XOK.segArgs (XOK.lastSeg (helperRef (genIdentStr x idx) g.2.1.idents
      (inhArgs_inh gen)))) hP (by
        rw [(helperRef_read _ _ _).2, (printedArgs_around_inh _ _ hP).2, (inhArgs_filters_inh gen).1,
          (inhArgs_filters_inh gen).2])
    rwa [List.length_map] at this
  · rw [helperTraitParams_inh, (keyedParams_filter_inh _ _ _).1, lifetimeParamIdents_eq_inh hnamed, ← ltNames_map_bare_inh,
      ← ltNames_sortParams_inh]; rfl
  · rw [helperTraitParams_inh, (keyedParams_filter_inh _ _ _).2, List.drop_left' (by simp [inhKeyParams_inh]), otherParamIdents_eq_inh hnamed,
      ← otNames_map_bare_inh, ← otNames_sortParams_inh]; rfl

/-! ### the parameters the main inherent impl declares (finding D32) -/

mutual
/-- every identifier and every canonical parameter mentioned in a tree -/
def identsOf_inh : T → List String
  | .tparam n => [n]
  | .eparam n => [n]
  | .node k as ks => (if k == "Ident" then as else []) ++ identsOfL_inh ks
def identsOfL_inh : List T → List String
  | [] => []
  | t :: ts => identsOf_inh t ++ identsOfL_inh ts
end

/-- every parameter the first block declares is mentioned in its self type (what finding D32 violates:
    `impl<T: D<Group = Vec<U>>, U> W<T>` as the first block of a family) -/
def firstParamsInSelf_inh (g : T × ABG × List Blk) : Bool :=
  match implGenerics (firstItem_inh g), implSelfTy (firstItem_inh g) with
  | some gen, some st =>
      (kindNames gen "GenericParam::Lifetime" ++ kindNames gen "GenericParam::Type" ++ kindNames gen "GenericParam::Const").all
        (fun x => (identsOf_inh st).contains x)
  | _, _ => false

theorem allSome_inv_inh {α : Type} : ∀ {l : List (Option α)} {r : List α}, allSome l = some r → l = r.map some
  | [], r, h => by simp [allSome] at h; subst h; rfl
  | none :: l, r, h => by simp [allSome] at h
  | some a :: l, r, h => by
      simp only [allSome, Option.map_eq_some_iff] at h
      obtain ⟨r', hr, rfl⟩ := h
      simp [allSome_inv_inh hr]

theorem newConstParam_name_inh {eg : T} {x : String} {p : T} (h : newConstParam eg x = some p) : pname_inh p = x := by
  unfold newConstParam at h
  split at h
  · cases h; simp [pname_inh, paramIdent, tIdent]
  · cases h

/-- every parameter the main inherent impl declares is a parameter of the first block, hence — when the first block
    mentions all its parameters in its self type — occurs in the self type of the main impl (no E0207) -/
theorem main_params_in_self_inh {idx : Nat} {g : T × ABG × List Blk} {m : T}
    (hm : mainImplInherent idx g = .ok (some m)) (hin : firstParamsInSelf_inh g = true) :
    ∀ p ∈ genericsParams (kid m 3), (identsOf_inh (kid m 5)).contains (pname_inh p) = true := by
  obtain ⟨first, rest, a, d, u, lt, ps, gt, wc, tr, q, sp, items, x, params, finals, hg, hitem, hx, hst, hf, hpar, rfl⟩ :=
    mainImplInherent_ok_inv_inh hm
  obtain ⟨s, cps, ⟨hsl, hsy, hsc⟩, hcps, rfl⟩ := hpar
  have hfirst := firstItem_cons_inh hg
  have hkn (k : String) : kindNames (T.node "Generics" [] [lt, tList ps, gt, wc]) k = kindNames (inhEg_inh lt ps gt) k := by
    simp [kindNames, genericsParams, inhEg_inh, tList]
  simp only [firstParamsInSelf_inh, hfirst, hitem, implGenerics, implSelfTy, List.all_eq_true, List.mem_append,
    hkn] at hin
  intro p hp
  have hk5 : ∀ (gg : T), kid (T.node "ItemImpl" [] [a, d, u, gg, tr, T.node "Type::Path" [] [q, sp], tList finals]) 5 =
      T.node "Type::Path" [] [q, sp] := by intro gg; simp [kid, kids]
  rw [hk5]
  simp only [kid, kids, List.getD_cons_succ, List.getD_cons_zero, genericsParams, tList, List.mem_append] at hp
  simp only [IxState.namesLt, IxState.namesTy, IxState.namesCo, inhIx0_inh, List.map_nil, List.nil_append] at hsl hsy hsc
  rcases hp with (hp | hp) | hp
  · obtain ⟨xi, hxi, rfl⟩ := List.mem_map.1 hp
    have : xi.1 ∈ kindNames (inhEg_inh lt ps gt) "GenericParam::Lifetime" :=
      hsl.subset (List.mem_append.2 (Or.inl (List.mem_map.2 ⟨xi, hxi, rfl⟩)))
    have hn : pname_inh (newLifetimeParam xi.1) = xi.1 := by simp [pname_inh, newLifetimeParam, paramIdent, tIdent]
    rw [hn]
    exact hin _ (Or.inl (Or.inl this))
  · obtain ⟨xi, hxi, rfl⟩ := List.mem_map.1 hp
    have : xi.1 ∈ kindNames (inhEg_inh lt ps gt) "GenericParam::Type" :=
      hsy.subset (List.mem_append.2 (Or.inl (List.mem_map.2 ⟨xi, hxi, rfl⟩)))
    have hn : pname_inh (newTypeParam xi.1) = xi.1 := by simp [pname_inh, newTypeParam, paramIdent, tIdent]
    rw [hn]
    exact hin _ (Or.inl (Or.inr this))
  · have hl := allSome_inv_inh hcps
    have : some p ∈ s.ixCo.map (fun xi => newConstParam (inhEg_inh lt ps gt) xi.1) := by
      rw [hl]; exact List.mem_map.2 ⟨p, hp, rfl⟩
    obtain ⟨xi, hxi, hnc⟩ := List.mem_map.1 this
    have hmem : xi.1 ∈ kindNames (inhEg_inh lt ps gt) "GenericParam::Const" :=
      hsc.subset (List.mem_append.2 (Or.inl (List.mem_map.2 ⟨xi, hxi, rfl⟩)))
    rw [newConstParam_name_inh hnc]
    exact hin _ (Or.inr hmem)

/-! ### `ExpandOK` for inherent mode, at full strength

`expandOKCore` in inherent mode only checks that a helper impl keeps the member's generics, self type and safety qualifier
and has some trait path. The predicate below is the inherent-mode counterpart of the trait-mode check: it reads the
generated trees only (helper trait, helper impls, main impl) and decides whether every helper impl is its member
(attributes, generics, self type, items with their visibility removed) implementing the helper trait with the member's row as leading arguments (a wildcard as the projection of the key
through the member's substitution θ) followed by the arguments the main impl passes, seen through θ; the helper
trait's declaration is aligned with every reference; every parameter a helper impl passes is declared by it. -/

/-- the arguments the main impl passes to the helper trait besides the key projections: its lifetimes and the
    non-lifetime arguments after the `nkeys` key slots -/
def mainSelfArgs_inh (nkeys : Nat) (href : T) : List T :=
  let as := XOK.segArgs (XOK.lastSeg href)
  as.filter isLifetimeArg ++ (as.filter (fun a => !isLifetimeArg a)).drop nkeys

def ltArgName_inh : T → Option String
  | .node "GenericArgument::Lifetime" [] [.node "Lifetime" [] [.node "Ident" [x] []]] => some x
  | _ => none

/-- every lifetime / canonical parameter named by the arguments `args` is declared in `decl` -/
def argsScoped_inh (decl args : List T) : Bool :=
  (args.filterMap ltArgName_inh).all (fun x => (ltNames_inh decl).contains x) &&
  (allParams.allParamsL args).all (fun x => (otNames_inh decl).contains x)

/-- no canonical parameter named by `args` is relaxed with `?Sized` in the generics `gens` (the helper trait declares the
    parameters of the first block without bounds, i.e. `Sized`: finding D27) -/
def argsSized_inh (gens : T) (args : List T) : Bool :=
  (allParams.allParamsL args).all (fun x => !isMaybeSizedOn (findBounds gens) x)

/-- one member / helper-impl pair in inherent mode -/
def checkHelperInh_inh (keys : List CKey) (name : String) (selfArgs : List T) (m h : T) (row : List (Option T))
    (θ : Subst) : Bool :=
  kid m 0 == kid h 0 && kid m 1 == kid h 1 && kid m 2 == kid h 2 && kid m 3 == kid h 3 && kid m 5 == kid h 5 &&
  kid h 6 == visErased_inh (kid m 6) &&
  (match traitPathOf h with
   | none => false
   | some hpath =>
      let hargs := XOK.segArgs (XOK.lastSeg hpath)
      let nkeys := keys.length
      XOK.segIdent (XOK.lastSeg hpath) == name &&
      hargs.drop nkeys == instL θ selfArgs && checkArgs θ (hargs.take nkeys) keys row && (hargs.take nkeys).length == nkeys &&
      argsScoped_inh (genericsParams (kid h 3)) (hargs.drop nkeys) && argsSized_inh (kid h 3) (hargs.drop nkeys))

def checkHelpersInh_inh (keys : List CKey) (name : String) (selfArgs : List T) :
    List T → List T → List (List (Option T)) → List Subst → Bool
  | m :: ms, h :: hs, rows, thetas =>
      checkHelperInh_inh keys name selfArgs m h (rows.headD []) (thetas.headD []) &&
        checkHelpersInh_inh keys name selfArgs ms hs rows.tail thetas.tail
  | _, _, _, _ => true

/-- the inherent-mode acceptance predicate on explicit data -/
def expandOKInhCore_inh (gid : T) (idents : List (BKey × String)) (rows : List (List (Option T))) (members : List T)
    (thetas : List Subst) (tr : T) (helpers : List T) (main : T) : Bool :=
  let keys := keysOf idents
  match mainHref_inh main with
  | none => false
  | some href =>
      let name := XOK.segIdent (XOK.lastSeg href)
      traitName_inh tr == name &&
      refAligned_inh keys.length (traitParams_inh tr) (XOK.segArgs (XOK.lastSeg href)) &&
      helpers.length == members.length &&
      checkHelpersInh_inh keys name (mainSelfArgs_inh keys.length href) members helpers rows thetas &&
      helpers.all (fun h => match traitPathOf h with
        | some hp => refAligned_inh keys.length (traitParams_inh tr) (XOK.segArgs (XOK.lastSeg hp))
        | none => false) &&
      checkMain true gid keys main && kid main 5 == kid gid 1

def expandOKInh_inh (g : T × ABG × List Blk) (thetas : List Subst) (tr : T) (helpers : List T) (main : T) : Bool :=
  expandOKInhCore_inh g.1 g.2.1.idents g.2.1.payloads (g.2.2.map (·.item)) thetas tr helpers main

/-- the arguments of inherent mode are fixed by every member's substitution: no member instantiates a parameter of
    the first block (fails for a nested member such as `impl<T> W<Vec<T>>` next to `impl<T> W<T>`) -/
def fixArgs_inh (selfArgs : List T) : List T → List Subst → Bool
  | _ :: ms, thetas => (instL (thetas.headD []) selfArgs == selfArgs) && fixArgs_inh selfArgs ms thetas.tail
  | [], _ => true

def selfArgsFixed_inh (g : T × ABG × List Blk) : Bool :=
  fixArgs_inh (inhArgs_inh ((implGenerics (firstItem_inh g)).getD (.node "?" [] []))) (g.2.2.map (·.item)) (thetasOf g)

/-- every member declares every parameter of the first block, kind by kind (fails for finding D32) -/
def declaresFirst_inh (gen : T) (member : T) : Bool :=
  let decl := genericsParams ((implGenerics member).getD (.node "?" [] []))
  (lifetimeParamIdents gen).all (fun x => (ltNames_inh decl).contains x) &&
  (otherParamIdents gen).all (fun x => (otNames_inh decl).contains x)

def membersDeclare_inh (g : T × ABG × List Blk) : Bool :=
  g.2.2.all (fun b => declaresFirst_inh ((implGenerics (firstItem_inh g)).getD (.node "?" [] [])) b.item)

/-- no member relaxes a parameter of the first block with `?Sized` (fails for finding D27) -/
def membersSized_inh (g : T × ABG × List Blk) : Bool :=
  g.2.2.all (fun b => argsSized_inh ((implGenerics b.item).getD (.node "?" [] []))
    (inhArgs_inh ((implGenerics (firstItem_inh g)).getD (.node "?" [] []))))

theorem allParamsL_append_inh (a b : List T) :
    allParams.allParamsL (a ++ b) = allParams.allParamsL a ++ allParams.allParamsL b := by
  induction a with
  | nil => rfl
  | cons x xs ih => simp [allParams.allParamsL, ih]

theorem allParams_mkTypeIdent_inh (x : String) : ∀ y ∈ allParams (gaType (mkTypeIdent x)), y = x := by
  intro y hy
  unfold mkTypeIdent at hy
  split at hy
  · simpa [gaType, allParams, allParams.allParamsL] using hy
  · simp [gaType, allParams, allParams.allParamsL] at hy

theorem argsScoped_inhArgs_inh (gen : T) (decl : List T)
    (h1 : ∀ x ∈ lifetimeParamIdents gen, x ∈ ltNames_inh decl) (h2 : ∀ x ∈ otherParamIdents gen, x ∈ otNames_inh decl) :
    argsScoped_inh decl (inhArgs_inh gen) = true := by
  unfold argsScoped_inh inhArgs_inh
  simp only [Bool.and_eq_true, List.all_eq_true, List.contains_iff_mem]
  constructor
  · intro x hx
    obtain ⟨a, ha, hax⟩ := List.mem_filterMap.1 hx
    rcases List.mem_append.1 ha with ha | ha
    · obtain ⟨y, hy, rfl⟩ := List.mem_map.1 ha
      simp only [lifetimeArg, ltArgName_inh, tIdent, Option.some.injEq] at hax
      subst hax
      exact h1 _ ((sortStr_perm_sorted_inh _).1.subset hy)
    · obtain ⟨y, hy, rfl⟩ := List.mem_map.1 ha
      simp [gaType, ltArgName_inh] at hax
  · intro x hx
    rw [allParamsL_append_inh] at hx
    rcases List.mem_append.1 hx with hx | hx
    · exfalso
      clear h1 h2
      generalize sortStr (lifetimeParamIdents gen) = l at hx
      induction l with
      | nil => simp [allParams.allParamsL] at hx
      | cons y ys ih =>
        simp only [List.map_cons, allParams.allParamsL, List.mem_append] at hx
        rcases hx with hx | hx
        · simp [lifetimeArg, allParams, allParams.allParamsL, tIdent] at hx
        · exact ih hx
    · have : ∀ (l : List String), x ∈ allParams.allParamsL (l.map (fun x => gaType (mkTypeIdent x))) → x ∈ l := by
        intro l
        induction l with
        | nil => intro h; simp [allParams.allParamsL] at h
        | cons y ys ih =>
          intro h
          simp only [List.map_cons, allParams.allParamsL, List.mem_append] at h
          rcases h with h | h
          · rw [allParams_mkTypeIdent_inh y x h]; simp
          · exact List.mem_cons_of_mem _ (ih h)
      exact h2 _ ((sortStr_perm_sorted_inh _).1.subset (this _ hx))

theorem checkHelperInh_of_helperImpl_inh {idx : Nat} {p0 : T} {x : String} {args0 : List T}
    {idents : List (BKey × String)} {row : List (Option T)} {member h : T} {θ : Subst}
    (hl : lastSegOf p0 = some (.node "PathSegment" [] [.node "Ident" [x] [], angle args0]))
    (hh : helperImpl idx (some p0) idents row member = some h)
    (hlen : row.length = idents.length) (hp : ∀ kx ∈ idents, pathShaped kx.1.2 = true)
    (hw : wfixRow θ idents row = true) (hfix : instL θ args0 = args0)
    (hsc : argsScoped_inh (genericsParams ((implGenerics member).getD (.node "?" [] []))) args0 = true)
    (hsz : argsSized_inh ((implGenerics member).getD (.node "?" [] [])) args0 = true) :
    checkHelperInh_inh (keysOf idents) (genIdentStr x idx) args0 member h row θ = true := by
  obtain ⟨x', a, d, u, g, tr, s, items, hid, rfl, rfl⟩ := helperImpl_inherent_inv_inh hl hh
  cases hid
  have hargsLen := rowArgs_length idents row hlen
  have hca := checkArgs_rowArgs θ idents row hp hw
  unfold checkHelperInh_inh
  rw [traitPathOf_impl_inh]
  simp only [(xsegArgs_single_inh _ _ _).1, (xsegArgs_single_inh _ _ _).2, keysOf_length]
  have t1 : (rowArgs idents row ++ args0).take idents.length = rowArgs idents row := List.take_left' hargsLen
  have t2 : (rowArgs idents row ++ args0).drop idents.length = args0 := List.drop_left' hargsLen
  rw [t1, t2, hfix, hca, hargsLen]
  have hk3 : kid (T.node "ItemImpl" [] [a, d, u, g,
      tSome (T.node "Tuple" [] [tNone, pathNode noLead
        [T.node "PathSegment" [] [tIdent (genIdentStr x idx), angle (rowArgs idents row ++ args0)]]]),
      s, visErased_inh items]) 3 = g := by simp [kid, kids]
  rw [hk3]
  have hsc' : argsScoped_inh (genericsParams g) args0 = true := by simpa [implGenerics] using hsc
  have hsz' : argsSized_inh g args0 = true := by simpa [implGenerics] using hsz
  rw [hsc', hsz']
  simp [kid, kids]

theorem checkHelpersInh_of_helperImpls_inh {idx : Nat} {p0 : T} {x : String} {args0 : List T}
    (idents : List (BKey × String)) (hp : ∀ kx ∈ idents, pathShaped kx.1.2 = true)
    (hl : lastSegOf p0 = some (.node "PathSegment" [] [.node "Ident" [x] [], angle args0])) :
    ∀ (ms : List T) (rows : List (List (Option T))) (thetas : List Subst),
      ms.length ≤ rows.length → (∀ r ∈ rows, r.length = idents.length) →
      ((List.zip ms rows).map (fun mr => helperImpl idx (some p0) idents mr.2 mr.1)).all Option.isSome = true →
      wfixRows idents ms rows thetas = true → fixArgs_inh args0 ms thetas = true →
      (∀ m ∈ ms, argsScoped_inh (genericsParams ((implGenerics m).getD (.node "?" [] []))) args0 = true) →
      (∀ m ∈ ms, argsSized_inh ((implGenerics m).getD (.node "?" [] [])) args0 = true) →
      checkHelpersInh_inh (keysOf idents) (genIdentStr x idx) args0 ms
        (((List.zip ms rows).map (fun mr => helperImpl idx (some p0) idents mr.2 mr.1)).filterMap id) rows thetas = true
  | [], rows, thetas, _, _, _, _, _, _, _ => by simp [checkHelpersInh_inh]
  | m :: ms, [], thetas, hlen, _, _, _, _, _, _ => by simp at hlen
  | m :: ms, r :: rows, thetas, hlen, hr, hall, hw, hf, hsc, hsz => by
      simp only [List.zip_cons_cons, List.map_cons, List.all_cons, Bool.and_eq_true] at hall
      simp only [wfixRows, List.headD_cons, List.tail_cons, Bool.and_eq_true] at hw
      simp only [fixArgs_inh, Bool.and_eq_true, beq_iff_eq] at hf
      cases hh : helperImpl idx (some p0) idents r m with
      | none => rw [hh] at hall; simp at hall
      | some h =>
        have ih := checkHelpersInh_of_helperImpls_inh idents hp hl ms rows thetas.tail (by simpa using hlen)
          (fun y hy => hr y (List.mem_cons_of_mem _ hy)) hall.2 hw.2 hf.2 (fun y hy => hsc y (List.mem_cons_of_mem _ hy))
          (fun y hy => hsz y (List.mem_cons_of_mem _ hy))
        simp only [List.zip_cons_cons, List.map_cons, hh, List.filterMap_cons, id, checkHelpersInh_inh,
          List.headD_cons, List.tail_cons, ih, Bool.and_true]
        exact checkHelperInh_of_helperImpl_inh hl hh (hr r (by simp)) hp hw.1 hf.1 (hsc m (by simp)) (hsz m (by simp))

theorem mainSelfArgs_helperRef_inh (name : String) (idents : List (BKey × String)) (gen : T) :
    mainSelfArgs_inh idents.length (helperRef name idents (inhArgs_inh gen)) = inhArgs_inh gen := by
  obtain ⟨f1, f2⟩ := inhArgs_filters_inh gen
  have hP := isLifetimeArg_map_gaType_inh (fun kx : BKey × String => projection kx.1.1 kx.1.2 kx.2) idents
  have hB := isLifetimeArg_map_gaType_inh mkTypeIdent (sortStr (otherParamIdents gen))
  unfold mainSelfArgs_inh
  rw [(helperRef_read _ _ _).2, f1, f2, List.append_assoc]
  -- the lifetimes come first; of the rest, the `idents.length` key projections are dropped
  obtain ⟨g1, g2⟩ := filter_split (isLifetimeArg_map_lifetimeArg_inh (sortStr (lifetimeParamIdents gen)))
    (fun a ha => (List.mem_append.1 ha).elim (hP a) (hB a))
  simp only [g1, g2]
  rw [List.drop_left' (by simp)]
  rfl

theorem fixArgs_congr_inh {a b : List T} (h : a = b) (ms : List T) (th : List Subst) :
    fixArgs_inh a ms th = fixArgs_inh b ms th := by rw [h]

/-- the inherent-mode acceptance predicate holds of the model's expansion -/
theorem expandOKInh_of_expand_inh (idx : Nat) (g : T × ABG × List Blk) (tr : T) (hs : List T) (m : T)
    (ht : helperTraitOfInherent (firstItem_inh g) idx g.2.1.idents.length = .ok tr)
    (hh : helperImpls idx g = some hs) (hm : mainImplInherent idx g = .ok (some m))
    (hwf : expandWF g = true) (hinh : inherentFamily_inh g = true) (hn : firstNamed_inh g = true)
    (hfix : wildcardsFixed g = true) (hsa : selfArgsFixed_inh g = true) (hdecl : membersDeclare_inh g = true)
    (hsz : membersSized_inh g = true) :
    expandOKInh_inh g (thetasOf g) tr hs m = true := by
  have hmain := checkMain_of_mainInherent_inh hm hwf
  obtain ⟨first, rest, a, d, u, lt, ps, gt, wc, trr, p, a0, items, x, params, finals, its, lt', gt', gen, hg, hgen, hitem,
    hlp, rfl, ⟨hall, rfl⟩, rfl⟩ := inherentExpansion_inv_inh ht hh hm hinh
  obtain ⟨hal1, ⟨_, hhref, _, hal2⟩, _⟩ := helper_params_aligned_inh idx g _ _ _ ht hh hm hinh hn
  rw [mainHref_shape_inh] at hhref
  cases hhref
  have hplen : g.2.2.length ≤ g.2.1.payloads.length := Nat.le_of_eq (payloads_length_of_wf hwf).symm
  simp only [expandWF, Bool.and_eq_true, hg, List.all_eq_true, Bool.not_eq_true', beq_iff_eq] at hwf
  obtain ⟨⟨_, hgid⟩, hid⟩ := hwf
  have hgetD := firstGenerics_inh (gen := gen) hg (by rw [hitem]; rfl)
  obtain ⟨hlen, _⟩ := checkHelpers_inherent_inh (idx := idx) g.2.1.idents (keysOf g.2.1.idents)
    (lastSegOf_pathNode_inh _ _ _) (g.2.2.map (·.item)) g.2.1.payloads (thetasOf g) (by simpa using hplen) hall
  have hchk := checkHelpersInh_of_helperImpls_inh (idx := idx) g.2.1.idents
    (fun kx h => pathShaped_of_wfPath (hid kx h).1) (lastSegOf_pathNode_inh _ _ _)
    (g.2.2.map (·.item)) g.2.1.payloads (thetasOf g) (by simpa using hplen) (payloads_row_length g.2.1) hall
    (by simpa [wildcardsFixed] using hfix)
    (by simpa [selfArgsFixed_inh, hgetD] using hsa)
    (by
      intro mem hmem'
      obtain ⟨b, hb, rfl⟩ := List.mem_map.1 hmem'
      simp only [membersDeclare_inh, List.all_eq_true, hgetD] at hdecl
      have := hdecl b hb
      simp only [declaresFirst_inh, Bool.and_eq_true, List.all_eq_true, List.contains_iff_mem] at this
      exact argsScoped_inhArgs_inh gen _ this.1 this.2)
    (by
      intro mem hmem'
      obtain ⟨b, hb, rfl⟩ := List.mem_map.1 hmem'
      simp only [membersSized_inh, List.all_eq_true, hgetD] at hsz
      exact hsz b hb)
  have hall2 := List.all_eq_true.2 (fun h hmem' => by
    obtain ⟨hpath, hp1, _, hp3⟩ := hal1 h hmem'
    rw [hp1]; exact hp3 : ∀ h ∈ _, (match traitPathOf h with
        | some hp => refAligned_inh g.2.1.idents.length (traitParams_inh _) (XOK.segArgs (XOK.lastSeg hp))
        | none => false) = true)
  have hself : kid (T.node "ItemImpl" [] [a, d, u,
      T.node "Generics" [] [lt, tList params, gt, mkWhere (assocBoundPredicates g.2.1
        (helperRef (genIdentStr x idx) g.2.1.idents (inhArgs_inh gen)))],
      trr, T.node "Type::Path" [] [tNone, p], tList finals]) 5 = kid g.1 1 := by
    rw [hgid, hitem]; rfl
  unfold expandOKInh_inh expandOKInhCore_inh
  rw [mainHref_shape_inh]
  simp only [keysOf_length]
  rw [(helperRef_read _ _ _).1, traitName_itemTrait_inh, mainSelfArgs_helperRef_inh, hal2, hchk, hlen, hall2, hmain, hself]
  simp

/-! ### the items of the helper trait are the declarations of the first block's items -/

/-- trait item `tit` declares the item `it` without a value: same attributes (copied since /repo 2b7edb4), same name,
    same type / signature / generics, no default -/
def declares_inh (it tit : T) : Bool :=
  kid tit 0 == kid it 0 &&
  (if kind it == "ImplItem::Const" then
    kind tit == "TraitItem::Const" && kid tit 1 == kid it 3 && kid tit 3 == kid it 5 && kid tit 4 == tNone
  else if kind it == "ImplItem::Type" then
    kind tit == "TraitItem::Type" && kid tit 1 == kid it 3 && kid tit 2 == itemGenerics (kid it 4) && kid tit 5 == tNone
  else
    kind tit == "TraitItem::Fn" && kid tit 1 == kid it 3 && kid tit 2 == tNone)

theorem traitItemOfImplItem_spec_inh {it tit : T} (h : traitItemOfImplItem it = .ok tit) (hs : itemShaped_inh it = true) :
    declares_inh it tit = true := by
  unfold traitItemOfImplItem at h
  split at h
  · split at h
    · cases h; simp [declares_inh, kind, kid, kids]
    · cases h
  · cases h; simp [declares_inh, kind, kid, kids]
  · cases h; simp [declares_inh, kind, kid, kids]
  · cases h

/-- the helper trait of inherent mode: public, named `_<Self><idx>`, with the first block's safety qualifier, one item
    per item of the first block, each the declaration of that item -/
theorem helper_trait_items_inh {item : T} {idx nkeys : Nat} {tr : T}
    (h : helperTraitOfInherent item idx nkeys = .ok tr) :
    kid tr 1 = .node "Visibility::Public" [] [] ∧ kid tr 2 = kid item 2 ∧
    (∃ x, selfTraitIdent (kid item 5) = some x ∧ traitName_inh tr = genIdentStr x idx) ∧
    (kids (kid tr 9)).length = (implItems item).length ∧
    ∀ (i : Nat) (h1 : i < (implItems item).length) (h2 : i < (kids (kid tr 9)).length),
      itemShaped_inh (implItems item)[i] = true → declares_inh (implItems item)[i] (kids (kid tr 9))[i] = true := by
  obtain ⟨a, d, u, lt, ps, gt, wc, trr, st, items, x, its, lt', gt', rfl, hx, hits, rfl⟩ :=
    helperTraitOfInherent_ok_inv_inh h
  obtain ⟨hlen, hget⟩ := map_eq_map_get (genAll_ok_inv_inh hits)
  refine ⟨by simp [kid, kids], by simp [kid, kids], ⟨x, by simpa [kid, kids] using hx, by simp [traitName_inh, kid, kids, atoms, tIdent]⟩, ?_, ?_⟩
  · simpa [kid, kids, implItems, tList] using hlen
  · simp only [kid, kids, implItems, tList, List.getD_cons_succ, List.getD_cons_zero]
    exact fun i h1 h2 hs => traitItemOfImplItem_spec_inh (hget i h1 h2) hs

end DI

/-
  Alpha-invariance of parameter canonicalisation (C13 / C06): consistently respelling the declared generic parameters
  of an impl (`alphaRename π item`: declarations, lifetimes, lone type / expression paths, the first segment of longer
  paths — nothing else) does not change the canonical item. Statements: `Props/C13.lean` (`C13_alpha_*`).

  Indexing the respelled item from the state with respelled names is indexing the item and respelling the names of the
  resulting state (`indexImpl_commA`, the instance of `IxComm.indexImpl` of `Lemmas/CanonIdem.lean` for the textual
  renaming), so the renaming computed for the respelled item sends the new spelling of a parameter to the canonical name
  of the parameter (`Comp`), and resolving the respelled item with it gives the same tree (`rsT_arT`).
-/
import DisjointImpls.CanonAlphaDefs
import DisjointImpls.Lemmas.CanonIdem
import DisjointImpls.Lemmas.CanonDeclOrder
namespace DI

/-! ### The equations of `arT` -/

theorem arT_tparam (π : Renaming) (n : String) : arT π (.tparam n) = .tparam (rn π.ty n) := by rw [arT]
theorem arT_eparam (π : Renaming) (n : String) : arT π (.eparam n) = .eparam (exW π n) := by rw [arT]; rfl
theorem arT_ign (π : Renaming) (as : List String) (ks : List T) : arT π (.node "Ign" as ks) = .node "Ign" as ks := by rw [arT]
theorem arT_eq (π : Renaming) (as : List String) (ks : List T) : arT π (.node "Eq" as ks) = .node "Eq" as ks := by rw [arT]
theorem arT_lifetime (π : Renaming) (as : List String) (x : String) :
    arT π (.node "Lifetime" as [.node "Ident" [x] []]) = .node "Lifetime" as [.node "Ident" [rn π.lt x] []] := by rw [arT]
theorem arT_typePath (π : Renaming) (as : List String) (q p : T) :
    arT π (.node "Type::Path" as [q, p]) = .node "Type::Path" as [arT π q, mapHead (rn π.ty) (arT π p)] := by rw [arT]
theorem arT_exprPath (π : Renaming) (as : List String) (a q p : T) :
    arT π (.node "Expr::Path" as [a, q, p]) =
      .node "Expr::Path" as [arT π a, arT π q, mapHead (exW π) (arT π p)] := by rw [arT]; rfl

theorem arT_of_other (π : Renaming) {k : String} (as : List String) {ks : List T} (h : NodeOther k ks) :
    arT π (.node k as ks) = .node k as (arL π ks) :=
  h.arm (arT.eq_8 π k as ks)


/-! ### A condition on the names in parameter position, for arbitrary predicates -/

/-- one predicate per position: lifetime, type path, expression path -/
structure NP where
  lt : String → Bool
  ty : String → Bool
  ex : String → Bool

mutual
/-- every identifier in parameter position satisfies the predicate of its position (same traversal as `alOK`) -/
def alP (P : NP) : T → Bool
  | .tparam n => P.ty n
  | .eparam n => P.ex n
  | .node "Ign" _ _ => true
  | .node "Eq" _ _ => true
  | .node "Lifetime" _ [.node "Ident" [x] []] => P.lt x
  | .node "Type::Path" _ [q, p] =>
      alP P q && alP P p && (match firstSegIdent p with | some x => P.ty x | none => true)
  | .node "Expr::Path" _ [att, q, p] =>
      alP P att && alP P q && alP P p && (match firstSegIdent p with | some x => P.ex x | none => true)
  | .node _ _ ks => alPL P ks
def alPL (P : NP) : List T → Bool
  | [] => true
  | t :: ts => alP P t && alPL P ts
end

theorem alPL_all (P : NP) : ∀ ks : List T, alPL P ks = ks.all (alP P)
  | [] => by rw [alPL]; rfl
  | t :: ts => by rw [alPL, List.all_cons, alPL_all P ts]

theorem alP_allKids (P : NP) : AllKids (alP P) :=
  ⟨fun {k} as {ks} h => (h.arm (alP.eq_8 P k as ks)).trans (alPL_all P ks)⟩

theorem alP_ign (P : NP) (as : List String) (ks : List T) : alP P (.node "Ign" as ks) = true := by rw [alP]
theorem alP_eq (P : NP) (as : List String) (ks : List T) : alP P (.node "Eq" as ks) = true := by rw [alP]

theorem alP_typePath_iff {P : NP} {as : List String} {q p : T} :
    alP P (.node "Type::Path" as [q, p]) = true ↔
      alP P q = true ∧ alP P p = true ∧ ∀ x, firstSegIdent p = some x → P.ty x = true := by
  rw [alP]
  simp only [Bool.and_eq_true]
  constructor
  · rintro ⟨⟨hq, hp⟩, hm⟩
    refine ⟨hq, hp, fun x hx => ?_⟩
    rw [hx] at hm
    exact hm
  · rintro ⟨hq, hp, hm⟩
    refine ⟨⟨hq, hp⟩, ?_⟩
    cases hx : firstSegIdent p with
    | none => rfl
    | some x => exact hm x hx

theorem alP_exprPath_iff {P : NP} {as : List String} {a q p : T} :
    alP P (.node "Expr::Path" as [a, q, p]) = true ↔
      alP P a = true ∧ alP P q = true ∧ alP P p = true ∧ ∀ x, firstSegIdent p = some x → P.ex x = true := by
  rw [alP]
  simp only [Bool.and_eq_true]
  constructor
  · rintro ⟨⟨⟨ha, hq⟩, hp⟩, hm⟩
    refine ⟨ha, hq, hp, fun x hx => ?_⟩
    rw [hx] at hm
    exact hm
  · rintro ⟨ha, hq, hp, hm⟩
    refine ⟨⟨⟨ha, hq⟩, hp⟩, ?_⟩
    cases hx : firstSegIdent p with
    | none => rfl
    | some x => exact hm x hx

theorem alOKL_all (c : CCtx) : ∀ ks : List T, alOKL c ks = ks.all (alOK c)
  | [] => by rw [alOKL]; rfl
  | t :: ts => by rw [alOKL, List.all_cons, alOKL_all c ts]

theorem alOK_allKids (c : CCtx) : AllKids (alOK c) :=
  ⟨fun {k} as {ks} h => (h.arm (alOK.eq_8 c k as ks)).trans (alOKL_all c ks)⟩

theorem alOK_node (c : CCtx) {k : String} (as : List String) (ks : List T) (h1 : k ≠ "Ign") (h2 : k ≠ "Eq")
    (h3 : k ≠ "Lifetime") (h4 : k ≠ "Type::Path") (h5 : k ≠ "Expr::Path") :
    alOK c (.node k as ks) = alOKL c ks :=
  ((alOK_allKids c).node as ks ⟨h1, h2, h3, h4, h5⟩).trans (alOKL_all c ks).symm

theorem alOKL_nil (c : CCtx) : alOKL c [] = true := by rw [alOKL]

/-- `alOK` is `alP` at the three no-capture predicates -/
theorem alOK_eq_alP (c : CCtx) (t : T) : alOK c t = alP ⟨okLt c, okTy c, okEx c⟩ t := by
  induction t using T.shapeInd with
  | tparam n => rw [alOK, alP]
  | eparam n => rw [alOK, alP]
  | ign as ks => rw [alOK, alP]
  | eq as ks => rw [alOK, alP]
  | lifetime as x => rw [alOK, alP]
  | typePath as q p ihq ihp =>
    rw [alOK, alP, ihq, ihp]
    cases firstSegIdent p <;> rfl
  | exprPath as a q p iha ihq ihp =>
    rw [alOK, alP, iha, ihq, ihp]
    cases firstSegIdent p <;> rfl
  | other k as ks h ih =>
    rw [(alOK_allKids c).other as h, (alP_allKids _).other as h]
    rw [Bool.eq_iff_iff, List.all_eq_true, List.all_eq_true]
    exact ⟨fun hh t ht => by rw [← ih t ht]; exact hh t ht, fun hh t ht => by rw [ih t ht]; exact hh t ht⟩

theorem alOK_typePath_inv {c : CCtx} {as : List String} {q p : T} (h : alOK c (.node "Type::Path" as [q, p]) = true) :
    alOK c q = true ∧ alOK c p = true ∧ ∀ x, firstSegIdent p = some x → okTy c x = true := by
  simp only [alOK_eq_alP] at h ⊢
  exact alP_typePath_iff.1 h

theorem alOK_exprPath_inv {c : CCtx} {as : List String} {a q p : T}
    (h : alOK c (.node "Expr::Path" as [a, q, p]) = true) :
    alOK c a = true ∧ alOK c q = true ∧ alOK c p = true ∧ ∀ x, firstSegIdent p = some x → okEx c x = true := by
  simp only [alOK_eq_alP] at h ⊢
  exact alP_exprPath_iff.1 h

theorem arL_nil (π : Renaming) : arL π [] = [] := by rw [arL]
theorem arL_cons (π : Renaming) (t : T) (ts : List T) : arL π (t :: ts) = arT π t :: arL π ts := by rw [arL]

theorem arL_map (π : Renaming) : ∀ l : List T, arL π l = l.map (arT π)
  | [] => by rw [arL_nil]; rfl
  | t :: ts => by rw [arL_cons, arL_map π ts]; rfl

theorem arT_nodeMap (π : Renaming) : NodeMap (rn π.lt) (arT π) where
  other as _ h := by rw [arT_of_other π as h, arL_map]
  lifetime as x := arT_lifetime π as x
  inv {t k as ks'} h5 h := by
    induction t using T.shapeInd with
    | tparam n => rw [arT_tparam] at h; cases h
    | eparam n => rw [arT_eparam] at h; cases h
    | ign as0 ks0 => rw [arT_ign] at h; cases h; exact absurd rfl h5.1
    | eq as0 ks0 => rw [arT_eq] at h; cases h; exact absurd rfl h5.2.1
    | lifetime as0 x => rw [arT_lifetime] at h; cases h; exact absurd rfl h5.2.2.1
    | typePath as0 q p => rw [arT_typePath] at h; cases h; exact absurd rfl h5.2.2.2.1
    | exprPath as0 a q p => rw [arT_exprPath] at h; cases h; exact absurd rfl h5.2.2.2.2
    | other k0 as0 ks0 hh =>
      rw [arT_of_other π as0 hh, arL_map] at h
      cases h
      exact ⟨ks0, rfl, rfl⟩

/-! ### The indexer on `pathOf` and `mapHead` -/

theorem ixT_pathOf (s : IxState) (a : T) (x : String) (args : T) (rest : List T) :
    ixT s (pathOf a x args rest) = ixL (ixT (ixT s a) args) rest := by
  unfold pathOf
  rw [ixT_pathNode, ixL_cons, ixT_node _ [] _ (by simp) (by simp), ixL_cons, ixL_cons, ixL_nil, ixT_identLeaf]

theorem ixT_mapHead (f : String → String) (s : IxState) (p : T) : ixT s (mapHead f p) = ixT s p := by
  cases h : firstSegIdent p with
  | none => rw [mapHead_none f h]
  | some x =>
    obtain ⟨a, args, rest, rfl⟩ := path_of_firstSeg h
    rw [mapHead_pathOf, ixT_pathOf, ixT_pathOf]

/-! ### Indexing commutes with the textual renaming -/

/-- indexing the respelled tree from the state with respelled names is indexing the tree, then respelling the names
    of the state -/
theorem ixT_commA (c : CCtx) (st : Stat c) (t : T) : alOK c t = true → ∀ s, Un c s →
    ixT (mapS c.r s) (arT c.r t) = mapS c.r (ixT s t) := by
  induction t using T.shapeInd with
  | tparam n =>
    intro hok s hu
    rw [alOK] at hok
    rw [arT_tparam, ixT_tparam, ixT_tparam, tyIdent_comm c.r s n (rn c.r.ty n) (keyOK_ty st hu hok)]
  | eparam n =>
    intro hok s hu
    rw [alOK] at hok
    rw [arT_eparam, ixT_eparam, ixT_eparam]
    obtain ⟨h1, h2⟩ := keyOK_ex st hu hok
    exact exIdent_comm c.r s n (exW c.r n) h1 h2
  | ign as ks => intro _ s _; rw [arT_ign, ixT_ign, ixT_ign]
  | eq as ks => intro _ s _; rw [arT_eq, ixT_eq, ixT_eq]
  | lifetime as x =>
    intro hok s hu
    rw [alOK] at hok
    rw [arT_lifetime, ixT_lifetime, ixT_lifetime]
    exact ltIdent_comm c.r s x _ (keyOK_lt st hu hok)
  | typePath as q p ihq ihp =>
    intro hok s hu
    obtain ⟨hq, hp, hx⟩ := alOK_typePath_inv hok
    rw [arT_typePath, ixT_typePath, ixT_typePath, firstSegIdent_mapHead, (arT_nodeMap c.r).firstSegIdent, ixT_mapHead,
      ihq hq s hu]
    cases hf : firstSegIdent p with
    | none => exact ihp hp _ (hu.ixT q)
    | some x =>
      simp only [Option.map_some]
      rw [tyIdent_comm c.r (ixT s q) x (rn c.r.ty x) (keyOK_ty st (hu.ixT q) (hx x hf))]
      exact ihp hp _ ((hu.ixT q).ty x)
  | exprPath as a q p _ ihq ihp =>
    intro hok s hu
    obtain ⟨_, hq, hp, hx⟩ := alOK_exprPath_inv hok
    rw [arT_exprPath, ixT_exprPath, ixT_exprPath, firstSegIdent_mapHead, (arT_nodeMap c.r).firstSegIdent, ixT_mapHead,
      ihq hq s hu]
    cases hf : firstSegIdent p with
    | none => exact ihp hp _ (hu.ixT q)
    | some x =>
      simp only [Option.map_some]
      obtain ⟨k1, k2⟩ := keyOK_ex st (hu.ixT q) (hx x hf)
      rw [exIdent_comm c.r (ixT s q) x (exW c.r x) k1 k2]
      exact ihp hp _ ((hu.ixT q).ex x)
  | other k as ks h ih =>
    intro hok s hu
    by_cases hg : k = "Generics"
    · subst hg
      rw [arT_of_other c.r as h, ixT_generics, ixT_generics]
    · rw [(arT_nodeMap c.r).other as h, ixT_of_other _ as ((arT_nodeMap c.r).nodeOther h) hg, ixT_of_other _ as h hg]
      exact ixL_comm_of ks ih ((alOK_allKids c).kids as h hok) s hu

theorem arT_ixComm (c : CCtx) (st : Stat c) : IxComm c (arT c.r) (alOK c) where
  toNodeMap := arT_nodeMap c.r
  okAll := alOK_allKids c
  comm := ixT_commA c st

/-! ### Indexing the respelled item -/

theorem alpha_shape (π : Renaming) (a d u lt0 : T) (ps : List T) (gt0 wc tr sf items : T) :
    alphaRename π (.node "ItemImpl" [] [a, d, u, .node "Generics" [] [lt0, .node "List" [] ps, gt0, wc], tr, sf, items]) =
      .node "ItemImpl" [] [arT π a, arT π d, arT π u, genG (arT π) π lt0 ps gt0 wc, arT π tr, arT π sf, arT π items] :=
  (arT_nodeMap π).item π a d u lt0 ps gt0 wc tr sf items

/-- **indexing the respelled impl gives the state of the original indexing with the names respelled** (same indices,
    same order) -/
theorem indexImpl_commA (c : CCtx) (st : Stat c) (a d u lt0 : T) (ps : List T) (gt0 wc tr sf items : T)
    (hD : ∀ k, c.D k = kindNames (.node "Generics" [] [lt0, .node "List" [] ps, gt0, wc]) (kindStr k))
    (hps : ∀ p ∈ ps, (paramIdent p).isSome = true)
    (hok : alOK c (.node "ItemImpl" [] [a, d, u, .node "Generics" [] [lt0, .node "List" [] ps, gt0, wc], tr, sf, items]) = true) :
    indexImpl (alphaRename c.r (.node "ItemImpl" [] [a, d, u, .node "Generics" [] [lt0, .node "List" [] ps, gt0, wc], tr, sf, items])) =
      mapS c.r (indexImpl (.node "ItemImpl" [] [a, d, u, .node "Generics" [] [lt0, .node "List" [] ps, gt0, wc], tr, sf, items])) := by
  rw [alpha_shape]
  exact (arT_ixComm c st).indexImpl st lt0 ps gt0 wc hD hps a d u tr sf items hok

/-- the condition is monotone in the predicates -/
theorem alP_mono {P Q : NP} (hlt : ∀ n, P.lt n = true → Q.lt n = true) (hty : ∀ n, P.ty n = true → Q.ty n = true)
    (hex : ∀ n, P.ex n = true → Q.ex n = true) (t : T) : alP P t = true → alP Q t = true := by
  induction t using T.shapeInd with
  | tparam n => intro h; rw [alP] at h ⊢; exact hty n h
  | eparam n => intro h; rw [alP] at h ⊢; exact hex n h
  | ign as ks => exact fun _ => alP_ign Q as ks
  | eq as ks => exact fun _ => alP_eq Q as ks
  | lifetime as x => intro h; rw [alP] at h ⊢; exact hlt x h
  | typePath as q p ihq ihp =>
    intro h
    rw [alP_typePath_iff] at h ⊢
    exact ⟨ihq h.1, ihp h.2.1, fun x hx => hty x (h.2.2 x hx)⟩
  | exprPath as a q p iha ihq ihp =>
    intro h
    rw [alP_exprPath_iff] at h ⊢
    exact ⟨iha h.1, ihq h.2.1, ihp h.2.2.1, fun x hx => hex x (h.2.2.2 x hx)⟩
  | other k as ks hh ih =>
    intro h
    rw [(alP_allKids Q).other as hh, List.all_eq_true]
    exact fun t ht => ih t ht ((alP_allKids P).kids as hh h t ht)

/-! ### Resolving the respelled tree -/

/-- `r'` resolves the new spelling of a name to what `r` resolves the name to; a name `r` does not resolve is not
    respelled -/
structure Comp (c : CCtx) (r r' : Renaming) : Prop where
  lt : ∀ n, okLt c n = true → rn r'.lt (rn c.r.lt n) = rn r.lt n
  ty : ∀ n, okTy c n = true → rlookup r'.ty (rn c.r.ty n) = rlookup r.ty n ∧ (rlookup r.ty n = none → rn c.r.ty n = n)
  ex : ∀ n, okEx c n = true → rlookup r'.ty (exW c.r n) = rlookup r.ty n ∧
    (rlookup r.ty n = none → rlookup r'.co (exW c.r n) = rlookup r.co n ∧ (rlookup r.co n = none → exW c.r n = n))
  co : ∀ n, n ∈ c.dCo → rn r'.co (rn c.r.co n) = rn r.co n

theorem rsTypePath_mapHead {r r' : Renaming} {f : String → String} (as : List String) (Q P : T)
    (h : ∀ x, firstSegIdent P = some x → rlookup r'.ty (f x) = rlookup r.ty x ∧ (rlookup r.ty x = none → f x = x)) :
    rsTypePath r' as Q (mapHead f P) = rsTypePath r as Q P := by
  cases hf : firstSegIdent P with
  | none => rw [mapHead_none f hf]; unfold rsTypePath; rw [hf]
  | some x =>
    obtain ⟨e1, e2⟩ := h x hf
    cases hl : rlookup r.ty x with
    | some m =>
      rw [hl] at e1
      unfold rsTypePath
      rw [firstSegIdent_mapHead, restSegments_mapHead, hf]
      simp only [Option.map_some, e1, hl]
    | none =>
      rw [mapHead_id (fun y hy => by rw [hf] at hy; cases hy; exact e2 hl)]
      have e1' : rlookup r'.ty x = none := by rw [← e2 hl, e1, hl]
      unfold rsTypePath
      rw [hf]
      simp only [e1', hl]

theorem rsExprPath_mapHead {r r' : Renaming} {f : String → String} (as : List String) (A Q P : T)
    (h : ∀ x, firstSegIdent P = some x → rlookup r'.ty (f x) = rlookup r.ty x ∧
      (rlookup r.ty x = none → rlookup r'.co (f x) = rlookup r.co x ∧ (rlookup r.co x = none → f x = x)))
    (hb : ∀ x m, firstSegIdent P = some x → rlookup r.ty x = none → rlookup r.co x = some m →
      Q = noneNode ∧ P = plainPath x []) :
    rsExprPath r' as A Q (mapHead f P) = rsExprPath r as A Q P := by
  cases hf : firstSegIdent P with
  | none => rw [mapHead_none f hf]; unfold rsExprPath; rw [hf]
  | some x =>
    obtain ⟨e1, e2⟩ := h x hf
    cases hl : rlookup r.ty x with
    | some m =>
      rw [hl] at e1
      unfold rsExprPath
      rw [firstSegIdent_mapHead, restSegments_mapHead, hf]
      simp only [Option.map_some, e1, hl]
    | none =>
      obtain ⟨e3, e4⟩ := e2 hl
      rw [hl] at e1
      cases hl2 : rlookup r.co x with
      | some m =>
        obtain ⟨rfl, rfl⟩ := hb x m hf hl hl2
        rw [hl2] at e3
        rw [mapHead_plainPath, rsExprPath_bare e1 e3, rsExprPath_bare hl hl2]
      | none =>
        rw [mapHead_id (fun y hy => by rw [hf] at hy; cases hy; exact e4 hl2)]
        have e1' : rlookup r'.ty x = none := by rw [← e4 hl2, e1]
        have e3' : rlookup r'.co x = none := by rw [← e4 hl2, e3, hl2]
        unfold rsExprPath
        rw [hf]
        simp only [e1', e3', hl, hl2]

/-- `rsT_arT` with the facts about the two renamings required only for the names that satisfy `P` -/
theorem rsT_arT_live (c cc : CCtx) (r' : Renaming) (P : NP)
    (hlt : ∀ n, okLt c n = true → P.lt n = true → rn r'.lt (rn c.r.lt n) = rn cc.r.lt n)
    (hty : ∀ n, okTy c n = true → P.ty n = true →
      rlookup r'.ty (rn c.r.ty n) = rlookup cc.r.ty n ∧ (rlookup cc.r.ty n = none → rn c.r.ty n = n))
    (hex : ∀ n, okEx c n = true → P.ex n = true → rlookup r'.ty (exW c.r n) = rlookup cc.r.ty n ∧
      (rlookup cc.r.ty n = none → rlookup r'.co (exW c.r n) = rlookup cc.r.co n ∧
        (rlookup cc.r.co n = none → exW c.r n = n)))
    (t : T) : alOK c t = true → alP P t = true → rsOK cc t = true → rsT r' (arT c.r t) = rsT cc.r t := by
  induction t using T.shapeInd with
  | tparam n =>
    intro hok hp _
    rw [alOK] at hok
    rw [alP] at hp
    obtain ⟨e1, e2⟩ := hty n hok hp
    rw [arT_tparam, rsT_tparam, rsT_tparam, e1]
    cases hl : rlookup cc.r.ty n with
    | some m => rfl
    | none => simp only [Option.getD_none]; rw [e2 hl]
  | eparam n =>
    intro hok hp _
    rw [alOK] at hok
    rw [alP] at hp
    obtain ⟨e1, e2⟩ := hex n hok hp
    rw [arT_eparam, rsT_eparam, rsT_eparam, e1]
    cases hl : rlookup cc.r.ty n with
    | some m => rfl
    | none =>
      obtain ⟨e3, e4⟩ := e2 hl
      rw [e3]
      cases hl2 : rlookup cc.r.co n with
      | some m => rfl
      | none => simp only [Option.or_none, Option.getD_none]; rw [e4 hl2]
  | ign as ks => intro _ _ _; rw [arT_ign, rsT_ign, rsT_ign]
  | eq as ks => intro _ _ _; rw [arT_eq, rsT_eq, rsT_eq]
  | lifetime as x =>
    intro hok hp _
    rw [alOK] at hok
    rw [alP] at hp
    rw [arT_lifetime, rsT_lifetime, rsT_lifetime]
    show T.node "Lifetime" as [T.node "Ident" [rn r'.lt (rn c.r.lt x)] []] =
      T.node "Lifetime" as [T.node "Ident" [rn cc.r.lt x] []]
    rw [hlt x hok hp]
  | typePath as q p ihq ihp =>
    intro hok hp hrs
    obtain ⟨hq, hp1, hx⟩ := alOK_typePath_inv hok
    obtain ⟨pq, pp, px⟩ := alP_typePath_iff.1 hp
    obtain ⟨hq', hp', _⟩ := rsOK_typePath_inv hrs
    rw [arT_typePath, rsT_typePath, rsT_typePath, (rsT_nodeMap r').mapHead, ihq hq pq hq', ihp hp1 pp hp']
    apply rsTypePath_mapHead
    intro x hfx
    rw [firstSegIdent_rsT] at hfx
    exact hty x (hx x hfx) (px x hfx)
  | exprPath as a q p iha ihq ihp =>
    intro hok hp hrs
    obtain ⟨ha, hq, hp1, hx⟩ := alOK_exprPath_inv hok
    obtain ⟨pa, pq, pp, px⟩ := alP_exprPath_iff.1 hp
    obtain ⟨ha', hq', hp', hx'⟩ := rsOK_exprPath_inv hrs
    rw [arT_exprPath, rsT_exprPath, rsT_exprPath, (rsT_nodeMap r').mapHead, iha ha pa ha', ihq hq pq hq', ihp hp1 pp hp']
    apply rsExprPath_mapHead
    · intro x hfx
      rw [firstSegIdent_rsT] at hfx
      exact hex x (hx x hfx) (px x hfx)
    · intro x m hfx hl hl2
      rw [firstSegIdent_rsT] at hfx
      obtain ⟨hplain, hemp⟩ := (hx' x hfx).2.1 m (by rw [hl, hl2]; rfl)
      obtain ⟨rfl, x', rest, rfl⟩ := plainHead_inv hplain
      cases hfx
      cases rest with
      | cons _ _ => cases hemp hl
      | nil => rw [(rsT_nodeMap cc.r).noneNode_eq, rsT_plainPath, rsL_nil]; exact ⟨rfl, rfl⟩
  | other k as ks h ih =>
    intro hok hp hrs
    rw [(arT_nodeMap c.r).other as h, (rsT_nodeMap r').other as ((arT_nodeMap c.r).nodeOther h),
      (rsT_nodeMap cc.r).other as h, List.map_map]
    exact congrArg _ (List.map_congr_left fun t ht => ih t ht ((alOK_allKids c).kids as h hok t ht)
      ((alP_allKids P).kids as h hp t ht) ((rsOK_allKids cc).kids as h hrs t ht))

theorem alP_top (t : T) : alP ⟨fun _ => true, fun _ => true, fun _ => true⟩ t = true := by
  induction t using T.shapeInd with
  | tparam n => rw [alP]
  | eparam n => rw [alP]
  | ign as ks => exact alP_ign _ as ks
  | eq as ks => exact alP_eq _ as ks
  | lifetime as x => rw [alP]
  | typePath as q p ihq ihp => exact alP_typePath_iff.2 ⟨ihq, ihp, fun _ _ => rfl⟩
  | exprPath as a q p iha ihq ihp => exact alP_exprPath_iff.2 ⟨iha, ihq, ihp, fun _ _ => rfl⟩
  | other k as ks h ih => rw [(alP_allKids _).other as h, List.all_eq_true]; exact ih

/-- **resolving the respelled tree with `r'` is resolving the tree with `r`** -/
theorem rsT_arT (c cc : CCtx) (r' : Renaming) (cp : Comp c cc.r r') (t : T) (h1 : alOK c t = true)
    (h2 : rsOK cc t = true) : rsT r' (arT c.r t) = rsT cc.r t :=
  rsT_arT_live c cc r' _ (fun n h _ => cp.lt n h) (fun n h _ => cp.ty n h) (fun n h _ => cp.ex n h) t h1 (alP_top t) h2

/-! ### … and the respelled declarations -/

theorem rn_comp {m m' : List (String × String)} {z x : String} (h1 : rlookup m' z = rlookup m x)
    (h2 : rlookup m x = none → z = x) : rn m' z = rn m x := by
  cases hl : rlookup m x with
  | some v => rw [rn_of_some hl, rn_of_some (h1.trans hl)]
  | none => rw [rn_of_none hl, rn_of_none (h1.trans hl)]; exact h2 hl

/-- canonicalising a respelled declaration with `r'` is canonicalising the declaration with `r` -/
theorem declF_declA (c cc : CCtx) (r' : Renaming) (cp : Comp c cc.r r') {p : T} {k : PK} {y : String}
    (hd : IsDecl p k y) (hy : y ∈ c.D k) (h1 : alOK c p = true) (h2 : rsOK cc p = true) :
    declF r' (arT c.r (renameDecl c.r p)) = declF cc.r p := by
  obtain ⟨_, _, _, e1, k1⟩ := hd.okKids (alOK_allKids c) h1
  obtain ⟨_, _, _, e2, k2⟩ := hd.okKids (rsOK_allKids cc) h2
  have kids : ∀ ks : List T, (∀ t ∈ ks, alOK c t = true) → (∀ t ∈ ks, rsOK cc t = true) →
      (ks.map (arT c.r)).map (rsT r') = ks.map (rsT cc.r) := by
    intro ks g1 g2
    rw [List.map_map]
    exact List.map_congr_left fun t ht => rsT_arT c cc r' cp t (g1 t ht) (g2 t ht)
  unfold declF
  cases hd with
  | ty a _ rest =>
    cases e1; cases e2
    obtain ⟨n1, n2⟩ := cp.ty y (by simp [okTy, show y ∈ c.dTy from hy])
    rw [(arT_nodeMap c.r).decl_ty, (rsT_nodeMap r').decl_ty, (rsT_nodeMap cc.r).decl_ty,
      rsT_arT c cc r' cp a (k1 a (by simp)) (k2 a (by simp)),
      kids rest (fun t ht => k1 t (by simp [ht])) (fun t ht => k2 t (by simp [ht])), rn_comp n1 n2]
  | co a _ rest =>
    cases e1; cases e2
    rw [(arT_nodeMap c.r).decl_co, (rsT_nodeMap r').decl_co, (rsT_nodeMap cc.r).decl_co,
      rsT_arT c cc r' cp a (k1 a (by simp)) (k2 a (by simp)),
      kids rest (fun t ht => k1 t (by simp [ht])) (fun t ht => k2 t (by simp [ht])), cp.co y hy]
  | lt a _ rest =>
    cases e1; cases e2
    rw [(arT_nodeMap c.r).decl_lt, (rsT_nodeMap r').decl_lt, (rsT_nodeMap cc.r).decl_lt,
      rsT_arT c cc r' cp a (k1 a (by simp)) (k2 a (by simp)),
      kids rest (fun t ht => k1 t (by simp [ht])) (fun t ht => k2 t (by simp [ht])),
      cp.lt y (by simp [okLt, show y ∈ c.dLt from hy])]

/-! ### The static facts from the executable conditions -/

theorem alphaCtx_D (π : Renaming) (item : T) (k : PK) : (alphaCtx π item).D k = (canonCtx item).D k := by
  cases k <;> rfl

theorem alpha_stat (π : Renaming) (item : T) (hd : namesDistinct (canonCtx item) = true)
    (hdom : domOK (alphaCtx π item) = true) (hinj : injOK (alphaCtx π item) = true) : Stat (alphaCtx π item) := by
  simp only [domOK, Bool.and_eq_true] at hdom
  simp only [injOK, Bool.and_eq_true, decide_eq_true_eq] at hinj
  obtain ⟨i1, i2⟩ := hinj
  unfold CCtx.imgLt at i1
  unfold CCtx.imgTy CCtx.imgCo at i2
  rw [List.nodup_append] at i2
  refine ⟨?_, ?_, disj_of_nodup (namesDistinct_tyco hd)⟩
  · intro k x v h
    have hm : x ∈ ((alphaCtx π item).m k).map Prod.fst := List.mem_map.2 ⟨(x, v), rlookup_some_mem h, rfl⟩
    cases k
    · exact (by simpa using List.all_eq_true.1 hdom.1.1 x hm : x ∈ (alphaCtx π item).dLt)
    · exact (by simpa using List.all_eq_true.1 hdom.1.2 x hm : x ∈ (alphaCtx π item).dTy)
    · exact (by simpa using List.all_eq_true.1 hdom.2 x hm : x ∈ (alphaCtx π item).dCo)
  · intro k k' hns y x hy hx e
    match k, k', hns with
    | .lt, .lt, _ => exact nodup_map_inj i1 hy hx e
    | .ty, .ty, _ => exact nodup_map_inj i2.1 hy hx e
    | .co, .co, _ => exact nodup_map_inj i2.2.1 hy hx e
    | .ty, .co, _ => exact absurd e (i2.2.2 _ (List.mem_map.2 ⟨y, hy, rfl⟩) _ (List.mem_map.2 ⟨x, hx, rfl⟩))
    | .co, .ty, _ => exact absurd e.symm (i2.2.2 _ (List.mem_map.2 ⟨x, hx, rfl⟩) _ (List.mem_map.2 ⟨y, hy, rfl⟩))
    | .lt, .ty, h | .lt, .co, h | .ty, .lt, h | .co, .lt, h => cases h

/-! ### The renaming computed for the respelled item -/

theorem renaming_m (s : IxState) (k : PK) :
    s.renaming.m k = (s.ix k).map (fun p => (p.1, genIndexedIdent p.2)) := by
  cases k <;> rfl

theorem mapS_renaming_m (c : CCtx) (s : IxState) (k : PK) :
    (mapS c.r s).renaming.m k = (s.ix k).map (fun p => (c.ρ k p.1, genIndexedIdent p.2)) := by
  cases k <;> simp only [mapS, IxState.renaming, Renaming.m, IxState.ix, List.map_map] <;> rfl

theorem rlookup_ixmap_comm (f : String → String) (x : String) : ∀ (ix : List (String × Nat)),
    (∀ a ∈ ix.map Prod.fst, f a = f x → a = x) →
    rlookup (ix.map (fun p => (f p.1, genIndexedIdent p.2))) (f x) =
      rlookup (ix.map (fun p => (p.1, genIndexedIdent p.2))) x
  | [], _ => rfl
  | (a, i) :: ix, h => by
      simp only [List.map_cons, rlookup]
      by_cases e : a = x
      · subst e; simp
      · have e' : ¬ f a = f x := fun e' => e (h a (by simp) e')
        rw [if_neg e, if_neg e']
        exact rlookup_ixmap_comm f x ix (fun b hb => h b (List.mem_cons_of_mem _ hb))

section CompProof
variable (c : CCtx) (st : Stat c) (s : IxState)
  (hnm : ∀ k, ∀ y, y ∈ s.names k ↔ y ∈ c.D k)

include hnm in
theorem ix_mem_D {k : PK} {a : String} (ha : a ∈ (s.ix k).map Prod.fst) : a ∈ c.D k :=
  (hnm k a).1 (by rw [names_eq]; exact List.mem_append_left _ ha)

include st hnm in
/-- the two look-ups agree at a name of kind `k` that is declared or not spelled like a new name, provided that it is not
    a waiting parameter that is respelled (a waiting parameter has no entry on either side) -/
theorem comp_lk (k : PK) (n : String) (h : n ∈ c.D k ∨ n ∉ (c.D k).map (c.ρ k)) (hw : n ∈ s.un k → c.ρ k n = n) :
    rlookup ((mapS c.r s).renaming.m k) (c.ρ k n) = rlookup (s.renaming.m k) n ∧
    (rlookup (s.renaming.m k) n = none → c.ρ k n = n) := by
  rw [mapS_renaming_m, renaming_m]
  by_cases hn : n ∈ c.D k
  · constructor
    · exact rlookup_ixmap_comm (c.ρ k) n (s.ix k)
        (fun a ha e => st.inj k k rfl a n (ix_mem_D c s hnm ha) hn e)
    · intro hl
      have hk := rlookup_eq_none_iff.1 hl
      rw [List.map_map] at hk
      have hnames := (hnm k n).2 hn
      rw [names_eq] at hnames
      rcases List.mem_append.1 hnames with h' | h'
      · exact absurd h' hk
      · exact hw h'
  · have hf : n ∉ (c.D k).map (c.ρ k) := h.resolve_left hn
    rw [st.rho_notin hn]
    refine ⟨?_, fun _ => rfl⟩
    rw [rlookup_eq_none_iff.2, rlookup_eq_none_iff.2]
    · rw [List.map_map]
      exact fun ha => hn (ix_mem_D c s hnm ha)
    · rw [List.map_map]
      intro ha
      obtain ⟨p, hp, e'⟩ := List.mem_map.1 ha
      exact hf (List.mem_map.2 ⟨p.1, ix_mem_D c s hnm (List.mem_map.2 ⟨p, hp, rfl⟩), e'⟩)

include st hnm in
theorem comp_cross {k k' : PK} (hne : k ≠ k') (hns : k.ns = k'.ns) {n : String} (hn : n ∈ c.D k) :
    rlookup ((mapS c.r s).renaming.m k') (c.ρ k n) = none := by
  rw [mapS_renaming_m]
  apply rlookup_eq_none_iff.2
  rw [List.map_map]
  intro ha
  obtain ⟨p, hp, e'⟩ := List.mem_map.1 ha
  have hp' : p.1 ∈ c.D k' := ix_mem_D c s hnm (List.mem_map.2 ⟨p, hp, rfl⟩)
  have := st.inj k' k hns.symm p.1 n hp' hn e'
  rw [this] at hp'
  exact hne (st.disj k k' hns n hn hp')

include hnm in
theorem comp_r_none {k : PK} {n : String} (hn : n ∉ c.D k) : rlookup (s.renaming.m k) n = none := by
  rw [renaming_m]
  apply rlookup_eq_none_iff.2
  rw [List.map_map]
  exact fun ha => hn (ix_mem_D c s hnm ha)

include st hnm in
theorem comp_lt (n : String) (hok : okLt c n = true) (hw : n ∈ s.unLt → rn c.r.lt n = n) :
    rn (mapS c.r s).renaming.lt (rn c.r.lt n) = rn s.renaming.lt n := by
  obtain ⟨e1, e2⟩ := comp_lk c st s hnm .lt n (okLt_iff.1 hok) hw
  exact rn_comp e1 e2

include st hnm in
theorem comp_ty (n : String) (hok : okTy c n = true) (hw : n ∈ s.unTy → rn c.r.ty n = n) :
    rlookup (mapS c.r s).renaming.ty (rn c.r.ty n) = rlookup s.renaming.ty n ∧
    (rlookup s.renaming.ty n = none → rn c.r.ty n = n) :=
  comp_lk c st s hnm .ty n (okTy_iff.1 hok) hw

include st hnm in
/-- a name in expression position is a type parameter, a const parameter, or neither: in each case the look-ups in
    the two tables agree -/
theorem comp_ex (n : String) (hok : okEx c n = true) (hwt : n ∈ s.unTy → rn c.r.ty n = n)
    (hwc : n ∈ s.unCo → rn c.r.co n = n) :
    rlookup (mapS c.r s).renaming.ty (exW c.r n) = rlookup s.renaming.ty n ∧
    (rlookup s.renaming.ty n = none → rlookup (mapS c.r s).renaming.co (exW c.r n) = rlookup s.renaming.co n ∧
      (rlookup s.renaming.co n = none → exW c.r n = n)) := by
  rcases exW_cases st n with ⟨hty, hco, e⟩ | ⟨hty, hco, e⟩ | ⟨hty, hco, e⟩
  · rw [e]
    obtain ⟨e1, e2⟩ := comp_lk c st s hnm .ty n (Or.inl hty) hwt
    refine ⟨e1, fun hl => ⟨?_, fun _ => e2 hl⟩⟩
    exact (comp_cross c st s hnm (k := .ty) (k' := .co) (by decide) rfl hty).trans
      (comp_r_none c s hnm (k := .co) hco).symm
  · rw [e]
    obtain ⟨e1, e2⟩ := comp_lk c st s hnm .co n (Or.inl hco) hwc
    refine ⟨?_, fun _ => ⟨e1, e2⟩⟩
    exact (comp_cross c st s hnm (k := .co) (k' := .ty) (by decide) rfl hco).trans
      (comp_r_none c s hnm (k := .ty) hty).symm
  · rw [e]
    have hf : n ∉ c.imgTy ∧ n ∉ c.imgCo := by
      rcases okEx_iff.1 hok with (h | h) | h
      · exact absurd h hty
      · exact absurd h hco
      · exact h
    have a1 := comp_lk c st s hnm .ty n (Or.inr hf.1) hwt
    have a2 := comp_lk c st s hnm .co n (Or.inr hf.2) hwc
    rw [st.rho_notin (k := .ty) hty] at a1
    rw [st.rho_notin (k := .co) hco] at a2
    exact ⟨a1.1, fun _ => ⟨a2.1, fun _ => rfl⟩⟩

variable (hdead : ∀ k, ∀ y ∈ s.un k, c.ρ k y = y)

include st hnm hdead in
theorem alpha_comp : Comp c s.renaming (mapS c.r s).renaming where
  lt n hok := comp_lt c st s hnm n hok (hdead .lt n)
  ty n hok := comp_ty c st s hnm n hok (hdead .ty n)
  ex n hok := comp_ex c st s hnm n hok (hdead .ty n) (hdead .co n)
  co n hn := by
    obtain ⟨e1, e2⟩ := comp_lk c st s hnm .co n (Or.inl hn) (hdead .co n)
    exact rn_comp e1 e2

end CompProof

/-! ### Alpha-invariance -/

theorem deadFixed_un {π : Renaming} {item : T} (h : deadFixed π item = true) :
    ∀ k, ∀ y ∈ (indexImpl item).un k, (alphaCtx π item).ρ k y = y := by
  simp only [deadFixed, Bool.and_eq_true, List.all_eq_true, beq_iff_eq] at h
  intro k y hy
  cases k
  · exact h.1.1 y hy
  · exact h.1.2 y hy
  · exact h.2 y hy

/-- the canonical item of the respelled impl, `r'` being the renaming computed for it -/
theorem canon_alpha_shape (π : Renaming) (a d u lt0 : T) (ps : List T) (gt0 wc tr sf items : T) (r' : Renaming)
    (hr' : r' = (indexImpl (alphaRename π
      (.node "ItemImpl" [] [a, d, u, .node "Generics" [] [lt0, .node "List" [] ps, gt0, wc], tr, sf, items]))).renaming) :
    canon (alphaRename π (.node "ItemImpl" [] [a, d, u, .node "Generics" [] [lt0, .node "List" [] ps, gt0, wc], tr, sf, items])) =
      .node "ItemImpl" [] [rsT r' (arT π a), rsT r' (arT π d), rsT r' (arT π u),
        genG (rsT r') r' (arT π lt0) (ps.map fun p => arT π (renameDecl π p)) (arT π gt0) (arT π wc),
        rsT r' (arT π tr), rsT r' (arT π sf), rsT r' (arT π items)] := by
  rw [alpha_shape] at hr' ⊢
  exact canon_shape _ _ _ _ _ _ _ _ _ _ r' hr'

theorem alpha_names (π : Renaming) (item : T) (k : PK) (y : String) :
    y ∈ (indexImpl item).names k ↔ y ∈ (alphaCtx π item).D k := by
  rw [alphaCtx_D]
  exact canonCtx_mem_D item k y

/-- the state of the indexer on the respelled impl, from the clauses of `alphaOK` that are used -/
theorem alpha_indexImpl_of (π : Renaming) (item : T) (hdecl : implDeclsOK item = true)
    (st : Stat (alphaCtx π item)) (hok : alOK (alphaCtx π item) item = true) :
    indexImpl (alphaRename π item) = mapS π (indexImpl item) := by
  obtain ⟨a, d, u, lt0, ps, gt0, wc, tr, sf, items, rfl, hps⟩ := implDeclsOK_inv hdecl
  exact indexImpl_commA _ st a d u lt0 ps gt0 wc tr sf items (fun k => by cases k <;> rfl) hps hok

/-- the state of the indexer on the respelled impl -/
theorem alpha_indexImpl (π : Renaming) (item : T) (hdecl : implDeclsOK item = true)
    (hd : namesDistinct (canonCtx item) = true) (hal : alphaOK π item = true) :
    indexImpl (alphaRename π item) = mapS π (indexImpl item) := by
  simp only [alphaOK, Bool.and_eq_true] at hal
  exact alpha_indexImpl_of π item hdecl (alpha_stat π item hd hal.1.1.1 hal.1.1.2) hal.2

/-- **alpha-invariance of canonicalisation** (the pieces of `canonWF` that are used, separately) -/
theorem canon_alpha (π : Renaming) (item : T) (hdecl : implDeclsOK item = true)
    (hd : namesDistinct (canonCtx item) = true) (hrs : rsOK (canonCtx item) item = true)
    (hal : alphaOK π item = true) : canon (alphaRename π item) = canon item := by
  simp only [alphaOK, Bool.and_eq_true] at hal
  obtain ⟨⟨⟨hdom, hinj⟩, hdead⟩, hok⟩ := hal
  have st := alpha_stat π item hd hdom hinj
  have cp : Comp (alphaCtx π item) (canonCtx item).r (mapS (alphaCtx π item).r (indexImpl item)).renaming :=
    alpha_comp (alphaCtx π item) st (indexImpl item) (alpha_names π item) (deadFixed_un hdead)
  have hix := alpha_indexImpl_of π item hdecl st hok
  obtain ⟨a, d, u, lt0, ps, gt0, wc, tr, sf, items, rfl, hps⟩ := implDeclsOK_inv hdecl
  generalize hc : alphaCtx π _ = c at st hok cp
  generalize hcc : canonCtx _ = cc at hrs cp
  have hπ : c.r = π := by rw [← hc]; rfl
  have hr : cc.r = (indexImpl (.node "ItemImpl" [] [a, d, u, .node "Generics" [] [lt0, .node "List" [] ps, gt0, wc], tr, sf, items])).renaming := by
    rw [← hcc]; rfl
  have hD : ∀ k, c.D k = kindNames (.node "Generics" [] [lt0, .node "List" [] ps, gt0, wc]) (kindStr k) := by
    intro k; rw [← hc]; cases k <;> rfl
  subst hπ
  obtain ⟨hk, hgk, hpok⟩ := (alOK_allKids c).item hok
  obtain ⟨rk, rgk, rpok⟩ := (rsOK_allKids cc).item hrs
  have key := fun t (ht : alOK c t = true ∧ rsOK cc t = true) => rsT_arT c cc _ cp t ht.1 ht.2
  have hdecls : (ps.map fun p => arT c.r (renameDecl c.r p)).map (fun p => rsT (mapS c.r (indexImpl (.node "ItemImpl" [] [a, d, u, .node "Generics" [] [lt0, .node "List" [] ps, gt0, wc], tr, sf, items]))).renaming
        (renameDecl (mapS c.r (indexImpl (.node "ItemImpl" [] [a, d, u, .node "Generics" [] [lt0, .node "List" [] ps, gt0, wc], tr, sf, items]))).renaming p)) =
      ps.map fun p => rsT cc.r (renameDecl cc.r p) := by
    rw [List.map_map]
    apply List.map_congr_left
    intro p hp
    obtain ⟨k, y, hdp⟩ := isDecl_of_paramIdent (hps p hp)
    exact declF_declA c cc _ cp hdp (hdp.mem_D lt0 ps gt0 wc hD hp) (hpok p hp) (rpok p hp)
  rw [canon_alpha_shape c.r a d u lt0 ps gt0 wc tr sf items _ (congrArg IxState.renaming hix).symm,
    canon_shape a d u lt0 ps gt0 wc tr sf items cc.r hr]
  unfold genG
  rw [key a ⟨hk _ (by simp), rk _ (by simp)⟩, key d ⟨hk _ (by simp), rk _ (by simp)⟩,
    key u ⟨hk _ (by simp), rk _ (by simp)⟩, key tr ⟨hk _ (by simp), rk _ (by simp)⟩,
    key sf ⟨hk _ (by simp), rk _ (by simp)⟩, key items ⟨hk _ (by simp), rk _ (by simp)⟩,
    key lt0 ⟨hgk _ (by simp), rgk _ (by simp)⟩, key gt0 ⟨hgk _ (by simp), rgk _ (by simp)⟩,
    key wc ⟨hgk _ (by simp), rgk _ (by simp)⟩, hdecls]

/-- the respelled impl has a well-formed parameter list with distinct names again (so the declaration-order theorems
    apply to it): the new names are the images, which `injOK` says are distinct -/
theorem alpha_decls_of (π : Renaming) (item : T) (hdecl : implDeclsOK item = true)
    (hinj : injOK (alphaCtx π item) = true) :
    implDeclsOK (alphaRename π item) = true ∧ namesDistinct (canonCtx (alphaRename π item)) = true := by
  obtain ⟨a, d, u, lt0, ps, gt0, wc, tr, sf, items, rfl, hps⟩ := implDeclsOK_inv hdecl
  generalize hc : alphaCtx π _ = c at hinj
  have hπ : c.r = π := by rw [← hc]; rfl
  have hD : ∀ k, c.D k = kindNames (.node "Generics" [] [lt0, .node "List" [] ps, gt0, wc]) (kindStr k) := by
    intro k; rw [← hc]; cases k <;> rfl
  subst hπ
  have hF := arT_nodeMap c.r
  rw [alpha_shape]
  constructor
  · show ((ps.map fun p => arT c.r (renameDecl c.r p)).all fun p => (paramIdent p).isSome) = true
    rw [List.all_eq_true]
    intro p' hp'
    obtain ⟨p, hp, rfl⟩ := List.mem_map.1 hp'
    obtain ⟨k, y, hdp⟩ := isDecl_of_paramIdent (hps p hp)
    rw [(hF.isDecl hdp).ident]
    rfl
  · have e1 := kindNames_genG hF lt0 ps gt0 wc hps .lt
    have e2 := kindNames_genG hF lt0 ps gt0 wc hps .ty
    have e3 := kindNames_genG hF lt0 ps gt0 wc hps .co
    rw [← hD] at e1 e2 e3
    show (decide (kindNames (genG (arT c.r) c.r lt0 ps gt0 wc) "GenericParam::Lifetime").Nodup &&
      decide (kindNames (genG (arT c.r) c.r lt0 ps gt0 wc) "GenericParam::Type" ++
        kindNames (genG (arT c.r) c.r lt0 ps gt0 wc) "GenericParam::Const").Nodup) = true
    rw [show kindNames _ "GenericParam::Lifetime" = _ from e1, show kindNames _ "GenericParam::Type" = _ from e2,
      show kindNames _ "GenericParam::Const" = _ from e3]
    exact hinj

theorem alpha_decls (π : Renaming) (item : T) (hdecl : implDeclsOK item = true) (hal : alphaOK π item = true) :
    implDeclsOK (alphaRename π item) = true ∧ namesDistinct (canonCtx (alphaRename π item)) = true := by
  simp only [alphaOK, Bool.and_eq_true] at hal
  exact alpha_decls_of π item hdecl hal.1.1.2

end DI

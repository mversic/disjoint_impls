/-
  Item-level fidelity of the generators in TRAIT mode (`Props/C01.lean`, `Props/C16.lean`): the helper trait keeps the
  trait's items (`helperTraitOfTrait`), every helper impl keeps its member's items (`helperImpls`), every item of the
  main impl delegates to `<Self as _Helper<…>>::item` with the signature of the trait item after the trait's parameters
  were replaced by the family's trait arguments (`mainImplOfTrait`, `resolveMainTrait`, `sbT`). Core-only.

  Names declared here carry the suffix `_it`.
-/
import DisjointImpls.Lemmas.ExpandInherent
namespace DI

open XOK

/-! ### the main impl of trait mode: shape, with the items exposed -/

/-- the generic arguments of the last segment of a trait path (`[]` when it has none) -/
def traitArgsOf_it (tp : T) : List T :=
  match lastSegOf tp with
  | some (.node "PathSegment" [] [_, .node "PathArguments::AngleBracketed" [] [_, .node "List" [] as]]) => as
  | _ => []

theorem traitArgsOf_of_segArgList_it {tp l : T} {args : List T} (hl : lastSegOf tp = some l)
    (ha : segArgList l = some args) : traitArgsOf_it tp = args := by
  unfold traitArgsOf_it
  rw [hl]
  unfold segArgList at ha
  split at ha
  · cases ha; simp
  · cases ha; simp
  · cases ha

/-- the arguments `mainImplOfTrait` reads off the last segment of the trait path are `traitArgsOf_it` -/
theorem traitArgsOf_of_lastSeg_it {tp id targs : T} (h : lastSegOf tp = some (.node "PathSegment" [] [id, targs])) :
    (match (generalizing := false) targs with
      | .node "PathArguments::AngleBracketed" [] [_, .node "List" [] as] => as
      | _ => []) = traitArgsOf_it tp := by
  unfold traitArgsOf_it
  rw [h]
  split
  · rfl
  · next hne =>
    split
    · next heq => cases heq; exact absurd rfl (hne _ _)
    · rfl

/-- the helper reference of the main impl of trait mode: `_<Trait><idx><lifetimes of tp, key projections, other
    arguments of tp>` -/
def mainHrefOf_it (tname : String) (idx : Nat) (abg : ABG) (tp : T) : T :=
  helperRef (genIdentStr tname idx) abg.idents (traitArgsOf_it tp)

/-- the items of a trait definition -/
def traitItemsOf_it : T → List T
  | .node "ItemTrait" [] [_, _, _, _, _, _, _, _, _, .node "List" [] items] => items
  | _ => []

/-- the generic parameters of a trait definition -/
def traitParamsOf_it : T → List T
  | .node "ItemTrait" [] [_, _, _, _, _, _, g, _, _, _] => genericsParams g
  | _ => []

/-- the shape of a main impl the generator returns in trait mode, with the resolved trait items and the final items -/
theorem mainImplOfTrait_items_inv_it {trait_ : T} {idx : Nat} {g : T × ABG × List Blk} {m : T}
    (h : mainImplOfTrait trait_ idx g = .ok m) :
    ∃ first rest tp st unsafety lt gt wc x0 params items tname targs finals,
      g.2.2 = first :: rest ∧ implTraitPath first.item = some tp ∧ implSelfTy first.item = some st ∧
      resolveMainTrait trait_ tp = some (.node "Generics" [] [lt, x0, gt, wc], items) ∧
      lastSegOf tp = some (.node "PathSegment" [] [.node "Ident" [tname] [], targs]) ∧
      genAll (items.map (implItemOfTraitItem (some (mainHrefOf_it tname idx g.2.1 tp)))) = .ok finals ∧
      m = .node "ItemImpl" [] [ignAttrs, tNone, unsafety,
        .node "Generics" [] [lt, tList params, gt,
          mkWhere (wherePreds wc ++ assocBoundPredicates g.2.1 (mainHrefOf_it tname idx g.2.1 tp))],
        tSome (.node "Tuple" [] [tNone, tp]), st, tList finals] := by
  obtain ⟨first, rest, tp, st, eg, unsafety, lt, x0, gt, wc, items, tname, targs, href, finals, params, hg, hp, hs, _, hres,
    hlast, hhref, hf, _, rfl⟩ := mainImplOfTrait_inv h
  obtain rfl : href = mainHrefOf_it tname idx g.2.1 tp := hhref.trans (congrArg _ (traitArgsOf_of_lastSeg_it hlast))
  exact ⟨first, rest, _, _, _, lt, gt, wc, x0, _, items, tname, targs, finals, hg, hp, hs, hres, hlast, hf, rfl⟩

/-! ### one dummy item: the trait item's declaration with the delegation as its value -/

/-- a trait item of the shape `syn` produces for a const / type / function item -/
def traitItemShaped_it : T → Bool
  | .node "TraitItem::Const" [] [_, _, _, _, _] => true
  | .node "TraitItem::Type" [] [_, _, _, _, _, _] => true
  | .node "TraitItem::Fn" [] [_, .node "Signature" [] [_, _, _, _, _, _, .node "List" [] _, _, _], _, _] => true
  | _ => false

def inheritedVis_it : T := .node "Visibility::Inherited" [] []

/-- `fin` is the impl item the main impl has for the (resolved) trait item `tit`: same kind and name, no attributes, no
    visibility, no `default`; for a const `const name<item generics>: ty = <Self as href>::name;` with the trait item's
    type, for an associated type `type name<item generics> = <Self as href>::name;`, for a function the trait item's
    whole signature and the body `{ <Self as href>::name(args…) }`, the parameter patterns re-read as expressions and no
    variadic. The item generics are the trait item's as `#ty_generics #where_clause` prints them (`itemGenerics`:
    identifiers only). The trait item's attributes, the bounds of an associated type and the default (last child of a
    const / type, third child of a function) are not looked at. -/
def delegates_it (href : T) : T → T → Bool
  | .node "TraitItem::Const" [] [_, id, g, ty, _], fin =>
      fin == .node "ImplItem::Const" [] [ignAttrs, inheritedVis_it, tNone, id, itemGenerics g, ty,
        .node "Expr::Path" [] [ignAttrs, (selfAsHelperPath href id).1, (selfAsHelperPath href id).2]]
  | .node "TraitItem::Type" [] [_, id, g, _, _, _], fin =>
      fin == .node "ImplItem::Type" [] [ignAttrs, inheritedVis_it, tNone, id, itemGenerics g,
        tyPath (selfAsHelperPath href id).1 (selfAsHelperPath href id).2]
  | .node "TraitItem::Fn" [] [_, .node "Signature" [] [c, a, u, abi, id, g, .node "List" [] inputs, variadic, out], _, _], fin =>
      variadic == tNone &&
      (match allSome (inputs.map fnArgAsExpr) with
       | some args =>
          fin == .node "ImplItem::Fn" [] [ignAttrs, inheritedVis_it, tNone,
            .node "Signature" [] [c, a, u, abi, id, g, .node "List" [] inputs, variadic, out],
            .node "Block" [] [tList [.node "Stmt::Expr" [] [.node "Expr::Call" [] [ignAttrs,
              .node "Expr::Path" [] [ignAttrs, (selfAsHelperPath href id).1, (selfAsHelperPath href id).2],
              tList args], noLead]]]]
       | none => false)
  | _, _ => false

theorem delegates_shaped_it {href tit fin : T} (h : delegates_it href tit fin = true) : traitItemShaped_it tit = true := by
  unfold delegates_it at h
  split at h
  · rfl
  · rfl
  · rfl
  · cases h

theorem implItemOfTraitItem_spec_it {href tit fin : T} (h : implItemOfTraitItem (some href) tit = .ok fin) :
    delegates_it href tit fin = true := by
  unfold implItemOfTraitItem at h
  split at h
  · cases h
    simp [delegates_it, inheritedVis_it, selfAsHelperPath]
  · cases h
    simp [delegates_it, inheritedVis_it, selfAsHelperPath]
  · next c a u abi id g inputs variadic out x1 x2 =>
    simp only at h
    split at h
    · cases h
    · next hv =>
      split at h
      · cases h
      · next args hargs =>
        cases h
        have hv' : variadic = tNone := by
          have := hv; simp only [Bool.or_eq_true, not_or] at this
          simpa using this.1
        subst hv'
        simp [delegates_it, inheritedVis_it, selfAsHelperPath, tList, hargs]
  · cases h

/-- (namespace, identifier node) of a trait item or of an impl item: `const` / `type` / `fn` and the `Ident` child -/
def itemKey_it : T → String × T
  | .node "TraitItem::Const" [] (_ :: id :: _) => ("const", id)
  | .node "TraitItem::Type" [] (_ :: id :: _) => ("type", id)
  | .node "TraitItem::Fn" [] (_ :: .node "Signature" [] (_ :: _ :: _ :: _ :: id :: _) :: _) => ("fn", id)
  | .node "ImplItem::Const" [] (_ :: _ :: _ :: id :: _) => ("const", id)
  | .node "ImplItem::Type" [] (_ :: _ :: _ :: id :: _) => ("type", id)
  | .node "ImplItem::Fn" [] (_ :: _ :: _ :: .node "Signature" [] (_ :: _ :: _ :: _ :: id :: _) :: _) => ("fn", id)
  | _ => ("", dummy)

/-- the generated item has the namespace and the name of the trait item -/
theorem delegates_key_it {href tit fin : T} (h : delegates_it href tit fin = true) :
    itemKey_it fin = itemKey_it tit := by
  unfold delegates_it at h
  split at h
  · have h := eq_of_beq h
    subst h
    rfl
  · have h := eq_of_beq h
    subst h
    rfl
  · simp only [Bool.and_eq_true] at h
    obtain ⟨_, h⟩ := h
    split at h
    · have h := eq_of_beq h
      subst h
      rfl
    · cases h
  · cases h

/-! ### the items of the main impl, one per (resolved) trait item, in order -/

theorem mainHref_main_it (a d u lt : T) (params : List T) (gt : T) (preds0 : List T) (abg : ABG) (href tr st finals : T) :
    mainHref_inh (.node "ItemImpl" [] [a, d, u,
      .node "Generics" [] [lt, tList params, gt, mkWhere (preds0 ++ assocBoundPredicates abg href)], tr, st, finals]) =
      some href :=
  selfPred_assocBoundPredicates preds0 abg href

/-- every item of the main impl of trait mode is the delegation of the resolved trait item of the same position, and
    there is nothing else in the main impl; the helper reference is the one its where-clause bounds `Self` by -/
theorem main_items_delegate_it {trait_ : T} {idx : Nat} {g : T × ABG × List Blk} {m : T}
    (hm : mainImplOfTrait trait_ idx g = .ok m) :
    ∃ first rest tp tname targs gen items,
      g.2.2 = first :: rest ∧ implTraitPath first.item = some tp ∧
      lastSegOf tp = some (.node "PathSegment" [] [.node "Ident" [tname] [], targs]) ∧
      resolveMainTrait trait_ tp = some (gen, items) ∧
      mainHref_inh m = some (mainHrefOf_it tname idx g.2.1 tp) ∧
      (implItems m).length = items.length ∧
      ∀ (i : Nat) (h1 : i < items.length) (h2 : i < (implItems m).length),
        delegates_it (mainHrefOf_it tname idx g.2.1 tp) items[i] (implItems m)[i] = true := by
  obtain ⟨first, rest, tp, st, unsafety, lt, gt, wc, x0, params, items, tname, targs, finals, hg, hp, hs, hres, hlast, hf, rfl⟩ :=
    mainImplOfTrait_items_inv_it hm
  obtain ⟨hlen, hget⟩ := map_eq_map_get (genAll_ok_inv_inh hf)
  refine ⟨first, rest, tp, tname, targs, _, items, hg, hp, hlast, hres, mainHref_main_it _ _ _ _ _ _ _ _ _ _ _ _, ?_, ?_⟩
  · simpa [implItems, tList] using hlen
  · intro i h1 h2
    have h2' : i < finals.length := by simpa [implItems, tList] using h2
    have := implItemOfTraitItem_spec_it (hget i h1 h2')
    simpa [implItems, tList] using this

/-! ### `resolveMainTrait`: the resolved items are the trait's items under `sbT` -/

theorem sbL_nil_it (am : ArgMap) : sbL am [] = some [] := by rw [sbL]
theorem sbL_cons_it (am : ArgMap) (t : T) (ts : List T) :
    sbL am (t :: ts) = (match sbT am t, sbL am ts with | some a, some b => some (a :: b) | _, _ => none) := by
  rw [sbL]
  cases sbT am t <;> cases sbL am ts <;> rfl

theorem sbL_cons_inv_it {am : ArgMap} {t : T} {ts r : List T} (h : sbL am (t :: ts) = some r) :
    ∃ a b, sbT am t = some a ∧ sbL am ts = some b ∧ r = a :: b := by
  rw [sbL_cons_it] at h
  split at h
  · next a b ha hb => cases h; exact ⟨a, b, ha, hb, rfl⟩
  · cases h

theorem sbL_get_it {am : ArgMap} : ∀ {l r : List T}, sbL am l = some r →
    r.length = l.length ∧ ∀ (i : Nat) (h1 : i < l.length) (h2 : i < r.length), sbT am l[i] = some r[i]
  | [], r, h => by
      rw [sbL_nil_it] at h
      cases h
      exact ⟨rfl, fun i h1 => absurd h1 (Nat.not_lt_zero _)⟩
  | t :: ts, r, h => by
      obtain ⟨a, b, ha, hb, rfl⟩ := sbL_cons_inv_it h
      obtain ⟨ih1, ih2⟩ := sbL_get_it hb
      refine ⟨by simp [ih1], fun i h1 h2 => ?_⟩
      cases i with
      | zero => simpa using ha
      | succ j =>
        simp only [List.getElem_cons_succ]
        exact ih2 j (by simpa using h1) (by simpa using h2)

/-- the argument map of the main impl: the trait's parameters zipped with the arguments of the family's trait path -/
def mainArgMap_it (trait_ tp : T) : Option ArgMap := zipTraitArgs (traitParamsOf_it trait_) (traitArgsOf_it tp)

/-- the resolved items: the trait's own items when the family's trait path has no `<…>`, otherwise the trait's items
    under `sbT` with the argument map `mainArgMap_it` -/
theorem resolveMainTrait_items_it {trait_ tp gen : T} {items : List T} {tid targs : T}
    (hlast : lastSegOf tp = some (.node "PathSegment" [] [tid, targs]))
    (h : resolveMainTrait trait_ tp = some (gen, items)) :
    (targs = noArgs ∧ items = traitItemsOf_it trait_) ∨
    (∃ c args am, targs = .node "PathArguments::AngleBracketed" [] [c, .node "List" [] args] ∧
      traitArgsOf_it tp = args ∧ mainArgMap_it trait_ tp = some am ∧ sbL am (traitItemsOf_it trait_) = some items) := by
  unfold resolveMainTrait at h
  split at h
  · next lt params gt wc titems =>
    have hl : lastSegArgsNode tp = some targs := by simp [lastSegArgsNode, hlast]
    rw [hl] at h
    simp only at h
    split at h
    · next heq =>
      cases heq
      cases h
      exact Or.inl ⟨rfl, rfl⟩
    · next c args heq =>
      cases heq
      have hargs : traitArgsOf_it tp = args := by simp [traitArgsOf_it, hlast]
      split at h
      · cases h
      · next am hz =>
        split at h
        · next preds' items' hp hi =>
          cases h
          exact Or.inr ⟨c, args, am, rfl, hargs, by simp [mainArgMap_it, traitParamsOf_it, genericsParams, hargs, hz], hi⟩
        · cases h
    · cases h
  · cases h

/-! ### the helper trait of trait mode keeps the trait's items -/

theorem helperTraitOfTrait_inv_it {trait_ ht : T} {idx nkeys : Nat} (h : helperTraitOfTrait trait_ idx nkeys = some ht) :
    ∃ a v u au r x g c sup items,
      trait_ = .node "ItemTrait" [] [a, v, u, au, r, .node "Ident" [x] [], g, c, sup, items] ∧
      ht = .node "ItemTrait" [] [a, .node "Visibility::Public" [] [], u, au, r, tIdent (genIdentStr x idx),
        helperGenerics g nkeys, c, sup, items] := by
  unfold helperTraitOfTrait at h
  split at h
  · next a v u au r x g c sup items => cases h; exact ⟨a, v, u, au, r, x, g, c, sup, items, rfl, rfl⟩
  · cases h

/-- generics of the shape `syn` produces -/
def genericsShaped_it : T → Bool
  | .node "Generics" [] [_, .node "List" [] _, _, _] => true
  | _ => false

/-- the parameter list of the helper trait: the trait's lifetime parameters, then `nkeys` fresh type parameters
    `_ŠČ<n>: ?Sized`, `_ŠČ<n+1>: ?Sized`, … (`n` = number of parameters of the trait), then the trait's other parameters —
    the trait's own parameters as they are declared (bounds, defaults, attributes) -/
def helperParams_it (ps : List T) (nkeys : Nat) : List T :=
  ps.filter isLifetimeParam ++ inhKeyParams_inh ps.length nkeys ++ ps.filter (fun p => !isLifetimeParam p)

theorem helperGenerics_shaped_it {g : T} (nkeys : Nat) (hs : genericsShaped_it g = true) :
    genericsParams (helperGenerics g nkeys) = helperParams_it (genericsParams g) nkeys ∧
    kid (helperGenerics g nkeys) 0 = kid g 0 ∧ kid (helperGenerics g nkeys) 2 = kid g 2 ∧
    kid (helperGenerics g nkeys) 3 = kid g 3 ∧ genericsShaped_it (helperGenerics g nkeys) = true := by
  unfold genericsShaped_it at hs
  split at hs
  · simp [helperGenerics, genericsParams, helperParams_it, inhKeyParams_inh, tList, kid, kids, genericsShaped_it]
  · cases hs

/-! ### the helper impls of trait mode keep their members' items -/

theorem helperImpls_trait_get_it {idx : Nat} {g : T × ABG × List Blk} {hs : List T}
    (hh : helperImpls idx g = some hs) (htr : inherentFamily_inh g = false) :
    hs.length = min g.2.2.length g.2.1.payloads.length ∧
    ∀ (i : Nat) (h1 : i < g.2.2.length) (h2 : i < g.2.1.payloads.length) (h3 : i < hs.length),
      helperImpl idx none g.2.1.idents g.2.1.payloads[i] g.2.2[i].item = some hs[i] := by
  obtain ⟨ip, hip, hall, rfl⟩ := helperImpls_inv hh
  obtain ⟨hlen, hget⟩ := zip_filterMap_get _ _ _ hall
  refine ⟨by simpa using hlen, fun i h1 h2 h3 => ?_⟩
  obtain rfl : ip = none := by
    cases hg : g.2.2 with
    | nil => rw [hg] at h1; cases h1
    | cons first rest =>
      simp only [inherentFamily_inh, hg] at htr
      simpa [htr] using hip first rest hg
  have := hget i (by simpa using h1) h2 h3
  rwa [List.getElem_map] at this

/-! ### `sbT` (the model of `NonPredicateParamResolver` with arbitrary replacements), node by node -/

theorem sbT_tparam_it (am : ArgMap) (n : String) : sbT am (.tparam n) = some ((alookup am.ty n).getD (.tparam n)) := by
  rw [sbT]; cases alookup am.ty n <;> rfl

theorem sbT_eparam_it (am : ArgMap) (n : String) :
    sbT am (.eparam n) = (match alookup am.ty n with
      | some r => typeAsExprPath r
      | none => some (((alookup am.co n).map exprOperand).getD (.eparam n))) := by
  rw [sbT]
  cases alookup am.ty n with
  | some r => rfl
  | none => cases alookup am.co n <;> rfl

theorem sbT_ign_it (am : ArgMap) (as : List String) (ks : List T) : sbT am (.node "Ign" as ks) = some (.node "Ign" as ks) := by
  rw [sbT]
theorem sbT_eq_it (am : ArgMap) (as : List String) (ks : List T) : sbT am (.node "Eq" as ks) = some (.node "Eq" as ks) := by
  rw [sbT]
/-- a lifetime that names a lifetime parameter of the trait becomes the argument (the whole `Lifetime` node) -/
theorem sbT_lifetime_it (am : ArgMap) (as : List String) (x : String) :
    sbT am (.node "Lifetime" as [.node "Ident" [x] []]) =
      some ((alookup am.lt x).getD (.node "Lifetime" as [.node "Ident" [x] []])) := by
  rw [sbT]; cases alookup am.lt x <;> rfl

theorem sbT_typePath_it (am : ArgMap) (as : List String) (q p q' p' : T) (hq : sbT am q = some q') (hp : sbT am p = some p') :
    sbT am (.node "Type::Path" as [q, p]) = sbTypePath am as q' p' := by
  rw [sbT, hq, hp]
theorem sbT_exprPath_it (am : ArgMap) (as : List String) (a q p q' p' : T) (hq : sbT am q = some q') (hp : sbT am p = some p') :
    sbT am (.node "Expr::Path" as [a, q, p]) = sbExprPath am as a q' p' := by
  rw [sbT, hq, hp]

/-- every other kind is rebuilt around its rewritten children -/
theorem sbT_of_other_it (am : ArgMap) {k : String} (as : List String) {ks : List T} (h : NodeOther k ks) :
    sbT am (.node k as ks) = (sbL am ks).map (.node k as) := by
  obtain ⟨h1, h2, h3, h4, h5⟩ := h
  unfold sbT
  split
  · next heq => cases heq
  · next heq => cases heq
  · next heq => cases heq; exact absurd rfl h1
  · next heq => cases heq; exact absurd rfl h2
  · next x heq => cases heq; exact absurd ⟨rfl, rfl⟩ (h3 x)
  · next q p heq => cases heq; exact absurd ⟨rfl, rfl⟩ (h4 q p)
  · next a q p heq => cases heq; exact absurd ⟨rfl, rfl⟩ (h5 a q p)
  · next heq => cases heq; rfl

theorem sbT_other_it (am : ArgMap) {k : String} (as : List String) (ks : List T) (h1 : k ≠ "Ign") (h2 : k ≠ "Eq")
    (h3 : k ≠ "Lifetime") (h4 : k ≠ "Type::Path") (h5 : k ≠ "Expr::Path") :
    sbT am (.node k as ks) = (sbL am ks).map (.node k as) :=
  sbT_of_other_it am as ⟨h1, h2, fun _ h => h3 h.1, fun _ _ h => h4 h.1, fun _ _ _ h => h5 h.1⟩

theorem sbL_eq_self_it {am : ArgMap} : ∀ {ks : List T}, (∀ t ∈ ks, sbT am t = some t) → sbL am ks = some ks
  | [], _ => sbL_nil_it am
  | t :: ts, h => by
      rw [sbL_cons_it, h t (by simp), sbL_eq_self_it (fun t ht => h t (List.mem_cons_of_mem _ ht))]

/-! ### nothing else changes: a tree that mentions no parameter of the map is kept -/

mutual
/-- no lifetime, no type-position and no expression-position path (first segment) of `t` names a parameter of the map -/
def sbFree_it (am : ArgMap) : T → Bool
  | .tparam n => (alookup am.ty n).isNone
  | .eparam n => (alookup am.ty n).isNone && (alookup am.co n).isNone
  | .node "Ign" _ _ => true
  | .node "Eq" _ _ => true
  | .node "Lifetime" _ [.node "Ident" [x] []] => (alookup am.lt x).isNone
  | .node "Type::Path" _ [qself, path] =>
      sbFree_it am qself && sbFree_it am path &&
      (match firstSegIdent path with | some x => (alookup am.ty x).isNone | none => true)
  | .node "Expr::Path" _ [_, qself, path] =>
      sbFree_it am qself && sbFree_it am path &&
      (match firstSegIdent path with | some x => (alookup am.ty x).isNone && (alookup am.co x).isNone | none => true)
  | .node _ _ ks => sbFreeL_it am ks
def sbFreeL_it (am : ArgMap) : List T → Bool
  | [] => true
  | t :: ts => sbFree_it am t && sbFreeL_it am ts
end

theorem sbFreeL_iff_it {am : ArgMap} : ∀ {ks : List T}, sbFreeL_it am ks = true ↔ ∀ t ∈ ks, sbFree_it am t = true
  | [] => by simp [sbFreeL_it]
  | t :: ts => by simp [sbFreeL_it, sbFreeL_iff_it (ks := ts)]

theorem sbFree_of_other_it (am : ArgMap) {k : String} (as : List String) {ks : List T} (h : NodeOther k ks) :
    sbFree_it am (.node k as ks) = sbFreeL_it am ks := by
  obtain ⟨h1, h2, h3, h4, h5⟩ := h
  unfold sbFree_it
  split
  · next heq => cases heq
  · next heq => cases heq
  · next heq => cases heq; exact absurd rfl h1
  · next heq => cases heq; exact absurd rfl h2
  · next x heq => cases heq; exact absurd ⟨rfl, rfl⟩ (h3 x)
  · next q p heq => cases heq; exact absurd ⟨rfl, rfl⟩ (h4 q p)
  · next a q p heq => cases heq; exact absurd ⟨rfl, rfl⟩ (h5 a q p)
  · next heq => cases heq; rfl

theorem sbT_free_it (am : ArgMap) : ∀ t : T, sbFree_it am t = true → sbT am t = some t := by
  apply T.ind
  · intro n h
    rw [sbFree_it] at h
    rw [sbT_tparam_it]
    cases hl : alookup am.ty n with
    | none => rfl
    | some r => rw [hl] at h; cases h
  · intro n h
    rw [sbFree_it, Bool.and_eq_true] at h
    rw [sbT_eparam_it]
    cases hl : alookup am.ty n with
    | some r => rw [hl] at h; cases h.1
    | none =>
      cases hc : alookup am.co n with
      | some r => rw [hc] at h; cases h.2
      | none => rfl
  · intro k as ks ih h
    rcases node_shape k ks with hh | ⟨x, rfl, rfl⟩ | ⟨q, p, rfl, rfl⟩ | ⟨a, q, p, rfl, rfl⟩ | hh
    · rcases hh with rfl | rfl
      · exact sbT_ign_it am as ks
      · exact sbT_eq_it am as ks
    · rw [sbFree_it] at h
      rw [sbT_lifetime_it]
      cases hl : alookup am.lt x with
      | none => rfl
      | some r => rw [hl] at h; cases h
    · rw [sbFree_it, Bool.and_eq_true, Bool.and_eq_true] at h
      obtain ⟨⟨hq, hp⟩, hf⟩ := h
      rw [sbT_typePath_it am as q p q p (ih q (by simp) hq) (ih p (by simp) hp)]
      unfold sbTypePath
      split
      · next x hx =>
        rw [hx] at hf
        simp only at hf
        cases hl : alookup am.ty x with
        | none => rfl
        | some r => rw [hl] at hf; cases hf
      · rfl
    · rw [sbFree_it, Bool.and_eq_true, Bool.and_eq_true] at h
      obtain ⟨⟨hq, hp⟩, hf⟩ := h
      rw [sbT_exprPath_it am as a q p q p (ih q (by simp) hq) (ih p (by simp) hp)]
      unfold sbExprPath
      split
      · next x hx =>
        rw [hx] at hf
        simp only [Bool.and_eq_true] at hf
        cases hl : alookup am.ty x with
        | some r => rw [hl] at hf; cases hf.1
        | none =>
          cases hc : alookup am.co x with
          | some r => rw [hc] at hf; cases hf.2
          | none => rfl
      · rfl
    · rw [sbFree_of_other_it am as hh] at h
      rw [sbT_of_other_it am as hh, sbL_eq_self_it (fun t ht => ih t ht (sbFreeL_iff_it.1 h t ht))]
      rfl

/-! ### every occurrence of a parameter is replaced by its argument -/

theorem sbT_bare_path_it (am : ArgMap) (x : String) : sbT am (pathNode noLead [seg x]) = some (pathNode noLead [seg x]) := by
  simp [sbT, sbL, pathNode, noLead, seg, tList, tIdent, noArgs, tNone]

/-- a type parameter of the trait in type position (`U`, or the canonical spelling `_ŠČn`) becomes its argument -/
theorem sbT_type_occurrence_it (am : ArgMap) (x : String) (r : T) (h : alookup am.ty x = some r) :
    sbT am (mkTypeIdent x) = some r := by
  unfold mkTypeIdent
  split
  · rw [sbT_tparam_it, h]; rfl
  · have hp := sbT_bare_path_it am x
    have hn : sbT am tNone = some tNone := by simp [sbT, sbL, tNone]
    simp only [pathNode, noLead, seg, tList, tIdent, noArgs, tNone] at hp hn
    rw [sbT_typePath_it am [] _ _ _ _ hn hp]
    simp [sbTypePath, firstSegIdent, h, restSegments]

/-- a path that starts with a type parameter of the trait (`U::Assoc`, segments free of parameters) becomes
    `<arg>::Assoc` -/
theorem sbT_type_projection_it (am : ArgMap) (as : List String) (x : String) (r s1 : T) (rest : List T)
    (h : alookup am.ty x = some r) (hfree : sbFreeL_it am (s1 :: rest) = true) :
    sbT am (.node "Type::Path" as [tNone, pathNode noLead (seg x :: s1 :: rest)]) =
      some (.node "Type::Path" as [tSome (.node "QSelf" [] [r, .node "Atom" ["0"] [], tNone]), pathNode someLead (s1 :: rest)]) := by
  have hn : sbT am tNone = some tNone := by simp [sbT, sbL, tNone]
  have hseg : sbT am (seg x) = some (seg x) := by simp [sbT, sbL, seg, tIdent, noArgs]
  have hrest : sbL am (s1 :: rest) = some (s1 :: rest) :=
    sbL_eq_self_it (fun t ht => sbT_free_it am t (sbFreeL_iff_it.1 hfree t ht))
  have hp : sbT am (pathNode noLead (seg x :: s1 :: rest)) = some (pathNode noLead (seg x :: s1 :: rest)) := by
    have hl : sbL am (seg x :: s1 :: rest) = some (seg x :: s1 :: rest) := by rw [sbL_cons_it, hseg, hrest]
    have hlead : sbT am noLead = some noLead := by simp [sbT, sbL, noLead, tNone]
    unfold pathNode tList
    rw [sbT_other_it am [] _ (by simp) (by simp) (by simp) (by simp) (by simp), sbL_cons_it, hlead,
      sbL_cons_it, sbT_other_it am [] _ (by simp) (by simp) (by simp) (by simp) (by simp), hl, sbL_nil_it]
    rfl
  rw [sbT_typePath_it am as _ _ _ _ hn hp]
  simp [sbTypePath, firstSegIdent, pathNode, tList, seg, tIdent, h, restSegments]

/-- a const parameter of the trait as a bare identifier in expression position becomes the WHOLE argument expression,
    parenthesised unless it is a path, a literal, a block or already parenthesised (`exprOperand`) -/
theorem sbT_const_occurrence_it (am : ArgMap) (x : String) (e : T) (hty : alookup am.ty x = none)
    (h : alookup am.co x = some e) : sbT am (identExpr x) = some (exprOperand e) := by
  unfold identExpr
  split
  · rw [sbT_eparam_it, hty, h]; rfl
  · have hp := sbT_bare_path_it am x
    have hn : sbT am tNone = some tNone := by simp [sbT, sbL, tNone]
    rw [sbT_exprPath_it am [] _ _ _ _ _ hn hp]
    simp [sbExprPath, firstSegIdent, pathNode, tList, seg, tIdent, noArgs, noLead, tNone, hty, h]

/-! ### resolving keeps the namespace and the name of a trait item -/

/-- a trait item (const / type / fn) whose name is an identifier, as `syn` produces it -/
def traitItemNamed_it : T → Bool
  | .node "TraitItem::Const" [] (_ :: .node "Ident" [_] [] :: _) => true
  | .node "TraitItem::Type" [] (_ :: .node "Ident" [_] [] :: _) => true
  | .node "TraitItem::Fn" [] (_ :: .node "Signature" [] (_ :: _ :: _ :: _ :: .node "Ident" [_] [] :: _) :: _) => true
  | _ => false

theorem sbT_ident_it (am : ArgMap) (x : String) : sbT am (.node "Ident" [x] []) = some (.node "Ident" [x] []) := by
  simp [sbT, sbL]

/-- a node of any other kind whose children are rewritten is rebuilt around them -/
theorem sbT_other_inv_it {am : ArgMap} {k : String} {ks : List T} {t' : T} (h1 : k ≠ "Ign") (h2 : k ≠ "Eq")
    (h3 : k ≠ "Lifetime") (h4 : k ≠ "Type::Path") (h5 : k ≠ "Expr::Path") (h : sbT am (.node k [] ks) = some t') :
    ∃ l, sbL am ks = some l ∧ t' = .node k [] l := by
  rw [sbT_other_it am [] ks h1 h2 h3 h4 h5] at h
  obtain ⟨l, hl, rfl⟩ := Option.map_eq_some_iff.1 h
  exact ⟨l, hl, rfl⟩

/-- an identifier in second position stays where it is -/
theorem sbL_ident_second_it {am : ArgMap} {a : T} {x : String} {rest l : List T}
    (h : sbL am (a :: .node "Ident" [x] [] :: rest) = some l) : ∃ a' c, l = a' :: .node "Ident" [x] [] :: c := by
  obtain ⟨a', b, _, hb, rfl⟩ := sbL_cons_inv_it h
  obtain ⟨id', c, hid, _, rfl⟩ := sbL_cons_inv_it hb
  rw [sbT_ident_it] at hid
  cases hid
  exact ⟨a', c, rfl⟩

theorem sbT_itemKey_it {am : ArgMap} {t t' : T} (hn : traitItemNamed_it t = true) (h : sbT am t = some t') :
    itemKey_it t' = itemKey_it t := by
  unfold traitItemNamed_it at hn
  split at hn
  · obtain ⟨l, hl, rfl⟩ := sbT_other_inv_it (by simp) (by simp) (by simp) (by simp) (by simp) h
    obtain ⟨a', c, rfl⟩ := sbL_ident_second_it hl
    rfl
  · obtain ⟨l, hl, rfl⟩ := sbT_other_inv_it (by simp) (by simp) (by simp) (by simp) (by simp) h
    obtain ⟨a', c, rfl⟩ := sbL_ident_second_it hl
    rfl
  · obtain ⟨l, hl, rfl⟩ := sbT_other_inv_it (by simp) (by simp) (by simp) (by simp) (by simp) h
    obtain ⟨a', b, _, hb, rfl⟩ := sbL_cons_inv_it hl
    obtain ⟨sig', c, hsig, _, rfl⟩ := sbL_cons_inv_it hb
    obtain ⟨sl, hs, rfl⟩ := sbT_other_inv_it (by simp) (by simp) (by simp) (by simp) (by simp) hsig
    obtain ⟨_, b1, _, hb1, rfl⟩ := sbL_cons_inv_it hs
    obtain ⟨_, b2, _, hb2, rfl⟩ := sbL_cons_inv_it hb1
    obtain ⟨_, b3, _, hb3, rfl⟩ := sbL_cons_inv_it hb2
    obtain ⟨_, c', rfl⟩ := sbL_ident_second_it hb3
    rfl
  · cases hn

/-! ### accessor-level reading of a helper impl, association lists of items -/

theorem payloads_length_of_wf_it {g : T × ABG × List Blk} (hwf : expandWF g = true) :
    g.2.1.payloads.length = g.2.2.length :=
  payloads_length_of_wf hwf

/-- `helperImpl_trait_inv` read through the accessors: a helper impl of trait mode keeps everything of its member but the
    trait reference (child 4), which is one segment without leading `::` -/
theorem helperImpl_trait_read_it {idx : Nat} {idents : List (BKey × String)} {row : List (Option T)} {member h : T}
    (hh : helperImpl idx none idents row member = some h) :
    (∀ j, j ≠ 4 → kid h j = kid member j) ∧ implItems h = implItems member ∧
    ∃ mp hp, implTraitPath member = some mp ∧ traitPathOf h = some hp ∧ implTraitPath h = some hp ∧
      pathLead hp = noLead ∧ initSegsOf hp = [] ∧
      (∃ x, lastSegIdentOf mp = some x ∧ lastSegIdentOf hp = some (genIdentStr x idx) ∧
        ∃ na, hp = pathNode noLead [.node "PathSegment" [] [tIdent (genIdentStr x idx), na]]) ∧
      XOK.segArgs (XOK.lastSeg hp) = rowArgs idents row ++ XOK.segArgs (XOK.lastSeg mp) := by
  obtain ⟨a, d, u, g, b, p, s, items, x, args, na, rfl, hl, hna, rfl⟩ := helperImpl_trait_inv hh
  refine ⟨?_, ?_, p, _, rfl, traitPathOf_impl_inh _ _ _ _ _ _ _, rfl, ?_, ?_, ⟨x, ?_, ?_, na, rfl⟩, ?_⟩
  · intro j hj
    match j with
    | 0 | 1 | 2 | 3 | 5 | 6 => rfl
    | 4 => exact absurd rfl hj
    | n + 7 => simp [kid, kids]
  · simp only [implItems, tSome]
    split
    · next heq =>
      cases heq
      rfl
    · next hne =>
      split
      · next heq => cases heq; exact absurd rfl (hne _ _ _ _ _ _ _)
      · rfl
  · rw [pathLead_pathNode_inh]
  · exact initSegsOf_pathNode_inh noLead [] _
  · simp [lastSegIdentOf, hl]
  · have := lastSegOf_pathNode_inh noLead [] (.node "PathSegment" [] [tIdent (genIdentStr x idx), na])
    rw [List.nil_append] at this
    rw [lastSegIdentOf, this]
    rfl
  · obtain ⟨_, _, l, old, e1, e2, el, ea, _, e⟩ := helperImpl_trait_args hh
    rw [traitPathOf_impl_inh] at e2
    cases e1
    cases e2
    rw [e, xlastSeg_of_lastSegOf el, xsegArgs_of_segArgList ea]

def isSome_it (t : T) : Bool := kind t == "Some"

/-- the name under which an item is looked up: its namespace (`const` / `type` / `fn`) and its identifier -/
def itemKeyStr_it (it : T) : String := (itemKey_it it).1 ++ " " ++ (atoms (itemKey_it it).2).headD ""

/-- the items an impl block defines, as an association list name ↦ item -/
def implItemAssoc_it (impl : T) : List (String × T) := (implItems impl).map (fun it => (itemKeyStr_it it, it))

/-- a trait item with a default (value of a const, type of an associated type, body of a function) -/
def traitItemHasDefault_it : T → Bool
  | .node "TraitItem::Const" [] [_, _, _, _, d] => isSome_it d
  | .node "TraitItem::Type" [] [_, _, _, _, _, d] => isSome_it d
  | .node "TraitItem::Fn" [] [_, _, d, _] => isSome_it d
  | _ => false

/-- the defaults a trait definition provides, as an association list name ↦ trait item (declaration with default) -/
def traitDefaultAssoc_it (trait_ : T) : List (String × T) :=
  ((traitItemsOf_it trait_).filter traitItemHasDefault_it).map (fun it => (itemKeyStr_it it, it))

theorem traitItemsOf_node_it (x0 x1 x2 x3 x4 x5 x6 x7 x8 items : T) :
    traitItemsOf_it (.node "ItemTrait" [] [x0, x1, x2, x3, x4, x5, x6, x7, x8, items]) = kids (if kind items == "List" && atoms items == [] then items else dummy) := by
  unfold traitItemsOf_it
  split
  · next heq => cases heq; rfl
  · next hne =>
    cases items with
    | tparam n => rfl
    | eparam n => rfl
    | node k as ks =>
      by_cases hk : k = "List"
      · subst hk
        cases as with
        | nil => exact absurd rfl (hne _ _ _ _ _ _ _ _ _ _)
        | cons a as => simp [kind, atoms, kids, dummy]
      · simp [kind, kids, dummy, hk]

/-! ### the argument map: one entry per zipped (parameter, argument) pair -/

theorem zipTraitArgs_nil_left_it (as : List T) : zipTraitArgs [] as = some ⟨[], [], []⟩ := by
  rw [zipTraitArgs]
theorem zipTraitArgs_nil_right_it (ps : List T) : zipTraitArgs ps [] = some ⟨[], [], []⟩ := by
  cases ps with
  | nil => rw [zipTraitArgs]
  | cons p ps => rw [zipTraitArgs]; intro h; cases h

/-- one zipped pair: the rest zips to `m`, the parameter is named `x`, and the pair adds one entry of its kind -/
theorem zipTraitArgs_cons_inv_it {p a : T} {ps as : List T} {am : ArgMap} (h : zipTraitArgs (p :: ps) (a :: as) = some am) :
    ∃ m x, zipTraitArgs ps as = some m ∧ paramIdent p = some x ∧
      ((∃ c1 c2 l, p = .node "GenericParam::Lifetime" c1 c2 ∧ a = .node "GenericArgument::Lifetime" [] [l] ∧
          am = { m with lt := (x, l) :: m.lt }) ∨
       (∃ c1 c2 t, p = .node "GenericParam::Type" c1 c2 ∧ a = .node "GenericArgument::Type" [] [t] ∧
          am = { m with ty := (x, t) :: m.ty }) ∨
       (∃ c1 c2 e, p = .node "GenericParam::Const" c1 c2 ∧ a = .node "GenericArgument::Const" [] [e] ∧
          am = { m with co := (x, e) :: m.co })) := by
  rw [zipTraitArgs] at h
  split at h
  · cases h
  · next m hm =>
    split at h
    · split at h
      · next x hx => cases h; exact ⟨m, x, hm, hx, Or.inl ⟨_, _, _, rfl, rfl, rfl⟩⟩
      · cases h
    · split at h
      · next x hx => cases h; exact ⟨m, x, hm, hx, Or.inr (Or.inl ⟨_, _, _, rfl, rfl, rfl⟩)⟩
      · cases h
    · split at h
      · next x hx => cases h; exact ⟨m, x, hm, hx, Or.inr (Or.inr ⟨_, _, _, rfl, rfl, rfl⟩)⟩
      · cases h
    · cases h

/-- the map has exactly one entry per zipped pair: parameters beyond the last argument (omitted defaults) get none -/
theorem zipTraitArgs_size_it : ∀ (ps as : List T) (am : ArgMap), zipTraitArgs ps as = some am →
    am.lt.length + am.ty.length + am.co.length = min ps.length as.length
  | [], as, am, h => by rw [zipTraitArgs_nil_left_it] at h; cases h; simp
  | p :: ps, [], am, h => by rw [zipTraitArgs_nil_right_it] at h; cases h; simp
  | p :: ps, a :: as, am, h => by
      obtain ⟨m, x, hm, _, hk⟩ := zipTraitArgs_cons_inv_it h
      have ih := zipTraitArgs_size_it ps as m hm
      rcases hk with ⟨_, _, _, _, _, rfl⟩ | ⟨_, _, _, _, _, rfl⟩ | ⟨_, _, _, _, _, rfl⟩ <;>
        simp only [List.length_cons] <;> omega

/-- the name `x` has an entry in the map -/
def ArgMap.has_it (am : ArgMap) (x : String) : Bool :=
  (alookup am.lt x).isSome || (alookup am.ty x).isSome || (alookup am.co x).isSome

theorem alookup_cons_isSome_it (a : String) (b : T) (r : List (String × T)) (x : String) :
    (alookup ((a, b) :: r) x).isSome = (decide (a = x) || (alookup r x).isSome) := by
  simp only [alookup]
  split <;> simp [*]

/-- every entry of the map belongs to one of the first `#arguments` parameters: a parameter whose argument is omitted
    (and whose name no earlier parameter has) is not in the map -/
theorem zipTraitArgs_keys_it : ∀ (ps as : List T) (am : ArgMap), zipTraitArgs ps as = some am →
    ∀ x, am.has_it x = true → some x ∈ (ps.take as.length).map paramIdent
  | [], as, am, h, x, hx => by
      rw [zipTraitArgs_nil_left_it] at h; cases h; simp [ArgMap.has_it, alookup] at hx
  | p :: ps, [], am, h, x, hx => by
      rw [zipTraitArgs_nil_right_it] at h; cases h; simp [ArgMap.has_it, alookup] at hx
  | p :: ps, a :: as, am, h, x, hx => by
      obtain ⟨m, x0, hm, hp0, hk⟩ := zipTraitArgs_cons_inv_it h
      have ih := zipTraitArgs_keys_it ps as m hm x
      simp only [List.length_cons, List.take_succ_cons, List.map_cons, List.mem_cons]
      rcases hk with ⟨_, _, _, _, _, rfl⟩ | ⟨_, _, _, _, _, rfl⟩ | ⟨_, _, _, _, _, rfl⟩ <;>
        simp only [ArgMap.has_it, alookup_cons_isSome_it, Bool.or_eq_true, decide_eq_true_eq] at hx ih
      · rcases hx with ((rfl | h1) | h2) | h3
        · exact Or.inl hp0.symm
        · exact Or.inr (ih (Or.inl (Or.inl h1)))
        · exact Or.inr (ih (Or.inl (Or.inr h2)))
        · exact Or.inr (ih (Or.inr h3))
      · rcases hx with (h1 | (rfl | h2)) | h3
        · exact Or.inr (ih (Or.inl (Or.inl h1)))
        · exact Or.inl hp0.symm
        · exact Or.inr (ih (Or.inl (Or.inr h2)))
        · exact Or.inr (ih (Or.inr h3))
      · rcases hx with (h1 | h2) | (rfl | h3)
        · exact Or.inr (ih (Or.inl (Or.inl h1)))
        · exact Or.inr (ih (Or.inl (Or.inr h2)))
        · exact Or.inl hp0.symm
        · exact Or.inr (ih (Or.inr h3))

/-- a const parameter of the trait facing a TYPE argument (what a bare identifier `N` is to `syn`, finding D24) is the
    `unreachable!()` of `resolve_main_trait_params`: no argument map -/
theorem zipTraitArgs_const_vs_type_it (cp ta : List T) (ps as : List T) :
    zipTraitArgs (.node "GenericParam::Const" [] cp :: ps) (.node "GenericArgument::Type" [] ta :: as) = none := by
  rw [zipTraitArgs]
  split
  · rfl
  · split
    · next heq _ => simp at heq
    · next heq _ => simp at heq
    · next _ heq => simp at heq
    · rfl

/-! ### an executable acceptance predicate for the items of an expansion (reads the given trees) -/

def all2_it (f : T → T → Bool) : List T → List T → Bool
  | [], [] => true
  | a :: as, b :: bs => f a b && all2_it f as bs
  | _, _ => false

theorem all2_of_get_it {f : T → T → Bool} : ∀ {l1 l2 : List T}, l1.length = l2.length →
    (∀ (i : Nat) (h1 : i < l1.length) (h2 : i < l2.length), f l1[i] l2[i] = true) → all2_it f l1 l2 = true
  | [], [], _, _ => rfl
  | [], _ :: _, hl, _ => by simp at hl
  | _ :: _, [], hl, _ => by simp at hl
  | a :: as, b :: bs, hl, h => by
      simp only [all2_it, Bool.and_eq_true]
      refine ⟨h 0 (by simp) (by simp), all2_of_get_it (by simpa using hl) (fun i h1 h2 => ?_)⟩
      have := h (i + 1) (by simpa using h1) (by simpa using h2)
      simpa using this

/-- the resolved trait items the main impl is built from -/
def resolvedItems_it (trait_ tp : T) : Option (List T) := (resolveMainTrait trait_ tp).map (·.2)

/-- the helper trait `ht` is the trait `tr` made `pub`, renamed and given the key parameters; nothing else differs -/
def helperTraitOK_it (tr : T) (idx nkeys : Nat) (ht : T) : Bool :=
  kind ht == kind tr && atoms ht == atoms tr && (kids ht).length == (kids tr).length &&
  [0, 2, 3, 4, 7, 8, 9].all (fun j => kid ht j == kid tr j) &&
  kid ht 1 == .node "Visibility::Public" [] [] && kid ht 5 == tIdent (genIdentStr (traitName_inh tr) idx) &&
  kid ht 6 == helperGenerics (kid tr 6) nkeys

/-- the helper impl `h` is the member with (at most) another trait reference -/
def helperKeeps_it (member h : T) : Bool :=
  kind h == kind member && atoms h == atoms member && (kids h).length == (kids member).length &&
  [0, 1, 2, 3, 5, 6].all (fun j => kid h j == kid member j)

/-- item-level acceptance of a trait-mode expansion: the helper trait keeps the trait's items, every helper impl keeps
    its member's items, and the main impl consists of exactly the delegations of the resolved trait items to the helper
    reference its where-clause names, which is `_<Trait><idx><lifetimes, key projections, other arguments>` -/
def itemsOK_it (tr : T) (idx : Nat) (g : T × ABG × List Blk) (ht : T) (hs : List T) (m : T) : Bool :=
  helperTraitOK_it tr idx g.2.1.idents.length ht &&
  all2_it helperKeeps_it (g.2.2.map (·.item)) hs &&
  (match implTraitPath (firstItem_inh g), mainHref_inh m with
   | some tp, some href =>
      href == mainHrefOf_it ((lastSegIdentOf tp).getD "") idx g.2.1 tp &&
      (match resolvedItems_it tr tp with
       | some items => all2_it (delegates_it href) items (implItems m)
       | none => false)
   | _, _ => false)

theorem helperImpl_keeps_it {idx : Nat} {idents : List (BKey × String)} {row : List (Option T)} {member h : T}
    (hh : helperImpl idx none idents row member = some h) : helperKeeps_it member h = true := by
  obtain ⟨a, d, u, g, b, p, s, items, x, args, na, rfl, _, _, rfl⟩ := helperImpl_trait_inv hh
  simp [helperKeeps_it, kind, atoms, kids, kid]

theorem itemsOK_of_expand_it {tr : T} {idx : Nat} {g : T × ABG × List Blk} {ht : T} {hs : List T} {m : T}
    (hht : helperTraitOfTrait tr idx g.2.1.idents.length = some ht) (hh : helperImpls idx g = some hs)
    (hm : mainImplOfTrait tr idx g = .ok m) (hwf : expandWF g = true) :
    itemsOK_it tr idx g ht hs m = true := by
  obtain ⟨first, rest, tp, tname, targs, gen, items, hg, hp, hlast, hres, hhref, hlen, hall⟩ := main_items_delegate_it hm
  have hfirst := firstItem_cons_inh hg
  have htr : inherentFamily_inh g = false := by simp [inherentFamily_inh, hg, hp]
  have hpl := payloads_length_of_wf_it hwf
  obtain ⟨hl, hget⟩ := helperImpls_trait_get_it hh htr
  have hl' : hs.length = g.2.2.length := by rw [hl, hpl]; exact Nat.min_self _
  unfold itemsOK_it
  simp only [Bool.and_eq_true]
  refine ⟨⟨?_, ?_⟩, ?_⟩
  · obtain ⟨a, v, u, au, r, x, gg, c, sup, its, rfl, rfl⟩ := helperTraitOfTrait_inv_it hht
    simp [helperTraitOK_it, kind, atoms, kids, kid, traitName_inh, tIdent]
  · apply all2_of_get_it (by simpa using hl'.symm)
    intro i h1 h2
    have h1' : i < g.2.2.length := by simpa using h1
    have := hget i h1' (by rw [hpl]; exact h1') h2
    simpa using helperImpl_keeps_it this
  · rw [hfirst, hp, hhref]
    simp only [lastSegIdentOf, hlast, Option.getD_some, beq_self_eq_true, Bool.true_and, resolvedItems_it, hres,
      Option.map_some]
    exact all2_of_get_it hlen.symm hall

/-- a name without an entry among the type parameters is left alone in type position -/
theorem sbT_unmapped_type_it (am : ArgMap) (x : String) (h : alookup am.ty x = none) :
    sbT am (mkTypeIdent x) = some (mkTypeIdent x) := by
  apply sbT_free_it
  unfold mkTypeIdent
  split
  · simp [sbFree_it, h]
  · simp [sbFree_it, sbFreeL_it, firstSegIdent, h]

end DI

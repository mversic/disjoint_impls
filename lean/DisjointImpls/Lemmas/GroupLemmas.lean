/-
  Helper lemmas for the C11 / C03 / C05 theorems over the model of the grouping front end (`Group.lean`):
  the candidate filter, the driver loop of `parseGroups`, and invariants of the backtracking search.
  Core-only (uses `Lemmas/RevSubLemmas.lean` and `Lemmas/KeyLemmas.lean` for the single-bucket theorem).
-/
import DisjointImpls.Group
import DisjointImpls.Lemmas.RevSubLemmas
import DisjointImpls.Lemmas.KeyLemmas
namespace DI

/-! ### `chooseCandidate`, `filterCandidate` -/

theorem chooseCandidate_mem {cs : List Groups} {g : Groups} (h : chooseCandidate cs = some g) : g ∈ cs := by
  cases cs with
  | nil => simp [chooseCandidate] at h
  | cons c cs =>
    simp only [chooseCandidate, Option.some.injEq] at h
    rw [← h]
    exact foldl_choose_mem (fun acc x => acc.length ≥ x.length) cs c

/-- what passes the candidate filter: every group pruned, with at least one key and pairwise distinguishable rows -/
theorem filterCandidate_some {gs p : Groups} (h : filterCandidate gs = some p) :
    p = gs.map (fun e => (e.1, e.2.1.prune, e.2.2)) ∧
    ∀ e ∈ p, e.2.1.bounds ≠ [] ∧ e.2.1.isOverlapping = false := by
  unfold filterCandidate at h
  simp only at h
  split at h
  · cases h
  · next hany =>
    cases h
    refine ⟨rfl, fun e he => ?_⟩
    simp only [List.any_eq_true, not_exists, not_and, Bool.not_eq_true, Bool.or_eq_false_iff] at hany
    have := hany e he
    exact ⟨by simpa using this.1, this.2⟩

/-! ### The driver loop of `parseGroups` -/

/-- pointwise relation between two lists of the same length -/
inductive Forall2 {α β : Type} (R : α → β → Prop) : List α → List β → Prop
  | nil : Forall2 R [] []
  | cons {a b l1 l2} : R a b → Forall2 R l1 l2 → Forall2 R (a :: l1) (b :: l2)

section Forall2
variable {α β : Type} {R : α → β → Prop} {l1 : List α} {l2 : List β}

theorem Forall2.flip (h : Forall2 R l1 l2) : Forall2 (fun b a => R a b) l2 l1 := by
  induction h with
  | nil => exact .nil
  | cons hab _ ih => exact .cons hab ih

theorem Forall2.imp {S : α → β → Prop} (hRS : ∀ a b, R a b → S a b) (h : Forall2 R l1 l2) : Forall2 S l1 l2 := by
  induction h with
  | nil => exact .nil
  | cons hab _ ih => exact .cons (hRS _ _ hab) ih

theorem Forall2.length_eq (h : Forall2 R l1 l2) : l1.length = l2.length := by
  induction h with
  | nil => rfl
  | cons _ _ ih => rw [List.length_cons, List.length_cons, ih]

theorem Forall2.mem (h : Forall2 R l1 l2) : Forall2 (fun a b => a ∈ l1 ∧ b ∈ l2 ∧ R a b) l1 l2 := by
  induction h with
  | nil => exact .nil
  | cons hab _ ih =>
    exact .cons ⟨List.mem_cons_self, List.mem_cons_self, hab⟩
      (ih.imp fun _ _ h => ⟨List.mem_cons_of_mem _ h.1, List.mem_cons_of_mem _ h.2.1, h.2.2⟩)

theorem Forall2.right (h : Forall2 R l1 l2) : ∀ b ∈ l2, ∃ a ∈ l1, R a b := by
  induction h with
  | nil => intro b hb; cases hb
  | cons hab _ ih =>
    intro b hb
    rcases List.mem_cons.1 hb with rfl | hb
    · exact ⟨_, List.mem_cons_self, hab⟩
    · obtain ⟨a, ha, hr⟩ := ih b hb
      exact ⟨a, List.mem_cons_of_mem _ ha, hr⟩

theorem Forall2.left (h : Forall2 R l1 l2) : ∀ a ∈ l1, ∃ b ∈ l2, R a b := h.flip.right

theorem Forall2.map {γ δ : Type} {S : γ → δ → Prop} (f : α → γ) (g : β → δ) (hRS : ∀ a b, R a b → S (f a) (g b))
    (h : Forall2 R l1 l2) : Forall2 S (l1.map f) (l2.map g) := by
  induction h with
  | nil => exact .nil
  | cons hab _ ih => exact .cons (hRS _ _ hab) ih

theorem Forall2.and {S : α → β → Prop} (h1 : Forall2 R l1 l2) (h2 : Forall2 S l1 l2) :
    Forall2 (fun a b => R a b ∧ S a b) l1 l2 := by
  induction h1 with
  | nil => exact .nil
  | cons hab _ ih =>
    cases h2 with
    | cons hs ht => exact .cons ⟨hab, hs⟩ (ih ht)

theorem Forall2.append {m1 : List α} {m2 : List β} (h : Forall2 R l1 l2) (hm : Forall2 R m1 m2) :
    Forall2 R (l1 ++ m1) (l2 ++ m2) := by
  induction h with
  | nil => exact hm
  | cons hab _ ih => exact .cons hab ih

theorem Forall2.pair (h : Forall2 R l1 l2) (hn2 : l2.Nodup) :
    ∀ a ∈ l1, ∀ c ∈ l1, a ≠ c → ∃ a' ∈ l2, ∃ c' ∈ l2, a' ≠ c' ∧ R a a' ∧ R c c' := by
  induction h with
  | nil => intro a ha; cases ha
  | @cons x y t1 t2 hxy ht ih =>
    rw [List.nodup_cons] at hn2
    intro a ha c hc hne
    rcases List.mem_cons.1 ha with e1 | ha1
    · rcases List.mem_cons.1 hc with e2 | hc1
      · exact absurd (e1.trans e2.symm) hne
      · obtain ⟨c', hc', hr⟩ := ht.left c hc1
        exact ⟨y, List.mem_cons_self, c', List.mem_cons_of_mem _ hc', fun e => hn2.1 (e ▸ hc'), e1 ▸ hxy, hr⟩
    · rcases List.mem_cons.1 hc with e2 | hc1
      · obtain ⟨a', ha', hr⟩ := ht.left a ha1
        exact ⟨a', List.mem_cons_of_mem _ ha', y, List.mem_cons_self, fun e => hn2.1 (e ▸ ha'), hr, e2 ▸ hxy⟩
      · obtain ⟨a', ha', c', hc', hne', h1, h2⟩ := ih hn2.2 a ha1 c hc1 hne
        exact ⟨a', List.mem_cons_of_mem _ ha', c', List.mem_cons_of_mem _ hc', hne', h1, h2⟩

end Forall2

/-- one root was searched and a candidate chosen -/
def Chosen (env : Env) (fuel : Nat) (r : T) (g : Groups) : Prop :=
  ∃ sup cands sup', searchRec env (2 * fuel) r (env.impls r) sup [] = .ok (cands, sup') ∧
    chooseCandidate (cands.filterMap filterCandidate) = some g

theorem go_ok (env : Env) (fuel : Nat) : ∀ (roots : List T) (sup : Supersets) (acc groups : Groups),
    parseGroups.go env fuel roots sup acc = .ok groups →
    ∃ chosen : List Groups, groups = acc ++ chosen.flatten ∧ Forall2 (Chosen env fuel) roots chosen
  | [], sup, acc, groups, h => by
      rw [parseGroups.go] at h
      cases h
      exact ⟨[], by simp, .nil⟩
  | r :: rest, sup, acc, groups, h => by
      rw [parseGroups.go] at h
      split at h
      · cases h
      · next cands sup' hs =>
        split at h
        · cases h
        · next g hg =>
          obtain ⟨chosen, he, hf⟩ := go_ok env fuel rest sup' (acc ++ g) groups h
          exact ⟨g :: chosen, by rw [he]; simp, .cons ⟨sup, cands, sup', hs, hg⟩ hf⟩

/-- the environment `parseGroups` builds -/
def parseEnv (rawItems : List T) : Env :=
  let buckets := mkBuckets (rawItems.map mkBlk)
  ⟨buckets, (makeSets (buckets.map (·.1))).2⟩

def parseFuel (rawItems : List T) : Nat :=
  (rawItems.map mkBlk).length + ((mkBuckets (rawItems.map mkBlk)).map (·.1)).length + 2

def parseRoots (rawItems : List T) : List T :=
  (((makeSets ((mkBuckets (rawItems.map mkBlk)).map (·.1))).1).filter (fun e => e.2 == 0)).map (·.1)

theorem parseGroups_eq_go (rawItems : List T) :
    parseGroups rawItems = parseGroups.go (parseEnv rawItems) (parseFuel rawItems) (parseRoots rawItems)
      (makeSets ((mkBuckets (rawItems.map mkBlk)).map (·.1))).1 [] := by
  unfold parseGroups
  rfl

theorem parseGroups_ok {rawItems : List T} {groups : Groups} (h : parseGroups rawItems = .ok groups) :
    ∃ chosen : List Groups, groups = chosen.flatten ∧
      Forall2 (Chosen (parseEnv rawItems) (parseFuel rawItems)) (parseRoots rawItems) chosen := by
  rw [parseGroups_eq_go] at h
  obtain ⟨chosen, he, hf⟩ := go_ok _ _ _ _ _ _ h
  exact ⟨chosen, by simpa using he, hf⟩

/-- every group of an accepted grouping is a pruned group of a candidate that a search from some root returned and
    that passed the candidate filter: it has a key left, and its rows are pairwise distinguishable -/
theorem parseGroups_group {rawItems : List T} {groups : Groups} (h : parseGroups rawItems = .ok groups)
    {e : T × ABG × List Blk} (he : e ∈ groups) :
    ∃ r sup cands sup' cand, searchRec (parseEnv rawItems) (2 * parseFuel rawItems) r ((parseEnv rawItems).impls r) sup [] = .ok (cands, sup') ∧
      cand ∈ cands ∧ ∃ e0 ∈ cand, e = (e0.1, e0.2.1.prune, e0.2.2) ∧ e.2.1.bounds ≠ [] ∧ e.2.1.isOverlapping = false := by
  obtain ⟨chosen, rfl, hf⟩ := parseGroups_ok h
  obtain ⟨g, hg, heg⟩ := List.mem_flatten.1 he
  obtain ⟨r, _, sup, cands, sup', hs, hc⟩ := hf.right g hg
  obtain ⟨cand, hcand, hfc⟩ := List.mem_filterMap.1 (chooseCandidate_mem hc)
  obtain ⟨rfl, hfilt⟩ := filterCandidate_some hfc
  obtain ⟨e0, he0, rfl⟩ := List.mem_map.1 heg
  exact ⟨r, sup, cands, sup', cand, hs, hcand, e0, he0, rfl, hfilt _ heg⟩


/-! ### What the search does to a candidate: it places blocks one by one

  Every candidate `searchRec` returns is obtained from the groups it was given by placing the blocks handed to it, then
  the blocks of the headers it unlocked, one after the other (`Places`); which headers are unlocked, and the counters
  afterwards, depend on the counters alone (`traceRec`). All invariants of the search follow from this one statement
  (`search_trace`). -/

/-- the substitution, if any, with which `searchRec` lets a block with header `currId` join the group with header
    `gid`: the one `make_sets` recorded for the pair, or, for the same header, the answer of the matcher on it -/
def joinSubst (env : Env) (gid currId : T) : Except SearchErr (Option Subst) :=
  match (env.subsets.get gid).find? (fun e => e.1 == currId) with
  | some e => .ok (some e.2)
  | none => if gid == currId then
      (match DI.sup gid currId with
       | .yes σ _ => .ok (some σ)
       | _ => .error .unwrapNone)
    else .ok none

/-- a group with the current header always offers a substitution (or the search panics) -/
theorem joinSubst_self_ne_none (env : Env) (id : T) : joinSubst env id id ≠ .ok none := by
  unfold joinSubst
  split
  · intro h; cases h
  · rw [if_pos (beq_self_eq_true id)]
    split <;> intro h <;> cases h

/-- the substitution with which `searchRec` lets a block with header `hdr` join the group with header `gid`:
    the one `make_sets` recorded for the pair (first entry for `hdr` in `env.subsets.get gid`), or, when there is no
    entry and the headers are the same, the answer of the matcher `sup gid gid` -/
def memberSubst (env : Env) (gid hdr : T) : Option Subst :=
  match (env.subsets.get gid).find? (fun e => e.1 == hdr) with
  | some e => some e.2
  | none => if gid == hdr then (match DI.sup gid hdr with | .yes σ _ => some σ | _ => none) else none

/-- it is the substitution `joinSubst` answers, with a panic read as "none" -/
theorem memberSubst_eq (env : Env) (gid hdr : T) :
    memberSubst env gid hdr = match joinSubst env gid hdr with | .ok o => o | .error _ => none := by
  unfold memberSubst joinSubst
  cases (env.subsets.get gid).find? (fun e => e.1 == hdr) with
  | some e => rfl
  | none =>
    dsimp only
    by_cases hc : (gid == hdr) = true
    · rw [if_pos hc, if_pos hc]; cases DI.sup gid hdr <;> rfl
    · rw [if_neg hc, if_neg hc]

theorem memberSubst_join {env : Env} {gid hdr : T} {σ : Subst} (h : memberSubst env gid hdr = some σ) :
    (∃ σ', (hdr, σ') ∈ env.subsets.get gid) ∨ gid = hdr := by
  unfold memberSubst at h
  split at h
  · next e he =>
    have h1 := List.find?_some he
    exact Or.inl ⟨e.2, by rw [← eq_of_beq h1]; exact List.mem_of_find?_eq_some he⟩
  · split at h
    · next hc => exact Or.inr (eq_of_beq hc)
    · cases h

/-- the block `curr :: other` case of `searchRec`, with `joinSubst` named -/
theorem searchRec_cons (env : Env) (fuel : Nat) (currId : T) (curr : Blk) (other : List Blk) (sup : Supersets)
    (groups : Groups) :
    searchRec env (fuel + 1) currId (curr :: other) sup groups =
      match groups.foldl (fun (st : Except SearchErr (List Groups × Supersets × Bool)) ge =>
        match st with
        | .error e => .error e
        | .ok (acc, newSup, any) =>
          match joinSubst env ge.1 currId with
          | .error e => .error e
          | .ok none => .ok (acc, newSup, any)
          | .ok (some σ) =>
            (ge.2.1.intersection curr σ).foldl (fun (st2 : Except SearchErr (List Groups × Supersets × Bool)) inter =>
              match st2 with
              | .error e => .error e
              | .ok (acc2, newSup2, any2) =>
                match searchRec env fuel currId other sup (setGroup groups ge.1 (inter, ge.2.2 ++ [curr])) with
                | .error e => .error e
                | .ok (res, sup') => if res.isEmpty then .ok (acc2, newSup2, any2) else .ok (acc2 ++ res, sup', true))
              (.ok (acc, newSup, any))) (.ok ([], sup, false)) with
      | .error e => .error e
      | .ok (acc, newSup, any) =>
        match (if groups.any (fun ge => ge.1 == currId) then .ok (acc, newSup, any)
          else match searchRec env fuel currId other sup (groups ++ [(currId, ABG.new curr, [curr])]) with
            | .error e => .error e
            | .ok (res, sup') => if res.isEmpty then .ok (acc, newSup, any) else .ok (acc ++ res, sup', true) :
            Except SearchErr (List Groups × Supersets × Bool)) with
        | .error e => .error e
        | .ok (acc, newSup, any) => .ok (acc, if any then newSup else sup) := by
  rw [searchRec]; rfl

/-- one block with header `id` is placed into a candidate: it joins a group that offers a substitution for `id`
    (through one of the intersections), or founds the group `id` if there is none yet -/
inductive Place (env : Env) (id : T) (b : Blk) (gs : Groups) : Groups → Prop
  | join {ge : T × ABG × List Blk} {σ : Subst} {inter : ABG} : ge ∈ gs → joinSubst env ge.1 id = .ok (some σ) →
      inter ∈ ge.2.1.intersection b σ → Place env id b gs (setGroup gs ge.1 (inter, ge.2.2 ++ [b]))
  | fresh : gs.any (fun ge => ge.1 == id) = false → Place env id b gs (gs ++ [(id, ABG.new b, [b])])

/-- the blocks `steps` (each with its header) are placed one after the other -/
inductive Places (env : Env) : List (T × Blk) → Groups → Groups → Prop
  | nil {gs : Groups} : Places env [] gs gs
  | cons {id : T} {b : Blk} {steps : List (T × Blk)} {gs gs' g : Groups} :
      Place env id b gs gs' → Places env steps gs' g → Places env ((id, b) :: steps) gs g

theorem Places.append {env : Env} {s1 s2 : List (T × Blk)} {gs g1 g : Groups} (h1 : Places env s1 gs g1)
    (h2 : Places env s2 g1 g) : Places env (s1 ++ s2) gs g := by
  induction h1 with
  | nil => exact h2
  | cons hp _ ih => exact .cons hp (ih h2)

def headerBlocks (env : Env) (id : T) : List (T × Blk) := (env.impls id).map (fun b => (id, b))

mutual
/-- mirror of `searchRec` that only follows the counters: which headers get unlocked, and the counters afterwards -/
def traceRec (env : Env) : Nat → T → Nat → Supersets → Option (List T × Supersets)
  | 0, _, _, _ => none
  | fuel + 1, currId, 0, sup => traceUnlock env fuel currId (env.subsets.get currId) sup
  | fuel + 1, currId, n + 1, sup => traceRec env fuel currId n sup
def traceUnlock (env : Env) : Nat → T → List (T × Subst) → Supersets → Option (List T × Supersets)
  | 0, _, _, _ => none
  | _ + 1, _, [], sup => some ([], sup)
  | fuel + 1, currId, (subId, _) :: rest, sup =>
      let sup1 := sup.dec subId
      if sup1.get subId == 0 then
        match traceRec env fuel subId (env.impls subId).length sup1 with
        | none => none
        | some (ids1, sup') =>
          match traceUnlock env fuel currId rest sup' with
          | none => none
          | some (ids2, sup'') => some (subId :: ids1 ++ ids2, sup'')
      else traceUnlock env fuel currId rest sup1
end

theorem cartesianG_ne_nil {α : Type} : ∀ (xss : List (List α)), (∀ xs ∈ xss, xs ≠ []) → cartesianG xss ≠ []
  | [], _ => by simp [cartesianG]
  | xs :: rest, h => by
      have h1 : xs ≠ [] := h xs (by simp)
      have h2 := cartesianG_ne_nil rest (fun ys hy => h ys (List.mem_cons_of_mem _ hy))
      obtain ⟨x, hx⟩ := List.exists_mem_of_ne_nil _ h1
      obtain ⟨tl, htl⟩ := List.exists_mem_of_ne_nil _ h2
      apply List.ne_nil_of_mem (a := x :: tl)
      simp only [cartesianG, List.mem_flatMap, List.mem_map]
      exact ⟨x, hx, tl, htl, rfl⟩

theorem substituteBound_ne_nil (σ : Subst) (b tr : T) : substituteBound σ b tr ≠ [] := by
  obtain ⟨x, hx⟩ := List.exists_mem_of_ne_nil _ (revSub_ne_nil (reverseMap σ) b)
  obtain ⟨y, hy⟩ := List.exists_mem_of_ne_nil _ (revSub_ne_nil (reverseMap σ) tr)
  exact List.ne_nil_of_mem (a := (x, y)) (mem_substituteBound.2 ⟨hx, hy⟩)

theorem intersection_ne_nil (g : ABG) (other : Blk) (σ : Subst) : g.intersection other σ ≠ [] := by
  unfold ABG.intersection
  simp only [ne_eq, List.map_eq_nil_iff]
  apply cartesianG_ne_nil
  intro xs hxs
  obtain ⟨e, _, rfl⟩ := List.mem_map.1 hxs
  simp only [ne_eq, List.map_eq_nil_iff]
  exact substituteBound_ne_nil σ _ _

def RecTrace (env : Env) (fuel : Nat) : Prop :=
  ∀ currId impls sup groups res sup', searchRec env fuel currId impls sup groups = .ok (res, sup') →
    ∃ ids, traceRec env fuel currId impls.length sup = some (ids, sup') ∧ res ≠ [] ∧
      ∀ g ∈ res, Places env (impls.map (fun b => (currId, b)) ++ ids.flatMap (headerBlocks env)) groups g

def UnlockTrace (env : Env) (fuel : Nat) : Prop :=
  ∀ currId subs sup acc res sup', searchUnlock env fuel currId subs sup acc = .ok (res, sup') → acc ≠ [] →
    ∃ ids, traceUnlock env fuel currId subs sup = some (ids, sup') ∧ res ≠ [] ∧
      ∀ g ∈ res, ∃ g0 ∈ acc, Places env (ids.flatMap (headerBlocks env)) g0 g

theorem unlockTrace_step {env : Env} {fuel : Nat} (ihR : RecTrace env fuel) (ihU : UnlockTrace env fuel) :
    UnlockTrace env (fuel + 1) := by
  intro currId subs sup acc res sup' h hne
  cases subs with
  | nil =>
    rw [searchUnlock] at h; cases h
    exact ⟨[], by rw [traceUnlock], hne, fun g hg => ⟨g, hg, .nil⟩⟩
  | cons s rest =>
    obtain ⟨subId, σs⟩ := s
    rw [searchUnlock] at h
    rw [traceUnlock]
    dsimp only at h ⊢
    split at h
    · next hz =>
      rw [if_pos hz]
      generalize hstep : List.foldl _ _ acc = step at h
      -- all alternatives unlock the same headers and return the same counters
      have hgood : ∀ s', step = .ok s' →
          ∃ ids1, traceRec env fuel subId (env.impls subId).length (sup.dec subId) = some (ids1, s'.2) ∧ s'.1 ≠ [] ∧
            ∀ g ∈ s'.1, ∃ g0 ∈ acc, Places env (headerBlocks env subId ++ ids1.flatMap (headerBlocks env)) g0 g := by
        intro s' hs'
        rw [← hstep] at hs'
        have := foldl_except_pre _ (fun (pre : List Groups) (s : List Groups × Supersets) =>
            (pre = [] → s.1 = []) ∧ (pre ≠ [] →
              ∃ ids1, traceRec env fuel subId (env.impls subId).length (sup.dec subId) = some (ids1, s.2) ∧ s.1 ≠ [] ∧
                ∀ g ∈ s.1, ∃ g0 ∈ acc, Places env (headerBlocks env subId ++ ids1.flatMap (headerBlocks env)) g0 g))
          acc [] ?_ ?_ _ ?_ s' hs'
        · exact this.2 (by simpa using hne)
        · intro g hg pre s hs s2 hs2
          obtain ⟨out, sp⟩ := s
          dsimp only at hs2
          split at hs2
          · cases hs2
          · next r sp' hr =>
            cases hs2
            obtain ⟨ids1, ht, hrne, hpl⟩ := ihR _ _ _ _ _ _ hr
            refine ⟨fun h0 => by simp at h0, fun _ => ⟨ids1, ht, ?_, ?_⟩⟩
            · intro h0
              exact hrne (List.append_eq_nil_iff.1 h0).2
            · intro g' hg'
              rcases List.mem_append.1 hg' with h1 | h1
              · by_cases hpre : pre = []
                · have := hs.1 hpre
                  dsimp only at this
                  rw [this] at h1; cases h1
                · obtain ⟨ids0, ht0, _, hpl0⟩ := hs.2 hpre
                  rw [ht] at ht0
                  cases ht0
                  exact hpl0 g' h1
              · exact ⟨g, hg, hpl g' h1⟩
        · intro a e; rfl
        · intro s hs; cases hs; exact ⟨fun _ => rfl, fun h0 => absurd rfl h0⟩
      split at h
      · cases h
      · next acc' sp1 hst =>
        obtain ⟨ids1, ht1, hne1, hpl1⟩ := hgood _ rfl
        obtain ⟨ids2, ht2, hne2, hpl2⟩ := ihU _ _ _ _ _ _ h hne1
        dsimp only at ht1
        rw [ht1]
        dsimp only
        rw [ht2]
        refine ⟨subId :: ids1 ++ ids2, rfl, hne2, fun g hg => ?_⟩
        obtain ⟨g1, hg1, hp2⟩ := hpl2 g hg
        obtain ⟨g0, hg0, hp1⟩ := hpl1 g1 hg1
        rw [List.flatMap_append, List.flatMap_cons]
        exact ⟨g0, hg0, hp1.append hp2⟩
    · next hz =>
      rw [if_neg hz]
      exact ihU _ _ _ _ _ _ h hne

theorem recTrace_step {env : Env} {fuel : Nat} (ihR : RecTrace env fuel) (ihU : UnlockTrace env fuel) :
    RecTrace env (fuel + 1) := by
  intro currId impls sup groups res sup' h
  cases impls with
  | nil =>
    rw [searchRec] at h
    obtain ⟨ids, ht, hne, hpl⟩ := ihU _ _ _ _ _ _ h (by simp)
    refine ⟨ids, by rw [List.length_nil, traceRec]; exact ht, hne, fun g hg => ?_⟩
    obtain ⟨g0, hg0, hp⟩ := hpl g hg
    rw [List.mem_singleton.1 hg0] at hp
    exact hp
  | cons curr other =>
    rw [searchRec_cons] at h
    rw [List.length_cons, traceRec]
    -- a candidate for the rest, found after placing `curr`
    have key : ∀ (gs' : Groups) r sp', searchRec env fuel currId other sup gs' = .ok (r, sp') →
        Place env currId curr groups gs' →
        ∃ ids, traceRec env fuel currId other.length sup = some (ids, sp') ∧ r ≠ [] ∧
          ∀ g ∈ r, Places env ((curr :: other).map (fun b => (currId, b)) ++ ids.flatMap (headerBlocks env)) groups g := by
      intro gs' r sp' hr hp
      obtain ⟨ids, ht, hne, hpl⟩ := ihR _ _ _ _ _ _ hr
      exact ⟨ids, ht, hne, fun g hg => .cons hp (hpl g hg)⟩
    -- the invariant of the two folds: all alternatives so far unlock the same headers and return the same counters
    let Good : Groups → Prop := fun g => ∃ ids sp, traceRec env fuel currId other.length sup = some (ids, sp) ∧
      Places env ((curr :: other).map (fun b => (currId, b)) ++ ids.flatMap (headerBlocks env)) groups g
    let St : List Groups × Supersets × Bool → Prop := fun s => (∀ g ∈ s.1, Good g) ∧
      (s.2.2 = true → s.1 ≠ [] ∧ ∃ ids, traceRec env fuel currId other.length sup = some (ids, s.2.1))
    have addRes : ∀ (acc : List Groups) (ns : Supersets) (any : Bool) (gs' : Groups) r sp',
        St (acc, ns, any) → searchRec env fuel currId other sup gs' = .ok (r, sp') →
        Place env currId curr groups gs' → r.isEmpty = false ∧ St (acc ++ r, sp', true) := by
      intro acc ns any gs' r sp' hst hr hp
      obtain ⟨ids, ht, hne, hpl⟩ := key gs' r sp' hr hp
      refine ⟨by simpa using hne, ?_, fun _ => ⟨?_, ids, ht⟩⟩
      · intro g hg
        rcases List.mem_append.1 hg with h1 | h1
        · exact hst.1 g h1
        · exact ⟨ids, sp', ht, hpl g h1⟩
      · intro h0; exact hne (List.append_eq_nil_iff.1 h0).2
    generalize htry : List.foldl _ _ groups = tryG at h
    have hgood1 : ∀ s, tryG = .ok s → St s ∧ ((∃ ge ∈ groups, ge.1 = currId) → s.2.2 = true) := by
      intro s hs
      rw [← htry] at hs
      have := foldl_except_pre _ (fun (pre : Groups) (s : List Groups × Supersets × Bool) =>
          St s ∧ ((∃ ge ∈ pre, ge.1 = currId) → s.2.2 = true)) groups [] ?_ ?_ _ ?_ s hs
      · simpa using this
      · intro ge hge pre s0 hs0 s1 hs1
        obtain ⟨acc, newSup, any⟩ := s0
        dsimp only at hs1
        split at hs1
        · cases hs1
        · next hnone =>
          cases hs1
          refine ⟨hs0.1, ?_⟩
          rintro ⟨ge', hge', hid⟩
          rcases List.mem_append.1 hge' with h1 | h1
          · exact hs0.2 ⟨ge', h1, hid⟩
          · rw [List.mem_singleton.1 h1] at hid
            rw [hid] at hnone
            exact absurd hnone (joinSubst_self_ne_none env currId)
        · next σ hσ =>
          have hinner := foldl_except_pre _ (fun (pre2 : List ABG) (s : List Groups × Supersets × Bool) =>
              St s ∧ (pre2 ≠ [] → s.2.2 = true)) (ge.2.1.intersection curr σ) [] ?_ ?_ _ ?_ s1 hs1
          · exact ⟨hinner.1, fun _ => hinner.2 (by simpa using intersection_ne_nil _ _ _)⟩
          · intro inter hinter pre2 s2 hs2 s2' hs2'
            obtain ⟨acc2, newSup2, any2⟩ := s2
            dsimp only at hs2'
            split at hs2'
            · cases hs2'
            · next r sp' hr =>
              obtain ⟨hre, hst'⟩ := addRes acc2 newSup2 any2 _ r sp' hs2.1 hr (.join hge hσ hinter)
              rw [hre] at hs2'
              cases hs2'
              exact ⟨hst', fun _ => rfl⟩
          · intro a e; rfl
          · intro s0' hs0'; cases hs0'; exact ⟨hs0.1, fun h0 => absurd rfl h0⟩
      · intro a e; rfl
      · intro s0 hs0; cases hs0
        exact ⟨⟨fun g hg => (by cases hg), fun h0 => (by cases h0)⟩, fun ⟨ge, hge, _⟩ => (by cases hge)⟩
    split at h
    · cases h
    · next x acc newSup any =>
      obtain ⟨hst, hany⟩ := hgood1 _ rfl
      split at h
      · cases h
      · next x2 acc2 newSup2 any2 hfresh =>
        have hres : acc2 = res ∧ (if any2 = true then newSup2 else sup) = sup' := by
          simpa using h
        have hfin : St (acc2, newSup2, any2) ∧ any2 = true := by
          split at hfresh
          · next hex =>
            cases hfresh
            refine ⟨hst, hany ?_⟩
            obtain ⟨ge, hge, hid⟩ := List.any_eq_true.1 hex
            exact ⟨ge, hge, eq_of_beq hid⟩
          · next hnone =>
            split at hfresh
            · cases hfresh
            · next r sp' hr =>
              obtain ⟨hre, hst'⟩ := addRes acc newSup any _ r sp' hst hr (.fresh (Bool.eq_false_iff.2 hnone))
              rw [hre] at hfresh
              cases hfresh
              exact ⟨hst', rfl⟩
        obtain ⟨⟨hgoodAll, hsome⟩, hany2⟩ := hfin
        subst hany2
        simp only [if_true] at hres
        obtain ⟨rfl, rfl⟩ := hres
        obtain ⟨hne, ids, ht⟩ := hsome rfl
        refine ⟨ids, by simpa using ht, hne, fun g hg => ?_⟩
        obtain ⟨ids', sp', ht', hpl⟩ := hgoodAll g hg
        dsimp only at ht
        rw [ht] at ht'
        cases ht'
        exact hpl

/-- every candidate is obtained by placing the blocks handed to the call and then those of the unlocked headers;
    the unlocked headers and the returned counters are those of the counters-only trace, so all backtracking
    alternatives agree on them -/
theorem search_trace (env : Env) : ∀ fuel, RecTrace env fuel ∧ UnlockTrace env fuel
  | 0 => by
      constructor
      · intro currId impls sup groups res sup' h; rw [searchRec] at h; cases h
      · intro currId subs sup acc res sup' h; rw [searchUnlock] at h; cases h
  | fuel + 1 => by
      obtain ⟨ihR, ihU⟩ := search_trace env fuel
      exact ⟨recTrace_step ihR ihU, unlockTrace_step ihR ihU⟩

/-! ### Invariants of the search -/

/-- what a per-group property `GP` and a per-block precondition `BP` must satisfy to be carried by the search -/
structure SearchInv (env : Env) (GP : T × ABG × List Blk → Prop) (BP : T → Blk → Prop) : Prop where
  fresh : ∀ id b, BP id b → GP (id, ABG.new b, [b])
  join : ∀ gid abg ms currId curr σ inter, GP (gid, abg, ms) → BP currId curr →
    ((∃ σ', (currId, σ') ∈ env.subsets.get gid) ∨ gid = currId) → inter ∈ abg.intersection curr σ →
    GP (gid, inter, ms ++ [curr])
  impls : ∀ id, ∀ b ∈ env.impls id, BP id b

/-- `SearchInv` whose `join` field knows which substitution the search used -/
structure SearchInv' (env : Env) (GP : T × ABG × List Blk → Prop) (BP : T → Blk → Prop) : Prop where
  fresh : ∀ id b, BP id b → GP (id, ABG.new b, [b])
  join : ∀ gid abg ms currId curr σ inter, GP (gid, abg, ms) → BP currId curr →
    memberSubst env gid currId = some σ → inter ∈ abg.intersection curr σ →
    GP (gid, inter, ms ++ [curr])
  impls : ∀ id, ∀ b ∈ env.impls id, BP id b

/-- every `SearchInv` is a `SearchInv'`: its `join` field asks less, only that the headers are related -/
theorem SearchInv.toPrime {env : Env} {GP BP} (H : SearchInv env GP BP) : SearchInv' env GP BP where
  fresh := H.fresh
  join gid abg ms currId curr σ inter hg hb hσ hinter :=
    H.join gid abg ms currId curr σ inter hg hb (memberSubst_join hσ) hinter
  impls := H.impls

theorem mem_setGroup {gs : Groups} {id : T} {v : ABG × List Blk} {e : T × ABG × List Blk}
    (h : e ∈ setGroup gs id v) : e ∈ gs ∨ e = (id, v) := by
  simp only [setGroup, List.mem_map] at h
  obtain ⟨e0, he0, rfl⟩ := h
  by_cases hc : (e0.1 == id) = true
  · rw [if_pos hc]; exact Or.inr (by rw [eq_of_beq hc])
  · rw [if_neg hc]; exact Or.inl he0

/-- a per-group property that founding a group establishes and joining one preserves holds in every candidate
    reached by placing blocks that satisfy the precondition -/
theorem Places.inv {env : Env} {GP : T × ABG × List Blk → Prop} {BP : T → Blk → Prop} (H : SearchInv' env GP BP)
    {steps : List (T × Blk)} {gs g : Groups} (h : Places env steps gs g) :
    (∀ p ∈ steps, BP p.1 p.2) → (∀ e ∈ gs, GP e) → ∀ e ∈ g, GP e := by
  induction h with
  | nil => intro _ hG; exact hG
  | cons hp _ ih =>
    intro hB hG
    refine ih (fun p hp' => hB p (List.mem_cons_of_mem _ hp')) (fun e he => ?_)
    have hb := hB _ List.mem_cons_self
    cases hp with
    | join hge hσ hinter =>
      rcases mem_setGroup he with he | he
      · exact hG e he
      · rw [he]; exact H.join _ _ _ _ _ _ _ (hG _ hge) hb (by rw [memberSubst_eq, hσ]) hinter
    | fresh _ =>
      rcases List.mem_append.1 he with he | he
      · exact hG e he
      · rw [List.mem_singleton.1 he]; exact H.fresh _ _ hb

theorem search_root_places {env : Env} {fuel : Nat} {r : T} {sup : Supersets} {cands : List Groups} {sup' : Supersets}
    (h : searchRec env fuel r (env.impls r) sup [] = .ok (cands, sup')) :
    ∀ g ∈ cands, ∃ steps, Places env steps [] g ∧ ∀ p ∈ steps, p.2 ∈ env.impls p.1 := by
  obtain ⟨ids, _, _, hpl⟩ := (search_trace env fuel).1 _ _ _ _ _ _ h
  refine fun g hg => ⟨_, hpl g hg, fun p hp => ?_⟩
  rcases List.mem_append.1 hp with hp | hp
  · obtain ⟨b, hb, rfl⟩ := List.mem_map.1 hp
    exact hb
  · obtain ⟨id, _, hp⟩ := List.mem_flatMap.1 hp
    obtain ⟨b, hb, rfl⟩ := List.mem_map.1 hp
    exact hb

def GoodCands (GP : T × ABG × List Blk → Prop) (cs : List Groups) : Prop := ∀ g ∈ cs, ∀ e ∈ g, GP e

theorem search_root_inv' {env : Env} {GP BP} (H : SearchInv' env GP BP) {fuel : Nat} {r : T} {sup : Supersets}
    {cands : List Groups} {sup' : Supersets} (h : searchRec env fuel r (env.impls r) sup [] = .ok (cands, sup')) :
    GoodCands GP cands := by
  intro g hg
  obtain ⟨steps, hp, hb⟩ := search_root_places h g hg
  exact hp.inv H (fun p hp => H.impls p.1 p.2 (hb p hp)) (fun e he => by cases he)

theorem search_root_inv {env : Env} {GP BP} (H : SearchInv env GP BP) {fuel : Nat} {r : T} {sup : Supersets}
    {cands : List Groups} {sup' : Supersets} (h : searchRec env fuel r (env.impls r) sup [] = .ok (cands, sup')) :
    GoodCands GP cands :=
  search_root_inv' H.toPrime h

/-! ### `findKey`, `insertKey`: association lists with keys up to `keyEq` -/

/-- no key of the list is `keyEq` to a later one -/
def DistinctKeys (ks : List BKey) : Prop := ks.Pairwise (fun a b => keyEq a b = false)

theorem findKey_cons_ne {α : Type} {k k' : BKey} {v : α} {rest : List (BKey × α)} (h : keyEq k k' = false) :
    findKey ((k, v) :: rest) k' = findKey rest k' := by
  simp [findKey, h]

theorem findKey_cons_eq {α : Type} {k k' : BKey} {v : α} {rest : List (BKey × α)} (h : keyEq k k' = true) :
    findKey ((k, v) :: rest) k' = some v := by
  simp [findKey, h]

theorem findKey_eq_find? {α : Type} (k : BKey) : ∀ (bs : List (BKey × α)),
    findKey bs k = (bs.find? (fun e => keyEq e.1 k)).map (·.2)
  | [] => rfl
  | (k', v) :: rest => by
      cases hk : keyEq k' k with
      | true => rw [findKey_cons_eq hk, List.find?_cons_of_pos (by exact hk)]; rfl
      | false => rw [findKey_cons_ne hk, List.find?_cons_of_neg (by simp [hk]), findKey_eq_find? k rest]

theorem findKey_some_keyEq {α : Type} {bs : List (BKey × α)} {k : BKey} {v : α} (h : findKey bs k = some v) :
    ∃ k', (k', v) ∈ bs ∧ keyEq k' k = true := by
  rw [findKey_eq_find?, Option.map_eq_some_iff] at h
  obtain ⟨e, he, rfl⟩ := h
  exact ⟨e.1, List.mem_of_find?_eq_some he, List.find?_some (p := fun (e : BKey × α) => keyEq e.1 k) he⟩

theorem findKey_some_any {α : Type} {bs : List (BKey × α)} {k : BKey} {v : α} (h : findKey bs k = some v) :
    bs.any (fun e => keyEq e.1 k) = true :=
  let ⟨_, hm, hk⟩ := findKey_some_keyEq h
  List.any_eq_true.2 ⟨_, hm, hk⟩

theorem findKey_eq_none_iff {α : Type} {k : BKey} {bs : List (BKey × α)} :
    findKey bs k = none ↔ ∀ e ∈ bs, keyEq e.1 k = false := by
  rw [findKey_eq_find?, Option.map_eq_none_iff, List.find?_eq_none]
  simp

theorem findKey_ext {α : Type} {k k' : BKey} : ∀ {bs : List (BKey × α)}, (∀ e ∈ bs, keyEq e.1 k = keyEq e.1 k') →
    findKey bs k = findKey bs k'
  | [], _ => rfl
  | (k0, v) :: rest, h => by
      simp only [findKey]
      rw [h (k0, v) List.mem_cons_self, findKey_ext (fun e he => h e (List.mem_cons_of_mem _ he))]

theorem findKey_append {α : Type} (bs cs : List (BKey × α)) (k : BKey) :
    findKey (bs ++ cs) k = (findKey bs k).or (findKey cs k) := by
  rw [findKey_eq_find?, findKey_eq_find?, findKey_eq_find?, List.find?_append, Option.map_or]

theorem findKey_map {α β : Type} (f : α → β) (bs : List (BKey × α)) (k : BKey) :
    findKey (bs.map (fun e => (e.1, f e.2))) k = (findKey bs k).map f := by
  rw [findKey_eq_find?, findKey_eq_find?, List.find?_map, Option.map_map, Option.map_map]
  rfl

theorem findKey_of_mem_distinct {α : Type} : ∀ {bs : List (BKey × α)}, DistinctKeys (bs.map (·.1)) → ∀ {e : BKey × α}, e ∈ bs →
    keyEq e.1 e.1 = true → findKey bs e.1 = some e.2
  | [], _, _, h, _ => by cases h
  | x :: rest, hd, e, h, hr => by
      unfold DistinctKeys at hd
      simp only [List.map_cons, List.pairwise_cons] at hd
      rcases List.mem_cons.1 h with rfl | h
      · exact findKey_cons_eq hr
      · rw [findKey_cons_ne (hd.1 _ (List.mem_map_of_mem h))]
        exact findKey_of_mem_distinct hd.2 h hr

theorem findKey_filterMap {α β : Type} (p : BKey → Bool) (g : BKey → β) (k : BKey) : ∀ (l : List (BKey × α)),
    (∀ e ∈ l, keyEq e.1 k = true → p e.1 = p k ∧ g e.1 = g k) →
    findKey (l.filterMap (fun e => if p e.1 then some (e.1, g e.1) else none)) k =
      if p k then (findKey l k).map (fun _ => g k) else none
  | [], _ => by simp [findKey]
  | e :: l, h => by
      have ih := findKey_filterMap p g k l (fun e he => h e (List.mem_cons_of_mem _ he))
      rw [List.filterMap_cons]
      obtain ⟨k0, v⟩ := e
      by_cases hk : keyEq k0 k = true
      · obtain ⟨h1, h2⟩ := h (k0, v) (by simp) hk
        simp only at h1 h2
        by_cases hp : p k = true
        · simp [findKey, hk, h1, h2, hp]
        · simp only [h1, hp, Bool.false_eq_true, if_false]
          rw [ih]; simp [hp]
      · by_cases hp0 : p k0 = true
        · simp only [hp0, if_true, findKey, hk, Bool.false_eq_true, if_false]
          exact ih
        · simp only [hp0, Bool.false_eq_true, if_false, findKey, hk]
          exact ih

theorem pairwise_filterMap_keys {α β : Type} (f : BKey × α → Option (BKey × β)) (hf : ∀ e e', f e = some e' → e'.1 = e.1)
    (l : List (BKey × α)) (h : DistinctKeys (l.map (·.1))) : DistinctKeys ((l.filterMap f).map (·.1)) := by
  unfold DistinctKeys at h ⊢
  rw [List.pairwise_map] at h ⊢
  exact h.filterMap f (fun a a' haa' b hb b' hb' => by rw [hf a b hb, hf a' b' hb']; exact haa')

theorem insertKey_fresh {α : Type} {bs : List (BKey × α)} {k : BKey} (v : α) (h : ∀ e ∈ bs, keyEq e.1 k = false) :
    insertKey bs k v = bs ++ [(k, v)] :=
  if_neg (by simpa using h)

/-- an equal key keeps its place and its spelling, a new one goes to the end -/
theorem insertKey_keys {α : Type} (bs : List (BKey × α)) (k : BKey) (v : α) : (insertKey bs k v).map (·.1) =
    if bs.any (fun e => keyEq e.1 k) then bs.map (·.1) else bs.map (·.1) ++ [k] := by
  unfold insertKey
  split
  · rw [List.map_map]
    exact List.map_congr_left (fun e _ => by simp only [Function.comp]; split <;> rfl)
  · rw [List.map_append]; rfl

theorem mem_insertKey_keys {α : Type} {bs : List (BKey × α)} {k k' : BKey} {v : α}
    (h : k' ∈ (insertKey bs k v).map (·.1)) : k' ∈ bs.map (·.1) ∨ k' = k := by
  rw [insertKey_keys] at h
  split at h
  · exact Or.inl h
  · simpa using h

theorem insertKey_distinct {α : Type} {bs : List (BKey × α)} {k : BKey} {v : α} (h : DistinctKeys (bs.map (·.1))) :
    DistinctKeys ((insertKey bs k v).map (·.1)) := by
  rw [insertKey_keys]
  split
  · exact h
  · next hany =>
    refine List.pairwise_append.2 ⟨h, List.pairwise_singleton _ _, fun a ha b hb => ?_⟩
    obtain ⟨e, he, rfl⟩ := List.mem_map.1 ha
    rw [List.mem_singleton.1 hb]
    simpa using fun hc => hany (List.any_eq_true.2 ⟨e, he, hc⟩)

theorem insertKey_map {α β : Type} (f : α → β) (bs : List (BKey × α)) (k : BKey) (v : α) :
    insertKey (bs.map (fun e => (e.1, f e.2))) k (f v) = (insertKey bs k v).map (fun e => (e.1, f e.2)) := by
  unfold insertKey
  simp only [List.any_map, Function.comp_def]
  split
  · simp only [List.map_map]
    apply List.map_congr_left
    intro e _
    simp only [Function.comp]
    split <;> rfl
  · simp

/-- `a` is made of entries of `src`: its stored key is the key of one entry, its value the value of one entry, and
    the two keys are related by `R` -/
def FromIns {α : Type} (R : BKey → BKey → Prop) (src : List (BKey × α)) (a : BKey × α) : Prop :=
  ∃ x1 ∈ src, ∃ x2 ∈ src, a.1 = x1.1 ∧ a.2 = x2.2 ∧ R x1.1 x2.1

/-- an entry of a map built by successive `insertKey`s: the stored key is the key of one of the inserted entries
    (the first of its class), the value the value of one of them (the last of its class) -/
theorem mem_foldl_insertKey {α : Type} {R : BKey → BKey → Prop} (hrefl : ∀ k, R k k)
    (hR : ∀ a b, keyEq a b = true → R a b) (es : List (BKey × α)) :
    ∀ e ∈ es.foldl (fun acc x => insertKey acc x.1 x.2) [], FromIns R es e := by
  refine foldl_prefix_inv (fun acc x => insertKey acc x.1 x.2) (fun _ acc => ∀ a ∈ acc, FromIns R es a) es [] [] ?_
    (fun _ ha => (List.not_mem_nil ha).elim)
  intro x hx _ acc hacc a ha
  unfold insertKey at ha
  split at ha
  · obtain ⟨e, he, rfl⟩ := List.mem_map.1 ha
    split
    · next hk =>
      obtain ⟨x1, hx1, _, _, h1, _, _⟩ := hacc e he
      exact ⟨x1, hx1, x, hx, h1, rfl, by rw [← h1]; exact hR _ _ hk⟩
    · exact hacc e he
  · rcases List.mem_append.1 ha with ha | ha
    · exact hacc a ha
    · rw [List.mem_singleton.1 ha]
      exact ⟨x, hx, x, hx, rfl, rfl, hrefl _⟩

theorem foldl_insertKey_distinct {α : Type} : ∀ (l acc : List (BKey × α)),
    ((acc ++ l).map (·.1)).Pairwise (fun a b => keyEq a b = false) →
    l.foldl (fun acc e => insertKey acc e.1 e.2) acc = acc ++ l
  | [], acc, _ => by simp
  | e :: l, acc, h => by
      rw [List.foldl_cons, insertKey_fresh]
      · have := foldl_insertKey_distinct l (acc ++ [(e.1, e.2)]) (by simpa using h)
        simpa using this
      · intro x hx
        simp only [List.map_append, List.map_cons, List.pairwise_append] at h
        exact h.2.2 _ (List.mem_map.2 ⟨x, hx, rfl⟩) _ (by simp)

/-! ### `rowLookup` in a row that is being extended -/

theorem rowLookup_append : ∀ (r s : Row) (x : String), rowLookup (r ++ s) x = (rowLookup r x).or (rowLookup s x)
  | [], _, _ => rfl
  | (y, p) :: r, s, x => by
      simp only [List.cons_append, rowLookup]
      split
      · rfl
      · exact rowLookup_append r s x

theorem rowLookup_none_of_not_any : ∀ (r : Row) (x : String), r.any (fun e => e.1 == x) = false → rowLookup r x = none
  | [], _, _ => rfl
  | (y, p) :: r, x, h => by
      simp only [List.any_cons, Bool.or_eq_false_iff] at h
      simp only [rowLookup, h.1, Bool.false_eq_true, if_false]
      exact rowLookup_none_of_not_any r x h.2

theorem rowLookup_replace (y : String) (p : T) (x : String) : ∀ (r : Row),
    rowLookup (r.map (fun e => if e.1 == y then (y, p) else e)) x =
      if y == x then (if r.any (fun e => e.1 == y) then some p else none) else rowLookup r x
  | [] => by simp [rowLookup]
  | (z, q) :: r => by
      have ih := rowLookup_replace y p x r
      simp only [List.map_cons, List.any_cons]
      by_cases hyx : (y == x) = true
      · have e2 : y = x := eq_of_beq hyx
        subst e2
        simp only [hyx, if_true] at ih ⊢
        by_cases hzy : (z == y) = true
        · simp only [hzy, if_true, rowLookup, hyx, Bool.true_or]
        · have hzy' := Bool.eq_false_iff.2 hzy
          simp only [hzy', Bool.false_eq_true, if_false, rowLookup, Bool.false_or]
          exact ih
      · have hyx' := Bool.eq_false_iff.2 hyx
        simp only [hyx', Bool.false_eq_true, if_false] at ih ⊢
        by_cases hzy : (z == y) = true
        · have e1 : z = y := eq_of_beq hzy
          subst e1
          simp only [hzy, if_true, rowLookup, hyx', Bool.false_eq_true, if_false]
          exact ih
        · have hzy' := Bool.eq_false_iff.2 hzy
          simp only [hzy', Bool.false_eq_true, if_false, rowLookup]
          rw [ih]

/-- `IndexMap::insert` on a row, seen through lookups -/
theorem rowLookup_insert (r : Row) (y : String) (p : T) (x : String) :
    rowLookup (Row.insert r y p) x = if y == x then some p else rowLookup r x := by
  unfold Row.insert
  by_cases hany : r.any (fun e => e.1 == y) = true
  · rw [if_pos hany, rowLookup_replace, hany]
    simp
  · rw [if_neg hany, rowLookup_append]
    by_cases hyx : (y == x) = true
    · have e2 : y = x := eq_of_beq hyx
      subst e2
      rw [rowLookup_none_of_not_any r y (Bool.eq_false_iff.2 hany)]
      simp [rowLookup]
    · simp only [hyx, Bool.false_eq_true, if_false, rowLookup]
      cases rowLookup r x <;> rfl

/-- `IndexMap::extend` on a row, seen through lookups: the last of the new bindings of `x` wins, else the old one stays -/
theorem rowLookup_extend (x : String) : ∀ (es : List (String × T)) (r : Row),
    rowLookup (Row.extend r es) x = es.foldl (fun o e => if e.1 == x then some e.2 else o) (rowLookup r x)
  | [], _ => rfl
  | e :: es, r => by
      unfold Row.extend
      rw [List.foldl_cons, List.foldl_cons, ← rowLookup_insert]
      exact rowLookup_extend x es (Row.insert r e.1 e.2)

/-! ### `cartesianG`, `intersection`, `ABG.new` -/

theorem mem_cartesianG {α : Type} : ∀ {xss : List (List α)} {combo : List α}, combo ∈ cartesianG xss →
    ∀ x ∈ combo, ∃ xs ∈ xss, x ∈ xs
  | [], combo, h, x, hx => by
      simp only [cartesianG, List.mem_singleton] at h; subst h; cases hx
  | xs :: rest, combo, h, x, hx => by
      simp only [cartesianG, List.mem_flatMap, List.mem_map] at h
      obtain ⟨y, hy, tl, htl, rfl⟩ := h
      rcases List.mem_cons.1 hx with rfl | hx
      · exact ⟨xs, by simp, hy⟩
      · obtain ⟨ys, hys, hxy⟩ := mem_cartesianG htl x hx
        exact ⟨ys, List.mem_cons_of_mem _ hys, hxy⟩

/-- the other block's bounds folded into a map key ↦ row (first step of `intersection`) -/
def otherFold (b : Blk) : List (BKey × Row) :=
  b.raw.foldl (fun acc rb =>
    let k : BKey := (rb.bounded, rb.tr)
    match findKey acc k with
    | some r => insertKey acc k (Row.extend r rb.binds)
    | none => acc ++ [(k, Row.extend [] rb.binds)]) []

def otherStep (acc : List (BKey × Row)) (rb : RawBound) : List (BKey × Row) :=
  match findKey acc (rb.bounded, rb.tr) with
  | some r => insertKey acc (rb.bounded, rb.tr) (Row.extend r rb.binds)
  | none => acc ++ [((rb.bounded, rb.tr), Row.extend [] rb.binds)]

theorem otherFold_eq (b : Blk) : otherFold b = b.raw.foldl otherStep [] := rfl

/-- a bound is folded in by one `insertKey` under its key, of the row found for that key (else the empty row)
    extended by its bindings -/
theorem otherStep_eq (acc : List (BKey × Row)) (rb : RawBound) : otherStep acc rb =
    insertKey acc (rb.bounded, rb.tr) (Row.extend ((findKey acc (rb.bounded, rb.tr)).getD []) rb.binds) := by
  unfold otherStep
  cases hf : findKey acc (rb.bounded, rb.tr) with
  | some r => rfl
  | none => exact (insertKey_fresh _ (findKey_eq_none_iff.1 hf)).symm

/-- no key of the folded bounds of a block is `keyEq` to a later one (by construction) -/
theorem otherFold_distinct (b : Blk) : DistinctKeys ((otherFold b).map (·.1)) :=
  foldl_prefix_inv otherStep (fun _ acc => DistinctKeys (acc.map (·.1))) b.raw [] []
    (fun rb _ _ acc h => by rw [otherStep_eq]; exact insertKey_distinct h) List.Pairwise.nil

theorem otherFold_keys_raw (b : Blk) {e : BKey × Row} (he : e ∈ otherFold b) :
    ∃ rb ∈ b.raw, e.1 = (rb.bounded, rb.tr) := by
  refine foldl_prefix_inv otherStep (fun pre acc => ∀ e ∈ acc, ∃ rb ∈ pre, e.1 = (rb.bounded, rb.tr)) b.raw [] [] ?_
    (fun _ h => (List.not_mem_nil h).elim) e he
  intro rb _ pre acc h e he
  rw [otherStep_eq] at he
  rcases mem_insertKey_keys (List.mem_map_of_mem he) with hk | hk
  · obtain ⟨e0, he0, h0⟩ := List.mem_map.1 hk
    obtain ⟨rb0, hrb0, hh⟩ := h e0 he0
    exact ⟨rb0, List.mem_append_left _ hrb0, h0 ▸ hh⟩
  · exact ⟨rb, List.mem_append_right _ (List.mem_singleton_self rb), hk⟩

/-- the rest of `intersection`, given the folded bounds of the other block -/
def interWith (g : ABG) (other' : List (BKey × Row)) (ou : List T) (σ : Subst) : List ABG :=
  let unsized := (g.unsized ++ ou).eraseDups
  let perKey : List (List (Option (BKey × List Row))) := other'.map (fun e =>
    (substituteBound σ e.1.1 e.1.2).map (fun sk =>
      match findKey g.bounds sk with
      | some rows => some (sk, rows ++ [e.2])
      | none => none))
  (cartesianG perKey).map (fun combo =>
    let bounds := (combo.filterMap id).foldl (fun (acc : List (BKey × List Row)) e => insertKey acc e.1 e.2) []
    let params := bounds.map (fun e => e.1.1)
    ⟨bounds, unsized.filter (fun p => params.contains p)⟩)

theorem intersection_eq (g : ABG) (other : Blk) (σ : Subst) :
    g.intersection other σ = interWith g (otherFold other) other.unsized σ := rfl

theorem new_eq_otherFold (b : Blk) : (ABG.new b).bounds = (otherFold b).map (fun e => (e.1, [e.2])) := by
  unfold ABG.new otherFold
  refine List.foldl_hom (List.map (fun (e : BKey × Row) => (e.1, [e.2]))) (init := []) (fun acc rb => ?_)
  dsimp only
  rw [findKey_map (fun r => [r]) acc (rb.bounded, rb.tr)]
  cases findKey acc (rb.bounded, rb.tr) with
  | none => simp
  | some r => exact insertKey_map (fun r => [r]) acc (rb.bounded, rb.tr) (Row.extend r rb.binds)

/-- every key entry of an intersection: the stored key `sk1` and the rows `rows2 ++ [e2.2]` come from two keys
    `e1`, `e2` of the joining block (often the same one), re-expressed under `σ` to `sk1`, `sk2`, both found in the
    group; `sk1` and `sk2` are related by any reflexive relation that contains `keyEq` -/
theorem intersection_entry_rel {R : BKey → BKey → Prop} (hrefl : ∀ k, R k k) (hR : ∀ a b, keyEq a b = true → R a b)
    {g : ABG} {other : Blk} {σ : Subst} {inter : ABG} (h : inter ∈ g.intersection other σ) :
    ∀ kr ∈ inter.bounds, ∃ e1 ∈ otherFold other, ∃ e2 ∈ otherFold other,
      ∃ sk1 ∈ substituteBound σ e1.1.1 e1.1.2, ∃ sk2 ∈ substituteBound σ e2.1.1 e2.1.2, ∃ rows1 rows2,
        findKey g.bounds sk1 = some rows1 ∧ findKey g.bounds sk2 = some rows2 ∧
        kr.1 = sk1 ∧ kr.2 = rows2 ++ [e2.2] ∧ R sk1 sk2 := by
  rw [intersection_eq] at h
  unfold interWith at h
  simp only [List.mem_map] at h
  obtain ⟨combo, hcombo, rfl⟩ := h
  intro kr hkr
  have hsrc : ∀ x ∈ combo.filterMap id, ∃ e ∈ otherFold other, ∃ sk ∈ substituteBound σ e.1.1 e.1.2, ∃ rows,
      findKey g.bounds sk = some rows ∧ x = (sk, rows ++ [e.2]) := by
    intro x hx
    simp only [List.mem_filterMap, id] at hx
    obtain ⟨ox, hox, rfl⟩ := hx
    obtain ⟨xs, hxs, hmem⟩ := mem_cartesianG hcombo (some x) hox
    obtain ⟨e, he, rfl⟩ := List.mem_map.1 hxs
    obtain ⟨sk, hsk, hskx⟩ := List.mem_map.1 hmem
    split at hskx
    · next rows hf => cases hskx; exact ⟨e, he, sk, hsk, rows, hf, rfl⟩
    · cases hskx
  obtain ⟨x1, hx1, x2, hx2, h1, h2, h12⟩ := mem_foldl_insertKey hrefl hR (combo.filterMap id) kr hkr
  obtain ⟨e1, he1, sk1, hsk1, rows1, hf1, rfl⟩ := hsrc x1 hx1
  obtain ⟨e2, he2, sk2, hsk2, rows2, hf2, rfl⟩ := hsrc x2 hx2
  exact ⟨e1, he1, e2, he2, sk1, hsk1, sk2, hsk2, rows1, rows2, hf1, hf2, h1, h2, h12⟩

theorem intersection_rows {g : ABG} {other : Blk} {σ : Subst} {inter : ABG} (h : inter ∈ g.intersection other σ) :
    ∀ kr ∈ inter.bounds, ∃ k' rows r, (k', rows) ∈ g.bounds ∧ kr.2 = rows ++ [r] := by
  intro kr hkr
  obtain ⟨_, _, e2, _, _, _, _, _, _, rows2, _, hf2, _, hk2, _⟩ :=
    intersection_entry_rel (R := fun _ _ => True) (fun _ => trivial) (fun _ _ _ => trivial) h kr hkr
  obtain ⟨k', hk', _⟩ := findKey_some_keyEq hf2
  exact ⟨k', rows2, e2.2, hk', hk2⟩

theorem new_rows (b : Blk) : ∀ kr ∈ (ABG.new b).bounds, kr.2.length = 1 := by
  intro kr hkr
  rw [new_eq_otherFold] at hkr
  obtain ⟨e, _, rfl⟩ := List.mem_map.1 hkr
  rfl


/-! ### Buckets -/

def bucketStep (acc : List (T × List Blk)) (b : Blk) : List (T × List Blk) :=
  let id := groupIdOf b.item
  match acc.find? (fun e => e.1 == id) with
  | some _ => acc.map (fun e => if e.1 == id then
      (e.1, if e.2.any (fun x => x.item == b.item) then e.2.map (fun x => if x.item == b.item then b else x) else e.2 ++ [b]) else e)
  | none => acc ++ [(id, [b])]

theorem mkBuckets_eq (blocks : List Blk) : mkBuckets blocks = blocks.foldl bucketStep [] := rfl

/-- a block enters a bucket: it takes the place of the block with the same text, or goes to the end -/
def putBlk (l : List Blk) (b : Blk) : List Blk :=
  if l.any (fun x => x.item == b.item) then l.map (fun x => if x.item == b.item then b else x) else l ++ [b]

theorem mem_putBlk {l : List Blk} {b x : Blk} (h : x ∈ putBlk l b) : x ∈ l ∨ x = b := by
  unfold putBlk at h
  split at h
  · obtain ⟨y, hy, rfl⟩ := List.mem_map.1 h
    split
    · exact Or.inr rfl
    · exact Or.inl hy
  · simpa using h

theorem putBlk_length (l : List Blk) (b : Blk) : (putBlk l b).length ≤ l.length + 1 := by
  unfold putBlk
  split
  · rw [List.length_map]; exact Nat.le_succ _
  · rw [List.length_append]; exact Nat.le_refl _

theorem putBlk_fresh {l : List Blk} {b : Blk} (h : ∀ x ∈ l, x.item ≠ b.item) : putBlk l b = l ++ [b] :=
  if_neg (by simpa using h)

/-- the texts after a block has entered: an equal text keeps its place, a new one goes to the end -/
theorem putBlk_items (l : List Blk) (b : Blk) : (putBlk l b).map (·.item) =
    if b.item ∈ l.map (·.item) then l.map (·.item) else l.map (·.item) ++ [b.item] := by
  have hany : l.any (fun x => x.item == b.item) = true ↔ b.item ∈ l.map (·.item) := by
    simp only [List.any_eq_true, List.mem_map, beq_iff_eq]
  unfold putBlk
  by_cases h : l.any (fun x => x.item == b.item) = true
  · rw [if_pos h, if_pos (hany.1 h), List.map_map]
    apply List.map_congr_left
    intro x _
    simp only [Function.comp]
    split
    · next hx => exact (eq_of_beq hx).symm
    · rfl
  · rw [if_neg h, if_neg (fun h' => h (hany.2 h')), List.map_append]; rfl

theorem bucketStep_eq (acc : List (T × List Blk)) (b : Blk) : bucketStep acc b =
    if acc.any (fun e => e.1 == groupIdOf b.item) then
      acc.map (fun e => if e.1 == groupIdOf b.item then (e.1, putBlk e.2 b) else e)
    else acc ++ [(groupIdOf b.item, [b])] := by
  unfold bucketStep
  dsimp only
  cases hf : acc.find? (fun e => e.1 == groupIdOf b.item) with
  | some e => rw [if_pos (List.any_eq_true.2 ⟨e, List.mem_of_find?_eq_some hf, List.find?_some hf⟩)]; rfl
  | none =>
    rw [if_neg]
    intro h
    obtain ⟨e, he, hid⟩ := List.any_eq_true.1 h
    exact List.find?_eq_none.1 hf e he hid

/-- every block sits in the bucket of its own header -/
def BucketsWF (buckets : List (T × List Blk)) : Prop := ∀ bk ∈ buckets, ∀ b ∈ bk.2, groupIdOf b.item = bk.1

/-- what holds of every block with its header holds of every block with the header of its bucket -/
theorem bucketStep_forall (P : T → Blk → Prop) {acc : List (T × List Blk)} {b : Blk} (hb : P (groupIdOf b.item) b)
    (hacc : ∀ bk ∈ acc, ∀ x ∈ bk.2, P bk.1 x) : ∀ bk ∈ bucketStep acc b, ∀ x ∈ bk.2, P bk.1 x := by
  intro bk hbk x hx
  rw [bucketStep_eq] at hbk
  split at hbk
  · obtain ⟨e, he, rfl⟩ := List.mem_map.1 hbk
    by_cases hid : (e.1 == groupIdOf b.item) = true
    · rw [if_pos hid] at hx ⊢
      rcases mem_putBlk hx with hx | hx
      · exact hacc e he x hx
      · rw [hx, eq_of_beq hid]; exact hb
    · rw [if_neg hid] at hx ⊢; exact hacc e he x hx
  · rcases List.mem_append.1 hbk with hbk | hbk
    · exact hacc bk hbk x hx
    · rw [List.mem_singleton.1 hbk] at hx ⊢
      rw [List.mem_singleton.1 hx]; exact hb

theorem mkBuckets_forall (P : T → Blk → Prop) (bs : List Blk) (h : ∀ b ∈ bs, P (groupIdOf b.item) b) :
    ∀ bk ∈ mkBuckets bs, ∀ x ∈ bk.2, P bk.1 x :=
  foldl_prefix_inv bucketStep (fun _ acc => ∀ bk ∈ acc, ∀ x ∈ bk.2, P bk.1 x) bs [] []
    (fun b hb _ _ hacc => bucketStep_forall P (h b hb) hacc) (fun _ hbk => (List.not_mem_nil hbk).elim)

theorem mkBuckets_wf (blocks : List Blk) : BucketsWF (mkBuckets blocks) :=
  mkBuckets_forall (fun id b => groupIdOf b.item = id) blocks (fun _ _ => rfl)

theorem mkBuckets_len (blocks : List Blk) : ∀ bk ∈ mkBuckets blocks, bk.2.length ≤ blocks.length := by
  refine foldl_prefix_inv bucketStep (fun pre acc => ∀ bk ∈ acc, bk.2.length ≤ pre.length) blocks [] [] ?_
    (fun _ hbk => (List.not_mem_nil hbk).elim)
  intro b _ pre acc h bk hbk
  rw [List.length_append, List.length_singleton]
  rw [bucketStep_eq] at hbk
  split at hbk
  · obtain ⟨e, he, rfl⟩ := List.mem_map.1 hbk
    have h1 := h e he
    have h2 := putBlk_length e.2 b
    split
    · exact Nat.le_trans h2 (Nat.succ_le_succ h1)
    · exact Nat.le_succ_of_le h1
  · rcases List.mem_append.1 hbk with hbk | hbk
    · exact Nat.le_succ_of_le (h bk hbk)
    · rw [List.mem_singleton.1 hbk]; exact Nat.succ_le_succ (Nat.zero_le _)

/-- the headers after a step: a new header goes to the end -/
theorem bucketStep_ids (acc : List (T × List Blk)) (b : Blk) : (bucketStep acc b).map (·.1) =
    if groupIdOf b.item ∈ acc.map (·.1) then acc.map (·.1) else acc.map (·.1) ++ [groupIdOf b.item] := by
  have hany : acc.any (fun e => e.1 == groupIdOf b.item) = true ↔ groupIdOf b.item ∈ acc.map (·.1) := by
    simp only [List.any_eq_true, List.mem_map, beq_iff_eq]
  rw [bucketStep_eq]
  by_cases h : acc.any (fun e => e.1 == groupIdOf b.item) = true
  · rw [if_pos h, if_pos (hany.1 h), List.map_map]
    apply List.map_congr_left
    intro e _
    simp only [Function.comp]
    split <;> rfl
  · rw [if_neg h, if_neg (fun h' => h (hany.2 h')), List.map_append]; rfl

theorem mkBuckets_ids_nodup (blocks : List Blk) : ((mkBuckets blocks).map (·.1)).Nodup := by
  refine foldl_prefix_inv bucketStep (fun _ acc => (acc.map (·.1)).Nodup) blocks [] [] ?_ List.nodup_nil
  intro b _ _ acc h
  rw [bucketStep_ids]
  exact nodup_insert_absent _ h

/-- the headers of the buckets are the headers of the blocks seen so far -/
def BucketsIds (pre : List Blk) (acc : List (T × List Blk)) : Prop :=
  ∀ id, id ∈ acc.map (·.1) ↔ ∃ b ∈ pre, groupIdOf b.item = id

theorem bucketStep_bucketsIds {pre : List Blk} {acc : List (T × List Blk)} (h : BucketsIds pre acc) (b : Blk) :
    BucketsIds (pre ++ [b]) (bucketStep acc b) := by
  intro id
  have hb : (∃ x ∈ pre ++ [b], groupIdOf x.item = id) ↔ id ∈ acc.map (·.1) ∨ groupIdOf b.item = id := by
    rw [h id]
    simp only [List.mem_append, List.mem_singleton, or_and_right, exists_or, exists_eq_left]
  rw [hb, bucketStep_ids, mem_insert_absent, eq_comm]

theorem mkBuckets_ids (bs : List Blk) : BucketsIds bs (mkBuckets bs) :=
  foldl_prefix_inv bucketStep BucketsIds bs [] [] (fun b _ _ _ h => bucketStep_bucketsIds h b) (fun id => by simp)

/-- what `mkBuckets` computes from a duplicate-free list: the bucket of a header holds the blocks with that header,
    in order, and the headers are those of the blocks -/
def BucketsChar (pre : List Blk) (acc : List (T × List Blk)) : Prop :=
  (∀ e ∈ acc, e.2 = pre.filter (fun b => groupIdOf b.item == e.1)) ∧
  (∀ id, id ∈ acc.map (·.1) ↔ ∃ b ∈ pre, groupIdOf b.item = id)

theorem bucketStep_char {pre : List Blk} {acc : List (T × List Blk)} (h : BucketsChar pre acc) {b : Blk}
    (hfresh : ∀ x ∈ pre, x.item ≠ b.item) : BucketsChar (pre ++ [b]) (bucketStep acc b) := by
  obtain ⟨hc1, hc2⟩ := h
  refine ⟨fun bk hbk => ?_, bucketStep_bucketsIds hc2 b⟩
  have hfil : ∀ g, (pre ++ [b]).filter (fun x => groupIdOf x.item == g) =
      pre.filter (fun x => groupIdOf x.item == g) ++ if groupIdOf b.item == g then [b] else [] := by
    intro g; simp only [List.filter_append, List.filter_cons, List.filter_nil]
  -- a bucket with another header is not touched
  have hother : ∀ e ∈ acc, e.1 ≠ groupIdOf b.item → e.2 = (pre ++ [b]).filter (fun x => groupIdOf x.item == e.1) := by
    intro e he hne
    rw [hfil, if_neg (fun hc => hne (eq_of_beq hc).symm), List.append_nil]
    exact hc1 e he
  rw [bucketStep_eq] at hbk
  split at hbk
  · obtain ⟨e, he, rfl⟩ := List.mem_map.1 hbk
    by_cases hid : (e.1 == groupIdOf b.item) = true
    · rw [if_pos hid]
      dsimp only
      rw [putBlk_fresh (fun x hx => hfresh x (by rw [hc1 e he] at hx; exact (List.mem_filter.1 hx).1)), hfil,
        if_pos (by rw [eq_of_beq hid]; exact beq_self_eq_true _), ← hc1 e he]
    · rw [if_neg hid]
      exact hother e he (fun e' => hid (beq_iff_eq.2 e'))
  · next hnone =>
    simp only [List.any_eq_true, beq_iff_eq, not_exists, not_and] at hnone
    rcases List.mem_append.1 hbk with hbk | hbk
    · exact hother bk hbk (hnone bk hbk)
    · rw [List.mem_singleton.1 hbk, hfil, if_pos (beq_self_eq_true _)]
      have : pre.filter (fun x => groupIdOf x.item == groupIdOf b.item) = [] :=
        List.filter_eq_nil_iff.2 (fun x hx hc => by
          obtain ⟨e, he, hid⟩ := List.mem_map.1 ((hc2 _).2 ⟨x, hx, eq_of_beq hc⟩)
          exact hnone e he hid)
      rw [this]; rfl

theorem mkBuckets_char (bs : List Blk) (hnd : (bs.map (·.item)).Nodup) : BucketsChar bs (mkBuckets bs) := by
  refine foldl_prefix_inv bucketStep (fun pre acc => (pre.map (·.item)).Nodup → BucketsChar pre acc) bs [] [] ?_
    (fun _ => ⟨fun _ he => (List.not_mem_nil he).elim, fun id => by simp⟩) hnd
  intro b _ pre acc h hn
  rw [List.map_append, List.nodup_append] at hn
  refine bucketStep_char (h hn.1) (fun x hx e => hn.2.2 _ (List.mem_map_of_mem hx) _ (List.mem_singleton.2 rfl) e)

theorem mkBuckets_single {gid : T} (b1 : Blk) (other : List Blk) (hid : ∀ b ∈ b1 :: other, groupIdOf b.item = gid)
    (hnd : ((b1 :: other).map (·.item)).Nodup) : mkBuckets (b1 :: other) = [(gid, b1 :: other)] := by
  obtain ⟨c1, c2⟩ := mkBuckets_char _ hnd
  have hn := mkBuckets_ids_nodup (b1 :: other)
  have hall : ∀ e ∈ mkBuckets (b1 :: other), e = (gid, b1 :: other) := by
    intro e he
    obtain ⟨x, hx, hxe⟩ := (c2 e.1).1 (List.mem_map_of_mem he)
    have h1 : e.1 = gid := hxe ▸ hid x hx
    have h2 := c1 e he
    rw [List.filter_eq_self.2 (fun y hy => by rw [hid y hy, h1]; exact beq_self_eq_true _)] at h2
    exact Prod.ext h1 h2
  cases hm : mkBuckets (b1 :: other) with
  | nil => rw [hm] at c2; simpa using (c2 gid).2 ⟨b1, List.mem_cons_self, hid b1 List.mem_cons_self⟩
  | cons e l =>
    rw [hm] at hall hn
    cases l with
    | nil => rw [hall e List.mem_cons_self]
    | cons e' _ =>
      rw [hall e List.mem_cons_self, hall e' (List.mem_cons_of_mem _ List.mem_cons_self)] at hn
      simp at hn

theorem bucketStep_append (acc0 acc : List (T × List Blk)) (b : Blk)
    (h : ∀ e ∈ acc0, e.1 ≠ groupIdOf b.item) : bucketStep (acc0 ++ acc) b = acc0 ++ bucketStep acc b := by
  have h0 : acc0.any (fun e => e.1 == groupIdOf b.item) = false := by simpa using h
  have hmap : acc0.map (fun e => if e.1 == groupIdOf b.item then (e.1, putBlk e.2 b) else e) = acc0 :=
    (List.map_congr_left (fun e he => if_neg (by simpa using h e he))).trans (List.map_id' _)
  rw [bucketStep_eq, bucketStep_eq, List.any_append, h0, Bool.false_or]
  split
  · rw [List.map_append, hmap]
  · rw [List.append_assoc]

theorem foldl_bucketStep_append : ∀ (bs : List Blk) (acc0 acc : List (T × List Blk)),
    (∀ b ∈ bs, ∀ e ∈ acc0, e.1 ≠ groupIdOf b.item) →
    bs.foldl bucketStep (acc0 ++ acc) = acc0 ++ bs.foldl bucketStep acc
  | [], _, _, _ => rfl
  | b :: bs, acc0, acc, h => by
      rw [List.foldl_cons, List.foldl_cons, bucketStep_append acc0 acc b (h b (by simp))]
      exact foldl_bucketStep_append bs acc0 _ (fun x hx => h x (List.mem_cons_of_mem _ hx))

theorem mkBuckets_append (bs1 bs2 : List Blk)
    (h : ∀ b1 ∈ bs1, ∀ b2 ∈ bs2, groupIdOf b1.item ≠ groupIdOf b2.item) :
    mkBuckets (bs1 ++ bs2) = mkBuckets bs1 ++ mkBuckets bs2 := by
  rw [mkBuckets_eq, List.foldl_append, ← mkBuckets_eq, ← List.append_nil (mkBuckets bs1),
    foldl_bucketStep_append bs2 (mkBuckets bs1) [], List.append_nil, ← mkBuckets_eq]
  intro b hb e he heq
  obtain ⟨x, hx, hxe⟩ := (mkBuckets_ids bs1 e.1).1 (List.mem_map_of_mem he)
  exact h x hx b hb (hxe.trans heq)

theorem impls_mem {env : Env} {id : T} {b : Blk} (h : b ∈ env.impls id) :
    ∃ bk ∈ env.buckets, bk.1 = id ∧ b ∈ bk.2 := by
  unfold Env.impls at h
  split at h
  · next bk hf =>
    have hp : (bk.1 == id) = true := by simpa using List.find?_some hf
    exact ⟨bk, List.mem_of_find?_eq_some hf, eq_of_beq hp, h⟩
  · cases h

/-! ### Three instances: aligned rows, the members' headers, the members' buckets -/

/-- rows are aligned with members: every key of the group has one row per member -/
def RowsAligned (e : T × ABG × List Blk) : Prop := ∀ kr ∈ e.2.1.bounds, kr.2.length = e.2.2.length

theorem rowsAligned_inv (env : Env) : SearchInv env RowsAligned (fun _ _ => True) where
  fresh id b _ := by intro kr hkr; simpa using new_rows b kr hkr
  join gid abg ms currId curr σ inter hg _ _ hinter := by
    intro kr hkr
    obtain ⟨k', rows, r, hk', he⟩ := intersection_rows hinter kr hkr
    have := hg _ hk'
    simp only at this ⊢
    rw [he]; simp [this]
  impls _ _ _ := trivial

/-- every member's header is the group's header or one the group's header generalises (recorded in `subsets`) -/
def MembersGeneralised (env : Env) (e : T × ABG × List Blk) : Prop :=
  ∀ b ∈ e.2.2, groupIdOf b.item = e.1 ∨ ∃ σ, (groupIdOf b.item, σ) ∈ env.subsets.get e.1

theorem membersGeneralised_inv (env : Env) (hw : BucketsWF env.buckets) :
    SearchInv env (MembersGeneralised env) (fun id b => groupIdOf b.item = id) where
  fresh id b hb := by
    intro x hx
    simp only [List.mem_singleton] at hx
    rw [hx]; exact Or.inl hb
  join gid abg ms currId curr σ inter hg hb hjoin _ := by
    intro x hx
    simp only at hx ⊢
    rcases List.mem_append.1 hx with hx | hx
    · exact hg x hx
    · simp only [List.mem_singleton] at hx
      rw [hx, hb]
      rcases hjoin with ⟨σ', hσ'⟩ | h
      · exact Or.inr ⟨σ', hσ'⟩
      · exact Or.inl h.symm
  impls id b hb := by
    obtain ⟨bk, hbk, hid, hmem⟩ := impls_mem hb
    rw [← hid]; exact hw bk hbk b hmem

/-- every member is a block of some bucket -/
def MembersFromBuckets (env : Env) (e : T × ABG × List Blk) : Prop := ∀ b ∈ e.2.2, ∃ bk ∈ env.buckets, b ∈ bk.2

theorem membersFromBuckets_inv (env : Env) :
    SearchInv env (MembersFromBuckets env) (fun _ b => ∃ bk ∈ env.buckets, b ∈ bk.2) where
  fresh id b hb := by
    intro x hx
    simp only [List.mem_singleton] at hx
    rw [hx]; exact hb
  join gid abg ms currId curr σ inter hg hb _ _ := by
    intro x hx
    simp only at hx
    rcases List.mem_append.1 hx with hx | hx
    · exact hg x hx
    · simp only [List.mem_singleton] at hx
      rw [hx]; exact hb
  impls id b hb := by
    obtain ⟨bk, hbk, _, hmem⟩ := impls_mem hb
    exact ⟨bk, hbk, hmem⟩


/-- a group of an accepted grouping is the pruned form of a group `e0` of a search candidate (`parseGroups_group`),
    and `e0` satisfies every invariant of the search -/
theorem parseGroups_group'' {rawItems : List T} {groups : Groups} (h : parseGroups rawItems = .ok groups)
    {e : T × ABG × List Blk} (he : e ∈ groups) {GP BP} (H : SearchInv' (parseEnv rawItems) GP BP) :
    ∃ e0, GP e0 ∧ e = (e0.1, e0.2.1.prune, e0.2.2) ∧ e.2.1.bounds ≠ [] ∧ e.2.1.isOverlapping = false := by
  obtain ⟨r, sup, cands, sup', cand, hs, hcand, e0, he0, rest⟩ := parseGroups_group h he
  exact ⟨e0, search_root_inv' H hs cand hcand e0 he0, rest⟩

theorem parseGroups_group' {rawItems : List T} {groups : Groups} (h : parseGroups rawItems = .ok groups)
    {e : T × ABG × List Blk} (he : e ∈ groups) {GP BP} (H : SearchInv (parseEnv rawItems) GP BP) :
    ∃ e0, GP e0 ∧ e = (e0.1, e0.2.1.prune, e0.2.2) ∧ e.2.1.bounds ≠ [] ∧ e.2.1.isOverlapping = false :=
  parseGroups_group'' h he H.toPrime

theorem isOverlapping_false {g : ABG} (h : g.isOverlapping = false) :
    ∀ (i j : Nat) (a b : List (Option T)), i ≠ j → g.payloads[i]? = some a → g.payloads[j]? = some b → rowGeneralises a b = false := by
  intro i j a b hij ha hb
  unfold ABG.isOverlapping at h
  simp only [List.any_eq_false, List.mem_range, Bool.and_eq_true, bne_iff_ne, ne_eq, not_and,
    Bool.not_eq_true] at h
  have hi : i < g.payloads.length := (List.getElem?_eq_some_iff.1 ha).1
  have hj : j < g.payloads.length := (List.getElem?_eq_some_iff.1 hb).1
  have := h i hi j hj hij
  rw [ha, hb] at this
  exact this


/-! ### Members and headers of a candidate: placing a block adds it once and keeps the headers distinct -/

def Groups.mem (g : Groups) : List Blk := g.flatMap (fun e => e.2.2)
def Groups.ids (g : Groups) : List T := g.map (fun e => e.1)

theorem setGroup_ids (gs : Groups) (id : T) (v : ABG × List Blk) : (setGroup gs id v).ids = gs.ids := by
  simp only [Groups.ids, setGroup, List.map_map]
  apply List.map_congr_left
  intro e _
  simp only [Function.comp]
  split <;> rfl

theorem setGroup_noop : ∀ (gs : Groups) (id : T) (v : ABG × List Blk), id ∉ gs.ids → setGroup gs id v = gs
  | [], _, _, _ => rfl
  | e :: gs, id, v, h => by
      simp only [Groups.ids, List.map_cons, List.mem_cons, not_or] at h
      simp only [setGroup, List.map_cons]
      rw [if_neg (by intro hc; exact h.1 (eq_of_beq hc).symm)]
      have := setGroup_noop gs id v h.2
      simp only [setGroup] at this
      rw [this]

theorem setGroup_mem_perm : ∀ (gs : Groups) (ge : T × ABG × List Blk) (x : ABG) (curr : Blk),
    gs.ids.Nodup → ge ∈ gs → (setGroup gs ge.1 (x, ge.2.2 ++ [curr])).mem.Perm (gs.mem ++ [curr])
  | [], _, _, _, _, h => by cases h
  | e :: gs, ge, x, curr, hn, hge => by
      simp only [Groups.ids, List.map_cons, List.nodup_cons] at hn
      by_cases hid : e.1 = ge.1
      · -- the head is the group
        have hee : ge = e := by
          rcases List.mem_cons.1 hge with h | h
          · exact h
          · exact absurd (List.mem_map.2 ⟨ge, h, hid.symm⟩) hn.1
        subst hee
        have hrest : setGroup gs ge.1 (x, ge.2.2 ++ [curr]) = gs := setGroup_noop gs _ _ hn.1
        have : setGroup (ge :: gs) ge.1 (x, ge.2.2 ++ [curr]) = (ge.1, x, ge.2.2 ++ [curr]) :: gs := by
          have h2 := hrest
          simp only [setGroup] at h2 ⊢
          rw [List.map_cons, h2]; simp
        rw [this]
        simp only [Groups.mem, List.flatMap_cons, List.append_assoc]
        exact List.Perm.append_left _ List.perm_append_comm
      · have hge' : ge ∈ gs := by
          rcases List.mem_cons.1 hge with h | h
          · exact absurd (by rw [h]) hid
          · exact h
        have ih := setGroup_mem_perm gs ge x curr hn.2 hge'
        have : setGroup (e :: gs) ge.1 (x, ge.2.2 ++ [curr]) = e :: setGroup gs ge.1 (x, ge.2.2 ++ [curr]) := by
          simp only [setGroup, List.map_cons]
          rw [if_neg (by intro hc; exact hid (eq_of_beq hc))]
        rw [this]
        simp only [Groups.mem, List.flatMap_cons, List.append_assoc] at ih ⊢
        exact List.Perm.append_left _ ih

theorem Place.placed {env : Env} {id : T} {b : Blk} {gs gs' : Groups} (h : Place env id b gs gs') (hn : gs.ids.Nodup) :
    gs'.ids.Nodup ∧ gs'.mem.Perm (gs.mem ++ [b]) := by
  cases h with
  | join hge _ _ => exact ⟨by rw [setGroup_ids]; exact hn, setGroup_mem_perm gs _ _ b hn hge⟩
  | fresh hnone =>
    refine ⟨?_, by simp [Groups.mem]⟩
    simp only [Groups.ids, List.map_append, List.map_cons, List.map_nil]
    rw [List.nodup_append]
    refine ⟨hn, by simp, fun a ha c hc => ?_⟩
    rw [List.mem_singleton.1 hc]
    intro e
    obtain ⟨x, hx, rfl⟩ := List.mem_map.1 ha
    have := List.any_eq_false.1 hnone x hx
    exact this (by rw [e]; simp)

/-- placing blocks keeps the headers of a candidate distinct and adds exactly the placed blocks as members -/
theorem Places.placed {env : Env} {steps : List (T × Blk)} {gs g : Groups} (h : Places env steps gs g)
    (hn : gs.ids.Nodup) : g.ids.Nodup ∧ g.mem.Perm (gs.mem ++ steps.map (·.2)) := by
  induction h with
  | nil => exact ⟨hn, by simp⟩
  | @cons id b steps gs gs' g hp _ ih =>
    obtain ⟨h1, h2⟩ := hp.placed hn
    obtain ⟨h3, h4⟩ := ih h1
    refine ⟨h3, h4.trans ?_⟩
    have := h2.append_right (steps.map (·.2))
    simpa using this

theorem find_bucket {l : List (T × List Blk)} (hn : (l.map (·.1)).Nodup) {bk : T × List Blk} (hb : bk ∈ l) :
    l.find? (fun b => b.1 == bk.1) = some bk := by
  induction l with
  | nil => cases hb
  | cons e l ih =>
    simp only [List.map_cons, List.nodup_cons] at hn
    rw [List.find?_cons]
    rcases List.mem_cons.1 hb with h | h
    · rw [h]; simp
    · have : (e.1 == bk.1) = false := by
        cases hc : (e.1 == bk.1) with
        | false => rfl
        | true => exact absurd (List.mem_map.2 ⟨bk, h, (eq_of_beq hc).symm⟩) hn.1
      rw [this]; exact ih hn.2 h

theorem impls_of_bucket {env : Env} (hn : (env.buckets.map (·.1)).Nodup) {bk : T × List Blk} (hb : bk ∈ env.buckets) :
    env.impls bk.1 = bk.2 := by
  unfold Env.impls
  rw [find_bucket hn hb]

/-- the generalisation pairs `make_sets` computes -/
def msPairs (ids : List T) : List (T × T × Subst) :=
  ids.zipIdx.flatMap (fun g1 => ids.zipIdx.filterMap (fun g2 =>
    if g1.1 == g2.1 then none else match sup g1.1 g2.1 with
      | .yes σ _ => if g1.2 > g2.2 && supYes g2.1 g1.1 then none else some (g1.1, g2.1, σ)
      | _ => none))

theorem makeSets_eq (ids : List T) : makeSets ids =
    (ids.map (fun id => (id, ((msPairs ids).filter (fun p => p.2.1 == id)).length)),
     ids.map (fun id => (id, ((msPairs ids).filter (fun p => p.1 == id)).map (fun p => (p.2.1, p.2.2))))) := rfl

theorem supYes_iff {a b : T} : supYes a b = true ↔ ∃ σ l, sup a b = .yes σ l := by
  unfold supYes
  constructor
  · intro h
    split at h
    · next σ l hs => exact ⟨σ, l, hs⟩
    · cases h
  · rintro ⟨σ, l, hs⟩; rw [hs]

/-- a pair is recorded when the first header generalises the second, different one; of two headers that generalise
    each other only the earlier one is recorded as the generaliser -/
theorem mem_msPairs {ids : List T} {p : T × T × Subst} : p ∈ msPairs ids ↔
    ∃ (i j : Nat) (l : Bool), ids[i]? = some p.1 ∧ ids[j]? = some p.2.1 ∧ p.1 ≠ p.2.1 ∧ sup p.1 p.2.1 = .yes p.2.2 l ∧
      ¬ (i > j ∧ supYes p.2.1 p.1 = true) := by
  simp only [msPairs, List.mem_flatMap, List.mem_filterMap, List.mem_zipIdx_iff_getElem?]
  constructor
  · rintro ⟨⟨g1, i⟩, h1, ⟨g2, j⟩, h2, hp⟩
    dsimp only at h1 h2 hp
    split at hp
    · cases hp
    · next hne =>
      split at hp
      · next σ l hs =>
        split at hp
        · cases hp
        · next hc =>
          cases hp
          exact ⟨i, j, l, h1, h2, by simpa using hne, hs, by simpa using hc⟩
      · cases hp
  · rintro ⟨i, j, l, h1, h2, hne, hs, hc⟩
    refine ⟨(p.1, i), h1, (p.2.1, j), h2, ?_⟩
    dsimp only
    rw [if_neg (by simpa using hne), hs]
    dsimp only
    rw [if_neg (by simpa using hc)]

theorem msPairs_fst_mem {ids : List T} {p : T × T × Subst} (h : p ∈ msPairs ids) : p.1 ∈ ids := by
  obtain ⟨i, _, _, hi, _⟩ := mem_msPairs.1 h
  exact List.mem_of_getElem? hi

theorem msPairs_snd_mem {ids : List T} {p : T × T × Subst} (h : p ∈ msPairs ids) : p.2.1 ∈ ids := by
  obtain ⟨_, j, _, _, hj, _⟩ := mem_msPairs.1 h
  exact List.mem_of_getElem? hj

/-- `make_sets` records no pair iff no header generalises a different one -/
theorem msPairs_nil_iff {ids : List T} :
    msPairs ids = [] ↔ ∀ g1 ∈ ids, ∀ g2 ∈ ids, (g1 == g2) = false → supYes g1 g2 = false := by
  constructor
  · intro hn g1 h1 g2 h2 hne
    cases hs : supYes g1 g2 with
    | false => rfl
    | true =>
      exfalso
      have hne' : g1 ≠ g2 := by simpa using hne
      obtain ⟨i1, hi1⟩ := List.mem_iff_getElem?.1 h1
      obtain ⟨i2, hi2⟩ := List.mem_iff_getElem?.1 h2
      obtain ⟨σ, l, hσ⟩ := supYes_iff.1 hs
      -- one of the two directions is recorded
      by_cases hc : i1 > i2 ∧ supYes g2 g1 = true
      · obtain ⟨σ', l', hσ'⟩ := supYes_iff.1 hc.2
        have : (g2, g1, σ') ∈ msPairs ids :=
          mem_msPairs.2 ⟨i2, i1, l', hi2, hi1, hne'.symm, hσ', fun h => Nat.lt_asymm h.1 hc.1⟩
        rw [hn] at this; cases this
      · have : (g1, g2, σ) ∈ msPairs ids := mem_msPairs.2 ⟨i1, i2, l, hi1, hi2, hne', hσ, hc⟩
        rw [hn] at this; cases this
  · intro h
    apply List.eq_nil_iff_forall_not_mem.2
    intro p hp
    obtain ⟨_, _, l, _, _, hne, hs, _⟩ := mem_msPairs.1 hp
    have := h p.1 (msPairs_fst_mem hp) p.2.1 (msPairs_snd_mem hp) (by simpa using hne)
    rw [supYes_iff.2 ⟨_, l, hs⟩] at this; cases this

theorem find?_map_key {β : Type} (F : T → β) (g : T) : ∀ (ids : List T),
    (ids.map (fun id => (id, F id))).find? (fun e => e.1 == g) = if g ∈ ids then some (g, F g) else none
  | [] => rfl
  | x :: ids => by
      rw [List.map_cons, List.find?_cons]
      by_cases hx : x = g
      · rw [hx, beq_self_eq_true, if_pos List.mem_cons_self]
      · rw [beq_false_of_ne hx, find?_map_key F g ids]
        have hg : g ≠ x := fun h => hx h.symm
        simp only [List.mem_cons, hg, false_or]

theorem subsets_get_map (F : T → List (T × Subst)) (ids : List T) (g : T) :
    Subsets.get (ids.map (fun id => (id, F id))) g = if g ∈ ids then F g else [] := by
  unfold Subsets.get
  rw [find?_map_key]
  by_cases h : g ∈ ids
  · rw [if_pos h, if_pos h]
  · rw [if_neg h, if_neg h]

theorem supersets_get_map (F : T → Nat) (ids : List T) (g : T) :
    Supersets.get (ids.map (fun id => (id, F id))) g = if g ∈ ids then F g else 0 := by
  unfold Supersets.get
  rw [find?_map_key]
  by_cases h : g ∈ ids
  · rw [if_pos h, if_pos h]
  · rw [if_neg h, if_neg h]

/-- the headers recorded as generalised by `g` -/
theorem subsets_get_makeSets' (ids : List T) (g : T) : (makeSets ids).2.get g =
    if g ∈ ids then ((msPairs ids).filter (fun p => p.1 == g)).map (fun p => (p.2.1, p.2.2)) else [] := by
  rw [makeSets_eq]
  exact subsets_get_map _ ids g

theorem supersets_get_makeSets (ids : List T) (x : T) :
    (makeSets ids).1.get x = if x ∈ ids then ((msPairs ids).filter (fun p => p.2.1 == x)).length else 0 := by
  rw [makeSets_eq]
  exact supersets_get_map _ ids x

/-- `make_sets` records a pair only when the matcher said yes -/
theorem makeSets_subsets {ids : List T} {g1 g2 : T} {σ : Subst} (h : (g2, σ) ∈ (makeSets ids).2.get g1) :
    g1 ≠ g2 ∧ ∃ l, sup g1 g2 = .yes σ l := by
  rw [subsets_get_makeSets'] at h
  split at h
  · obtain ⟨p, hp, hpe⟩ := List.mem_map.1 h
    obtain ⟨hp1, hp2⟩ := List.mem_filter.1 hp
    obtain ⟨_, _, l, _, _, hne, hs, _⟩ := mem_msPairs.1 hp1
    cases hpe
    rw [← eq_of_beq hp2]
    exact ⟨hne, l, hs⟩
  · cases h

theorem subsets_get_makeSets (ids : List T) (g : T) :
    ((makeSets ids).2.get g).map (·.1) = ((msPairs ids).filter (fun p => p.1 == g)).map (fun p => p.2.1) := by
  rw [subsets_get_makeSets']
  split
  · rw [List.map_map]; rfl
  · next hnot =>
    have : (msPairs ids).filter (fun p => p.1 == g) = [] :=
      List.filter_eq_nil_iff.2 (fun p hp hc => hnot (eq_of_beq hc ▸ msPairs_fst_mem hp))
    rw [this]; rfl

/-- no header generalises another one: `make_sets` finds no pair -/
theorem msPairs_nil_of_no_subsets {ids : List T} (h : ∀ id, (makeSets ids).2.get id = []) : msPairs ids = [] := by
  apply List.eq_nil_iff_forall_not_mem.2
  intro p hp
  have hp' : (p.2.1, p.2.2) ∈ (makeSets ids).2.get p.1 := by
    rw [subsets_get_makeSets', if_pos (msPairs_fst_mem hp)]
    exact List.mem_map.2 ⟨p, List.mem_filter.2 ⟨hp, beq_self_eq_true p.1⟩, rfl⟩
  rw [h] at hp'; cases hp'

theorem no_subsets_of_msPairs_nil {items : List T}
    (hp : msPairs ((mkBuckets (items.map mkBlk)).map (·.1)) = []) : ∀ id, (parseEnv items).subsets.get id = [] := by
  intro id
  show (makeSets _).2.get id = []
  rw [subsets_get_makeSets', hp]
  split <;> rfl

theorem roots_of_no_subsets {ids : List T} (h : ∀ id, (makeSets ids).2.get id = []) :
    (((makeSets ids).1).filter (fun e => e.2 == 0)).map (·.1) = ids := by
  rw [makeSets_eq, msPairs_nil_of_no_subsets h]
  simp only [List.filter_nil, List.length_nil]
  rw [List.filter_eq_self.2 (by intro a ha; obtain ⟨id, _, rfl⟩ := List.mem_map.1 ha; rfl), List.map_map]
  exact List.map_id _


theorem filterCandidate_mem {cand p : Groups} (h : filterCandidate cand = some p) : p.mem = cand.mem := by
  rw [(filterCandidate_some h).1]
  simp [Groups.mem, List.flatMap_map]

/-! ### One bucket, one key (C03) -/

theorem substituteBound_identity (σ : Subst) (h : allIdentity σ = true) (b tr : T) :
    substituteBound σ b tr = [(b, tr)] := by
  have hr : ∀ t, revSub (reverseMap σ) t = [t] :=
    revSub_of_no_hit _ (fun _ hv => reverseMap_find_identity h hv)
  simp [substituteBound, hr]

theorem keyEq_self {bounded tr : T} (h : wfPath tr = true) : keyEq (bounded, tr) (bounded, tr) = true := by
  have : tbEq tr tr = .t := by rw [tbEq_eq h h]; simp
  simp [keyEq, this]

/-- the block has exactly one trait bound `bounded: tr<a = p>` -/
def SingleBound (bounded tr : T) (a : String) (p : T) (b : Blk) : Prop :=
  ∃ mb, b.raw = [⟨bounded, tr, [(a, p)], mb⟩]

/-- the trait path stored with the key after the blocks have joined: the one of the last block -/
def lastTr (trOf : Blk → T) : T → List Blk → T
  | tr0, [] => tr0
  | _, b :: rest => lastTr trOf (trOf b) rest

theorem lastTr_mem (trOf : Blk → T) : ∀ (tr0 : T) (impls : List Blk), lastTr trOf tr0 impls ∈ tr0 :: impls.map trOf
  | tr0, [] => by simp [lastTr]
  | tr0, b :: rest => by
      have := lastTr_mem trOf (trOf b) rest
      simp only [lastTr, List.map_cons]
      exact List.mem_cons_of_mem _ this

theorem dedupStr_const {a : String} : ∀ (l : List String), (∀ x ∈ l, x = a) → l ≠ [] → dedupStr l = [a] := by
  intro l hl hne
  have key : ∀ (l : List String), (∀ x ∈ l, x = a) →
      l.foldl (fun acc x => if acc.contains x then acc else acc ++ [x]) [a] = [a] := by
    intro l
    induction l with
    | nil => intro _; rfl
    | cons x l ih =>
      intro h
      rw [List.foldl_cons, h x (by simp)]
      simp only [List.contains_cons, beq_self_eq_true, Bool.true_or, if_true]
      exact ih (fun y hy => h y (List.mem_cons_of_mem _ hy))
  cases l with
  | nil => exact absurd rfl hne
  | cons x l =>
    unfold dedupStr
    rw [List.foldl_cons, hl x (by simp)]
    simp only [List.contains_nil, Bool.false_eq_true, if_false, List.nil_append]
    exact key l (fun y hy => hl y (List.mem_cons_of_mem _ hy))

theorem payloads_single {bounded tr : T} {a : String} {u : List T} (hk : keyEq (bounded, tr) (bounded, tr) = true)
    (ps : List T) (hne : ps ≠ []) :
    (ABG.mk [((bounded, tr), ps.map (fun p => [(a, p)]))] u).payloads = ps.map (fun p => [some p]) := by
  have hid : (ABG.mk [((bounded, tr), ps.map (fun p => [(a, p)]))] u).idents = [((bounded, tr), a)] := by
    simp only [ABG.idents, List.flatMap_cons, List.flatMap_nil, List.append_nil]
    rw [dedupStr_const (a := a)]
    · rfl
    · intro x hx
      simp only [List.mem_flatMap, List.mem_map] at hx
      obtain ⟨r, ⟨p, _, rfl⟩, e, he, rfl⟩ := hx
      simp only [List.mem_singleton] at he
      rw [he]
    · cases ps with
      | nil => exact absurd rfl hne
      | cons p ps => simp
  unfold ABG.payloads
  simp only [hid, List.map_cons, List.map_nil, findKey, hk, if_true, List.length_map]
  apply List.ext_getElem
  · simp
  · intro i h1 h2
    simp only [List.getElem_map, List.getElem_range]
    simp only [List.length_map, List.length_range] at h1
    rw [List.getElem?_eq_getElem (by simpa using h1)]
    simp [rowLookup]

/-- no payload generalises another one -/
def NonGen (ps : List T) : Prop :=
  ∀ (i j : Nat) (x y : T), i ≠ j → ps[i]? = some x → ps[j]? = some y →
    (match sup x y with | .yes _ _ => true | _ => false) = false

theorem isOverlapping_single {bounded tr : T} {a : String} {u : List T}
    (hk : keyEq (bounded, tr) (bounded, tr) = true) (ps : List T) (hne : ps ≠ []) (hng : NonGen ps) :
    (ABG.mk [((bounded, tr), ps.map (fun p => [(a, p)]))] u).isOverlapping = false := by
  unfold ABG.isOverlapping
  simp only [payloads_single hk ps hne]
  simp only [List.any_eq_false, List.mem_range, List.length_map, Bool.and_eq_true, bne_iff_ne, ne_eq, not_and,
    Bool.not_eq_true]
  intro i hi j hj hij
  rw [List.getElem?_eq_getElem (by simpa using hi), List.getElem?_eq_getElem (by simpa using hj)]
  have := hng i j ps[i] ps[j] hij (List.getElem?_eq_getElem hi) (List.getElem?_eq_getElem hj)
  simp only [List.getElem_map, rowGeneralises, List.length_cons, List.length_nil, beq_self_eq_true, List.zip_cons_cons,
    List.zip_nil_right, List.all_cons, List.all_nil, Bool.and_true, Bool.true_and]
  exact this

theorem chooseCandidate_single (g : Groups) : chooseCandidate [g] = some g := rfl

/-- `sup id id` answers yes with identity bindings only -/
def selfIdentity (id : T) : Bool := match sup id id with | .yes σ _ => allIdentity σ | _ => false

theorem selfIdentity_spec {gid : T} (h : selfIdentity gid = true) :
    ∃ σ l, sup gid gid = .yes σ l ∧ allIdentity σ = true := by
  unfold selfIdentity at h
  split at h
  · next σ l hs => exact ⟨σ, l, hs, h⟩
  · cases h

/-- executable form of `NonGen` -/
def nonGenB (ps : List T) : Bool :=
  (List.range ps.length).all (fun i => (List.range ps.length).all (fun j => i == j ||
    (match ps[i]?, ps[j]? with
     | some x, some y => !(match sup x y with | .yes _ _ => true | _ => false)
     | _, _ => true)))

theorem nonGen_of_nonGenB {ps : List T} (h : nonGenB ps = true) : NonGen ps := by
  intro i j x y hij hx hy
  have hi : i < ps.length := (List.getElem?_eq_some_iff.1 hx).1
  have hj : j < ps.length := (List.getElem?_eq_some_iff.1 hy).1
  simp only [nonGenB, List.all_eq_true, List.mem_range, Bool.or_eq_true, beq_iff_eq] at h
  rcases h i hi j hj with h1 | h1
  · exact absurd h1 hij
  · rw [hx, hy] at h1
    simpa using h1


/-! ### The order in which headers are processed, as a function of the counters alone -/

/-- the headers processed by the driver loop, root by root, with the counters threaded -/
def traceGo (env : Env) (fuel : Nat) : List T → Supersets → Option (List T)
  | [], _ => some []
  | r :: rest, sup =>
      match traceRec env (2 * fuel) r (env.impls r).length sup with
      | none => none
      | some (ids, sup') => (traceGo env fuel rest sup').map (fun tl => r :: ids ++ tl)

theorem go_trace (env : Env) (fuel : Nat) : ∀ (roots : List T) (sup : Supersets) (acc groups : Groups),
    parseGroups.go env fuel roots sup acc = .ok groups →
    ∃ tr, traceGo env fuel roots sup = some tr ∧ groups.mem.Perm (acc.mem ++ tr.flatMap env.impls)
  | [], sup, acc, groups, h => by
      rw [parseGroups.go] at h
      cases h
      exact ⟨[], rfl, by simp⟩
  | r :: rest, sup, acc, groups, h => by
      rw [parseGroups.go] at h
      split at h
      · cases h
      · next cands sup' hs =>
        split at h
        · cases h
        · next g hg =>
          obtain ⟨ids, ht, _, hpl⟩ := (search_trace env _).1 _ _ _ _ _ _ hs
          obtain ⟨cand, hcand, hfc⟩ := List.mem_filterMap.1 (chooseCandidate_mem hg)
          have hgm : g.mem.Perm (env.impls r ++ ids.flatMap env.impls) := by
            rw [filterCandidate_mem hfc]
            simpa [Groups.mem, Function.comp_def, List.map_flatMap, headerBlocks] using
              ((hpl cand hcand).placed (by simp [Groups.ids])).2
          obtain ⟨tl, htl, hp⟩ := go_trace env fuel rest sup' (acc ++ g) groups h
          refine ⟨r :: ids ++ tl, by simp [traceGo, ht, htl], hp.trans ?_⟩
          have e1 : Groups.mem (acc ++ g) = acc.mem ++ g.mem := by simp [Groups.mem]
          rw [e1]
          simp only [List.cons_append, List.flatMap_cons, List.flatMap_append, List.append_assoc]
          exact List.Perm.append_left _ (List.Perm.append_right _ hgm |>.trans (by simp))

/-- the order in which `parseGroups` processes the headers (`none`: out of fuel) -/
def parseTrace (rawItems : List T) : Option (List T) :=
  traceGo (parseEnv rawItems) (parseFuel rawItems) (parseRoots rawItems)
    (makeSets ((mkBuckets (rawItems.map mkBlk)).map (·.1))).1

theorem parseGroups_trace {rawItems : List T} {groups : Groups} (h : parseGroups rawItems = .ok groups) :
    ∃ tr, parseTrace rawItems = some tr ∧
      (groups.flatMap (fun e => e.2.2)).Perm (tr.flatMap (parseEnv rawItems).impls) := by
  rw [parseGroups_eq_go] at h
  obtain ⟨tr, ht, hp⟩ := go_trace _ _ _ _ _ _ h
  refine ⟨tr, ht, ?_⟩
  have hp2 := hp
  simp only [Groups.mem, List.flatMap_nil, List.nil_append] at hp2
  exact hp2

/-- executable check: the processed headers are exactly the headers of the buckets, each once -/
def traceCovers (rawItems : List T) : Bool :=
  match parseTrace rawItems with
  | some tr => tr.isPerm ((mkBuckets (rawItems.map mkBlk)).map (·.1))
  | none => false

/-- partition, reduced to the counters: if every header is processed exactly once, every block is placed exactly once -/
theorem parseGroups_partition_of_trace {rawItems : List T} {groups : Groups} (h : parseGroups rawItems = .ok groups)
    (hc : traceCovers rawItems = true) :
    (groups.flatMap (fun e => e.2.2)).Perm ((mkBuckets (rawItems.map mkBlk)).flatMap (fun bk => bk.2)) := by
  obtain ⟨tr, ht, hp⟩ := parseGroups_trace h
  unfold traceCovers at hc
  rw [ht] at hc
  have hperm := List.isPerm_iff.1 hc
  refine hp.trans ((List.Perm.flatMap_right _ hperm).trans ?_)
  rw [List.flatMap_map]
  have hn := mkBuckets_ids_nodup (rawItems.map mkBlk)
  have : ∀ (l : List (T × List Blk)), (∀ bk ∈ l, (parseEnv rawItems).impls bk.1 = bk.2) →
      l.flatMap (fun a => (parseEnv rawItems).impls a.1) = l.flatMap (fun bk => bk.2) := by
    intro l hl
    induction l with
    | nil => rfl
    | cons a l ih =>
      rw [List.flatMap_cons, List.flatMap_cons, hl a (by simp), ih (fun bk hbk => hl bk (List.mem_cons_of_mem _ hbk))]
  rw [this (mkBuckets (rawItems.map mkBlk)) (fun bk hbk => impls_of_bucket (env := parseEnv rawItems) hn hbk)]


/-! ### The search without nested headers, as a plain recursion over the blocks of one bucket -/

/-- the candidates for one bucket when no header generalises another one -/
def flatSearch (c : T) : List Blk → Groups → Except SearchErr (List Groups)
  | [], groups => .ok [groups]
  | curr :: other, groups =>
      let tryGroups := groups.foldl (fun (st : Except SearchErr (List Groups)) ge =>
        match st with
        | .error e => .error e
        | .ok acc =>
          if ge.1 == c then
            (match sup ge.1 c with
             | .yes σ _ =>
                (ge.2.1.intersection curr σ).foldl (fun (st2 : Except SearchErr (List Groups)) inter =>
                  match st2 with
                  | .error e => .error e
                  | .ok acc2 =>
                    match flatSearch c other (setGroup groups ge.1 (inter, ge.2.2 ++ [curr])) with
                    | .error e => .error e
                    | .ok res => .ok (acc2 ++ res)) (.ok acc)
             | _ => .error .unwrapNone)
          else .ok acc) (.ok [])
      match tryGroups with
      | .error e => .error e
      | .ok acc =>
        if groups.any (fun ge => ge.1 == c) then .ok acc
        else match flatSearch c other (groups ++ [(c, ABG.new curr, [curr])]) with
          | .error e => .error e
          | .ok res => .ok (acc ++ res)

def withSup (sup : Supersets) : Except SearchErr (List Groups) → Except SearchErr (List Groups × Supersets)
  | .ok res => .ok (res, sup)
  | .error e => .error e

/-- the state of the folds of `searchRec` while the counters stay as they are: a function of the candidates so far -/
def flatSt (sup : Supersets) (acc : List Groups) : List Groups × Supersets × Bool := (acc, sup, !acc.isEmpty)

theorem flatSt_add (sup : Supersets) (acc res : List Groups) :
    (if res.isEmpty then (.ok (acc, sup, !acc.isEmpty) : Except SearchErr (List Groups × Supersets × Bool))
      else .ok (acc ++ res, sup, true)) = .ok (flatSt sup (acc ++ res)) := by
  cases res with
  | nil => rw [List.append_nil]; rfl
  | cons r rs => simp [flatSt]

theorem joinSubst_flat {env : Env} (hns : ∀ id, env.subsets.get id = []) (gid c : T) :
    joinSubst env gid c = if gid == c then
      (match DI.sup gid c with
       | .yes σ _ => .ok (some σ)
       | _ => .error .unwrapNone)
    else .ok none := by
  unfold joinSubst
  rw [hns]
  rfl

theorem searchRec_flat {env : Env} (hns : ∀ id, env.subsets.get id = []) (c : T) :
    ∀ (impls : List Blk) (f : Nat) (sup : Supersets) (groups : Groups), impls.length + 2 ≤ f →
      searchRec env f c impls sup groups = withSup sup (flatSearch c impls groups)
  | [], f, sup, groups, hf => by
      obtain ⟨f0, rfl⟩ : ∃ f0, f = f0 + 2 := ⟨f - 2, by simp at hf; omega⟩
      rw [searchRec, hns, searchUnlock, flatSearch]
      rfl
  | curr :: other, f, sup, groups, hf => by
      obtain ⟨f0, rfl⟩ : ∃ f0, f = f0 + 1 := ⟨f - 1, by simp at hf; omega⟩
      have ih : ∀ g, searchRec env f0 c other sup g = withSup sup (flatSearch c other g) :=
        fun g => searchRec_flat hns c other f0 sup g (by simp at hf ⊢; omega)
      rw [searchRec_cons, flatSearch]
      generalize hX : List.foldl _ _ groups = X
      generalize hY : List.foldl _ _ groups = Y
      -- the folds of `searchRec` are those of `flatSearch` with the state completed by `flatSt`
      have hXY : X = Y.map (flatSt sup) := by
        rw [← hX, ← hY]
        refine List.foldl_hom (Except.map (flatSt sup)) (init := .ok []) (fun st ge => ?_)
        cases st with
        | error e => rfl
        | ok acc =>
          dsimp only [Except.map, flatSt]
          rw [joinSubst_flat hns]
          by_cases hc : (ge.1 == c) = true
          · rw [if_pos hc, if_pos hc]
            cases DI.sup ge.1 c with
            | yes σ l =>
              refine List.foldl_hom (Except.map (flatSt sup)) (init := .ok acc) (fun st2 inter => ?_)
              cases st2 with
              | error e => rfl
              | ok acc2 =>
                dsimp only [Except.map, flatSt]
                rw [ih]
                cases flatSearch c other (setGroup groups ge.1 (inter, ge.2.2 ++ [curr])) with
                | error e => rfl
                | ok res => exact flatSt_add sup acc2 res
            | no => rfl
            | panic => rfl
          · rw [if_neg hc, if_neg hc]
      rw [hXY]
      cases Y with
      | error e => rfl
      | ok acc =>
        dsimp only [Except.map, flatSt]
        by_cases hany : (groups.any fun ge => ge.1 == c) = true
        · rw [if_pos hany, if_pos hany]
          dsimp only [withSup]
          rw [ite_self]
        · rw [if_neg hany, if_neg hany, ih]
          cases flatSearch c other (groups ++ [(c, ABG.new curr, [curr])]) with
          | error e => rfl
          | ok res =>
            dsimp only [withSup]
            rw [flatSt_add]
            dsimp only [flatSt]
            rw [ite_self]


/-- the driver loop without nested headers: bucket by bucket -/
def goFlat : List (T × List Blk) → Groups → ParseResult
  | [], acc => .ok acc
  | (r, blks) :: rest, acc =>
      match flatSearch r blks [] with
      | .error e => .panic e
      | .ok cands =>
        match chooseCandidate (cands.filterMap filterCandidate) with
        | none => .unableToForm r
        | some g => goFlat rest (acc ++ g)

theorem go_flat {env : Env} (hns : ∀ id, env.subsets.get id = []) (fuel : Nat) :
    ∀ (l : List (T × List Blk)) (sup : Supersets) (acc : Groups),
      (∀ bk ∈ l, env.impls bk.1 = bk.2 ∧ bk.2.length + 2 ≤ 2 * fuel) →
      parseGroups.go env fuel (l.map (·.1)) sup acc = goFlat l acc
  | [], sup, acc, _ => by rw [List.map_nil, parseGroups.go, goFlat]
  | (r, blks) :: rest, sup, acc, h => by
      obtain ⟨h1, h2⟩ := h (r, blks) (by simp)
      simp only at h1 h2
      rw [List.map_cons, parseGroups.go, goFlat, h1, searchRec_flat hns r blks _ sup [] h2]
      cases flatSearch r blks [] with
      | error e => rfl
      | ok cands =>
        simp only [withSup]
        cases chooseCandidate (cands.filterMap filterCandidate) with
        | none => rfl
        | some g => exact go_flat hns fuel rest sup (acc ++ g) (fun bk hbk => h bk (List.mem_cons_of_mem _ hbk))

/-- without nested headers `parseGroups` is the bucket-by-bucket loop -/
theorem parseGroups_flat (rawItems : List T) (hns : ∀ id, (parseEnv rawItems).subsets.get id = []) :
    parseGroups rawItems = goFlat (mkBuckets (rawItems.map mkBlk)) [] := by
  have hroots : parseRoots rawItems = (mkBuckets (rawItems.map mkBlk)).map (·.1) := roots_of_no_subsets hns
  have hn := mkBuckets_ids_nodup (rawItems.map mkBlk)
  have := go_flat (env := parseEnv rawItems) hns (parseFuel rawItems) (mkBuckets (rawItems.map mkBlk))
    (makeSets ((mkBuckets (rawItems.map mkBlk)).map (·.1))).1 [] (by
      intro bk hbk
      refine ⟨impls_of_bucket (env := parseEnv rawItems) hn hbk, ?_⟩
      have := mkBuckets_len _ bk hbk
      simp only [parseFuel]
      omega)
  rw [← this]
  rw [parseGroups_eq_go, hroots]


/-- put `acc` in front of an accepted grouping -/
def ParseResult.prepend (acc : Groups) : ParseResult → ParseResult
  | .ok g => .ok (acc ++ g)
  | r => r

theorem goFlat_acc : ∀ (l : List (T × List Blk)) (acc : Groups), goFlat l acc = (goFlat l []).prepend acc
  | [], acc => by simp [goFlat, ParseResult.prepend]
  | (r, blks) :: rest, acc => by
      rw [goFlat, goFlat]
      cases flatSearch r blks [] with
      | error e => rfl
      | ok cands =>
        dsimp only
        cases chooseCandidate (cands.filterMap filterCandidate) with
        | none => rfl
        | some g =>
          dsimp only
          rw [goFlat_acc rest (acc ++ g), goFlat_acc rest ([] ++ g)]
          cases goFlat rest [] with
          | ok g' => simp [ParseResult.prepend]
          | unableToForm _ => rfl
          | panic _ => rfl

theorem goFlat_append : ∀ (l1 l2 : List (T × List Blk)) (acc : Groups),
    goFlat (l1 ++ l2) acc = (match goFlat l1 acc with | .ok a => goFlat l2 a | r => r)
  | [], l2, acc => by simp [goFlat]
  | (r, blks) :: rest, l2, acc => by
      rw [List.cons_append, goFlat, goFlat]
      cases flatSearch r blks [] with
      | error e => rfl
      | ok cands =>
        dsimp only
        cases chooseCandidate (cands.filterMap filterCandidate) with
        | none => rfl
        | some g => exact goFlat_append rest l2 (acc ++ g)

theorem msPairs_nil_sub {ids1 ids : List T} (h : ∀ x ∈ ids1, x ∈ ids) (hn : msPairs ids = []) : msPairs ids1 = [] :=
  msPairs_nil_iff.2 (fun g1 h1 g2 h2 hne => msPairs_nil_iff.1 hn g1 (h g1 h1) g2 (h g2 h2) hne)

/-- families with unrelated headers are independent: for two lists of blocks with disjoint sets of headers, none of
    which generalises another one, the grouping of the concatenation is the concatenation of the groupings -/
theorem parseGroups_independent (items1 items2 : List T)
    (hdisj : ∀ b1 ∈ items1.map mkBlk, ∀ b2 ∈ items2.map mkBlk, groupIdOf b1.item ≠ groupIdOf b2.item)
    (hp : msPairs ((mkBuckets ((items1 ++ items2).map mkBlk)).map (·.1)) = []) :
    parseGroups (items1 ++ items2) =
      (match parseGroups items1 with
       | .ok g1 => (parseGroups items2).prepend g1
       | r => r) := by
  have hb : mkBuckets ((items1 ++ items2).map mkBlk) = mkBuckets (items1.map mkBlk) ++ mkBuckets (items2.map mkBlk) := by
    rw [List.map_append]; exact mkBuckets_append _ _ hdisj
  have hsub : ∀ l, (∀ x ∈ l, x ∈ (mkBuckets ((items1 ++ items2).map mkBlk)).map (·.1)) → msPairs l = [] :=
    fun l hl => msPairs_nil_sub hl hp
  have hp1 : msPairs ((mkBuckets (items1.map mkBlk)).map (·.1)) = [] :=
    hsub _ (by intro x hx; rw [hb, List.map_append]; exact List.mem_append.2 (Or.inl hx))
  have hp2 : msPairs ((mkBuckets (items2.map mkBlk)).map (·.1)) = [] :=
    hsub _ (by intro x hx; rw [hb, List.map_append]; exact List.mem_append.2 (Or.inr hx))
  rw [parseGroups_flat (items1 ++ items2) (no_subsets_of_msPairs_nil hp),
    parseGroups_flat items1 (no_subsets_of_msPairs_nil hp1), parseGroups_flat items2 (no_subsets_of_msPairs_nil hp2), hb,
    goFlat_append]
  cases goFlat (mkBuckets (items1.map mkBlk)) [] with
  | ok g1 => exact goFlat_acc (mkBuckets (items2.map mkBlk)) g1
  | unableToForm _ => rfl
  | panic _ => rfl

/-! ### One step of the flat search: the single intersection -/

theorem cartesianG_singletons {α : Type} : ∀ (l : List α), cartesianG (l.map (fun x => [x])) = [l]
  | [] => by simp [cartesianG]
  | x :: l => by simp [cartesianG, cartesianG_singletons l]

/-- the bounds of a fresh group: the folded bounds, one row each -/
def newB (b : Blk) : List (BKey × List Row) := (otherFold b).map (fun e => (e.1, [e.2]))

theorem new_eq (b : Blk) : ABG.new b = ⟨newB b, b.unsized⟩ := by
  show (⟨(ABG.new b).bounds, (ABG.new b).unsized⟩ : ABG) = _
  rw [new_eq_otherFold]
  rfl

/-- the keys of the new member that the group has, each with the group's rows plus the new member's row -/
def joinB (B : List (BKey × List Row)) (b : Blk) : List (BKey × List Row) :=
  (otherFold b).filterMap (fun e => (findKey B e.1).map (fun rows => (e.1, rows ++ [e.2])))

theorem joinB_distinct (B : List (BKey × List Row)) (b : Blk) : DistinctKeys ((joinB B b).map (·.1)) := by
  apply pairwise_filterMap_keys _ _ _ (otherFold_distinct b)
  intro e e' h
  cases hf : findKey B e.1 with
  | none => rw [hf] at h; cases h
  | some rows => rw [hf] at h; cases h; rfl

/-- the `?Sized` parameters after a join: those of the group and of the new member that are still the bounded type
    of some key -/
def joinU (B : List (BKey × List Row)) (U : List T) (b : Blk) : List T :=
  ((U ++ b.unsized).eraseDups).filter (fun p => ((joinB B b).map (fun e => e.1.1)).contains p)

theorem intersection_flat (g : ABG) (curr : Blk) {σ : Subst} (hσ : allIdentity σ = true) :
    g.intersection curr σ = [⟨joinB g.bounds curr, joinU g.bounds g.unsized curr⟩] := by
  rw [intersection_eq]
  unfold interWith
  have hper : ∀ (F : BKey × Row → BKey → Option (BKey × List Row)) (l : List (BKey × Row)),
      l.map (fun e => (substituteBound σ e.1.1 e.1.2).map (F e)) = (l.map (fun e => F e e.1)).map (fun x => [x]) := by
    intro F l
    rw [List.map_map]
    apply List.map_congr_left
    intro e _
    simp [substituteBound_identity σ hσ]
  have hfm : ∀ (F' : BKey × Row → Option (BKey × List Row)),
      (∀ e, F' e = (findKey g.bounds e.1).map (fun rows => (e.1, rows ++ [e.2]))) →
      List.filterMap F' (otherFold curr) = joinB g.bounds curr := by
    intro F' h
    unfold joinB
    congr 1
    funext e
    exact h e
  dsimp only
  rw [hper, cartesianG_singletons]
  simp only [List.map_cons, List.map_nil, List.filterMap_map, Function.comp_def, id]
  rw [hfm]
  · rw [foldl_insertKey_distinct _ [] (by simpa [DistinctKeys] using joinB_distinct g.bounds curr)]
    rfl
  · intro e
    cases findKey g.bounds e.1 <;> rfl

/-- bounds and `?Sized` parameters of a group, joined with one more block -/
def joinBU (s : List (BKey × List Row) × List T) (b : Blk) : List (BKey × List Row) × List T :=
  (joinB s.1 b, joinU s.1 s.2 b)

/-- the bounds of the single candidate: join the blocks one after the other -/
def famB (b1 : Blk) (rest : List Blk) : List (BKey × List Row) := rest.foldl joinB (newB b1)
/-- the `?Sized` parameters of the single candidate -/
def famU (b1 : Blk) (rest : List Blk) : List T := (rest.foldl joinBU (newB b1, b1.unsized)).2

/-- the first block of a bucket founds the group -/
theorem flatSearch_first (c : T) (b1 : Blk) (rest : List Blk) :
    flatSearch c (b1 :: rest) [] = flatSearch c rest [(c, ABG.new b1, [b1])] := by
  rw [flatSearch]
  simp only [List.foldl_nil, List.any_nil, Bool.false_eq_true, if_false, List.nil_append]
  cases flatSearch c rest [(c, ABG.new b1, [b1])] <;> rfl

/-- a further block meets the group under the bucket's header; when the intersection is a single group, the search
    goes on with that group -/
theorem flatSearch_step {c : T} {σ : Subst} {l : Bool} (hself : sup c c = .yes σ l) {g g' : ABG} {curr : Blk}
    (hinter : g.intersection curr σ = [g']) (other ms : List Blk) :
    flatSearch c (curr :: other) [(c, g, ms)] = flatSearch c other [(c, g', ms ++ [curr])] := by
  rw [flatSearch]
  simp only [List.foldl_cons, List.foldl_nil, beq_self_eq_true, if_true, hself, hinter, setGroup, List.map_cons,
    List.map_nil, List.any_cons, List.any_nil, Bool.or_false, List.nil_append]
  cases flatSearch c other [(c, g', ms ++ [curr])] <;> rfl

theorem flatSearch_join {c : T} {σ : Subst} {l : Bool} (hself : sup c c = .yes σ l) (hσ : allIdentity σ = true) :
    ∀ (impls : List Blk) (B : List (BKey × List Row)) (u : List T) (ms : List Blk),
      flatSearch c impls [(c, ⟨B, u⟩, ms)] =
        .ok [[(c, ⟨impls.foldl joinB B, (impls.foldl joinBU (B, u)).2⟩, ms ++ impls)]]
  | [], B, u, ms => by rw [flatSearch, List.append_nil]; rfl
  | curr :: other, B, u, ms => by
      rw [flatSearch_step hself (intersection_flat ⟨B, u⟩ curr hσ), flatSearch_join hself hσ other, List.append_assoc]
      rfl

theorem flatSearch_root {c : T} (hself : selfIdentity c = true) (b1 : Blk) (rest : List Blk) :
    flatSearch c (b1 :: rest) [] = .ok [[(c, ⟨famB b1 rest, famU b1 rest⟩, b1 :: rest)]] := by
  obtain ⟨σ, l, hs, hσ⟩ := selfIdentity_spec hself
  rw [flatSearch_first, new_eq, flatSearch_join hs hσ]
  rfl

/-! ### The candidate filter on the single candidate -/

def pruneB (B : List (BKey × List Row)) : List (BKey × List Row) := B.filter (fun e => e.2.any (fun r => !r.isEmpty))

/-- the candidate filter, on the bounds of one group: a key with a binding is left, and no row generalises another -/
def accB (B : List (BKey × List Row)) : Bool := !((pruneB B).isEmpty || (ABG.mk (pruneB B) []).isOverlapping)

theorem isOverlapping_unsized (P : List (BKey × List Row)) (u : List T) :
    (ABG.mk P u).isOverlapping = (ABG.mk P []).isOverlapping := rfl

theorem filterCandidate_one (c : T) (B : List (BKey × List Row)) (u : List T) (ms : List Blk) :
    filterCandidate [(c, ABG.mk B u, ms)] = if accB B then some [(c, ABG.mk (pruneB B) u, ms)] else none := by
  unfold filterCandidate accB
  simp only [List.map_cons, List.map_nil, List.any_cons, List.any_nil, Bool.or_false, ABG.prune]
  have : (List.filter (fun e => e.2.any fun r => !r.isEmpty) B) = pruneB B := rfl
  rw [this, isOverlapping_unsized (pruneB B) u]
  cases ((pruneB B).isEmpty || (ABG.mk (pruneB B) []).isOverlapping) <;> simp

/-! ### One bucket, several keys (C03) -/

def Blk.ks (b : Blk) : List BKey := b.raw.map (fun rb => (rb.bounded, rb.tr))
def Blk.rs (b : Blk) : List Row := b.raw.map (fun rb => Row.extend [] rb.binds)

/-- position by position the keys match, and no key matches a later key of the other list -/
inductive AlignedK : List BKey → List BKey → Prop
  | nil : AlignedK [] []
  | cons {k k' ks ks'} : keyEq k k' = true → (∀ k'' ∈ ks', keyEq k k'' = false) → AlignedK ks ks' →
      AlignedK (k :: ks) (k' :: ks')

theorem AlignedK.length_eq {ks ks' : List BKey} (h : AlignedK ks ks') : ks.length = ks'.length := by
  induction h with
  | nil => rfl
  | cons _ _ _ ih => simp [ih]

/-- looking up the aligned keys of a block in the group finds every one of them, position by position -/
theorem aligned_lookup : ∀ {ks ks' : List BKey}, AlignedK ks ks' → ∀ (rowss : List (List Row)) (rs : List Row),
    rowss.length = ks.length → rs.length = ks'.length →
    (ks'.zip rs).filterMap (fun e => (findKey (ks.zip rowss) e.1).map (fun rows => (e.1, rows ++ [e.2]))) =
      ks'.zip (List.zipWith (fun rows r => rows ++ [r]) rowss rs)
  | _, _, .nil, rowss, rs, _, _ => by simp
  | _, _, .cons (k := k) (k' := k') (ks := ks) (ks' := ks') hk hlater hrest, rowss, rs, h1, h2 => by
      cases rowss with
      | nil => simp at h1
      | cons rows rowss =>
        cases rs with
        | nil => simp at h2
        | cons r rs =>
          simp only [List.zip_cons_cons, List.filterMap_cons, List.zipWith_cons_cons, findKey_cons_eq hk, Option.map_some]
          congr 1
          rw [← aligned_lookup hrest rowss rs (by simpa using h1) (by simpa using h2)]
          apply filterMap_congr'
          intro e he
          rw [findKey_cons_ne (hlater e.1 (List.of_mem_zip he).1)]

/-- with pairwise different keys the other block's bounds are listed as they are -/
theorem otherFold_of_distinct (b : Blk) (hd : DistinctKeys b.ks) : otherFold b = b.ks.zip b.rs := by
  have h : DistinctKeys (b.raw.map (fun rb => ((rb.bounded, rb.tr) : BKey))) →
      otherFold b = b.raw.map (fun rb => ((rb.bounded, rb.tr), Row.extend [] rb.binds)) := by
    unfold otherFold
    refine foldl_prefix_inv _ (fun (pre : List RawBound) (acc : List (BKey × Row)) =>
        DistinctKeys (pre.map (fun rb => ((rb.bounded, rb.tr) : BKey))) →
        acc = pre.map (fun rb => ((rb.bounded, rb.tr), Row.extend [] rb.binds))) b.raw [] [] ?_ (fun _ => rfl)
    intro rb _ pre acc h hp
    rw [List.map_append, DistinctKeys, List.pairwise_append] at hp
    have hnone : findKey (pre.map (fun rb => (((rb.bounded, rb.tr) : BKey), Row.extend [] rb.binds))) (rb.bounded, rb.tr) =
        none := by
      apply findKey_eq_none_iff.2
      intro e he
      obtain ⟨x, hx, rfl⟩ := List.mem_map.1 he
      exact hp.2.2 _ (List.mem_map_of_mem hx) _ (List.mem_singleton.2 rfl)
    rw [h hp.1, List.map_append]
    dsimp only
    rw [hnone]
    rfl
  exact (h hd).trans (by simp [Blk.ks, Blk.rs, List.zip_map'])

/-- on aligned keys a join keeps every key of the new block, with one more row each -/
theorem joinB_aligned {ks : List BKey} {rowss : List (List Row)} {curr : Blk} (hd : DistinctKeys curr.ks)
    (hal : AlignedK ks curr.ks) (hlen : rowss.length = ks.length) :
    joinB (ks.zip rowss) curr = curr.ks.zip (List.zipWith (fun rows r => rows ++ [r]) rowss curr.rs) := by
  rw [joinB, otherFold_of_distinct curr hd]
  exact aligned_lookup hal rowss curr.rs hlen (by simp [Blk.ks, Blk.rs])

/-- the keys stored with the family after the blocks have joined: those of the last block -/
def lastKs : List BKey → List Blk → List BKey
  | ks, [] => ks
  | _, b :: rest => lastKs b.ks rest

/-- one more row per key for every block that joins -/
def addRows : List (List Row) → List Blk → List (List Row)
  | rowss, [] => rowss
  | rowss, b :: rest => addRows (List.zipWith (fun rows r => rows ++ [r]) rowss b.rs) rest

/-- consecutive blocks carry the same keys in the same order, and no block repeats a key -/
def AlignedChain : List BKey → List Blk → Prop
  | _, [] => True
  | ks, b :: rest => AlignedK ks b.ks ∧ DistinctKeys b.ks ∧ AlignedChain b.ks rest

/-- an aligned chain is a flat bucket in which no join loses a key -/
theorem foldl_joinB_aligned : ∀ (impls : List Blk) (ks : List BKey) (rowss : List (List Row)),
    AlignedChain ks impls → rowss.length = ks.length →
    impls.foldl joinB (ks.zip rowss) = (lastKs ks impls).zip (addRows rowss impls)
  | [], _, _, _, _ => rfl
  | curr :: other, ks, rowss, ⟨hal, hd, hrest⟩, hlen => by
      rw [List.foldl_cons, joinB_aligned hd hal hlen, lastKs, addRows]
      exact foldl_joinB_aligned other curr.ks _ hrest (by simp [Blk.ks, Blk.rs, hal.length_eq ▸ hlen])

theorem famB_aligned (b1 : Blk) (other : List Blk) (hd : DistinctKeys b1.ks) (hch : AlignedChain b1.ks other) :
    famB b1 other = (lastKs b1.ks other).zip (addRows (b1.rs.map (fun r => [r])) other) := by
  have hnew : newB b1 = b1.ks.zip (b1.rs.map (fun r => [r])) := by
    rw [newB, otherFold_of_distinct b1 hd, List.zip_map_right]
    rfl
  rw [famB, hnew]
  exact foldl_joinB_aligned other _ _ hch (by simp [Blk.ks, Blk.rs])

theorem filterCandidate_of_checks (gid : T) (FB : List (BKey × List Row)) (u : List T) (ms : List Blk)
    (h1 : ∀ kr ∈ FB, kr.2.any (fun r => !r.isEmpty) = true) (h2 : FB ≠ [])
    (h3 : (ABG.mk FB []).isOverlapping = false) :
    filterCandidate [(gid, ABG.mk FB u, ms)] = some [(gid, ABG.mk FB u, ms)] := by
  have hprune : pruneB FB = FB := List.filter_eq_self.2 h1
  have hacc : accB FB = true := by
    rw [accB, hprune, h3]
    cases FB with
    | nil => exact absurd rfl h2
    | cons _ _ => rfl
  rw [filterCandidate_one, hacc, if_pos rfl, hprune]

/-- one bucket, several keys: blocks with the same header that all carry the same keys in the same order (no key
    repeated inside a block), whose rows pass the candidate filter, are accepted as one family -/
theorem parseGroups_multi_key (items : List T) (gid : T) (b1 : Blk) (other : List Blk)
    (hB : items.map mkBlk = b1 :: other)
    (hid : ∀ b ∈ b1 :: other, groupIdOf b.item = gid) (hnd : ((b1 :: other).map (·.item)).Nodup)
    (hd : DistinctKeys b1.ks) (hch : AlignedChain b1.ks other) (hself : selfIdentity gid = true)
    (h1 : ∀ kr ∈ (lastKs b1.ks other).zip (addRows (b1.rs.map (fun r => [r])) other), kr.2.any (fun r => !r.isEmpty) = true)
    (h2 : (lastKs b1.ks other).zip (addRows (b1.rs.map (fun r => [r])) other) ≠ [])
    (h3 : (ABG.mk ((lastKs b1.ks other).zip (addRows (b1.rs.map (fun r => [r])) other)) []).isOverlapping = false) :
    ∃ u, parseGroups items =
      .ok [(gid, ⟨(lastKs b1.ks other).zip (addRows (b1.rs.map (fun r => [r])) other), u⟩, b1 :: other)] := by
  have hbk : mkBuckets (items.map mkBlk) = [(gid, b1 :: other)] := by rw [hB]; exact mkBuckets_single b1 other hid hnd
  have hp : msPairs ((mkBuckets (items.map mkBlk)).map (·.1)) = [] := by
    rw [hbk]
    apply msPairs_nil_iff.2
    intro a ha b hb hab
    simp only [List.map_cons, List.map_nil, List.mem_singleton] at ha hb
    rw [ha, hb] at hab
    simp at hab
  have hsearch := flatSearch_root hself b1 other
  rw [famB_aligned b1 other hd hch] at hsearch
  refine ⟨famU b1 other, ?_⟩
  rw [parseGroups_flat items (no_subsets_of_msPairs_nil hp), hbk, goFlat, hsearch]
  simp only [List.filterMap_cons, List.filterMap_nil, filterCandidate_of_checks gid _ _ (b1 :: other) h1 h2 h3,
    chooseCandidate_single]
  rw [goFlat]
  simp

/-! ### One bucket, one key: the case of one bound per block -/

theorem SingleBound.ks_rs {bounded tr : T} {a : String} {p : T} {b : Blk} (h : SingleBound bounded tr a p b) :
    b.ks = [(bounded, tr)] ∧ b.rs = [[(a, p)]] := by
  obtain ⟨mb, hraw⟩ := h
  simp [Blk.ks, Blk.rs, hraw, Row.extend, Row.insert]

/-- blocks with one bound each, on `keyEq` keys, form an aligned chain with one key and one more row per block -/
theorem single_chain {bounded : T} {a : String} (trOf pay : Blk → T) : ∀ (impls : List Blk) (tr0 : T) (rows : List Row),
    (∀ b ∈ impls, SingleBound bounded (trOf b) a (pay b) b) →
    (∀ t1 ∈ tr0 :: impls.map trOf, ∀ t2 ∈ tr0 :: impls.map trOf, keyEq (bounded, t1) (bounded, t2) = true) →
    AlignedChain [(bounded, tr0)] impls ∧ lastKs [(bounded, tr0)] impls = [(bounded, lastTr trOf tr0 impls)] ∧
      addRows [rows] impls = [rows ++ impls.map (fun b => [(a, pay b)])]
  | [], _, _, _, _ => ⟨trivial, rfl, by simp [addRows]⟩
  | curr :: other, tr0, rows, hb, hK => by
      obtain ⟨hks, hrs⟩ := (hb curr (by simp)).ks_rs
      obtain ⟨h1, h2, h3⟩ := single_chain trOf pay other (trOf curr) (rows ++ [[(a, pay curr)]])
        (fun b hb' => hb b (List.mem_cons_of_mem _ hb'))
        (fun t1 h1 t2 h2 => hK t1 (List.mem_cons_of_mem _ (by simpa using h1)) t2 (List.mem_cons_of_mem _ (by simpa using h2)))
      refine ⟨⟨?_, ?_, by rw [hks]; exact h1⟩, by rw [lastKs, hks, h2, lastTr], by
        rw [addRows, hrs, List.zipWith_cons_cons, List.zipWith_nil_right, h3]; simp⟩
      · rw [hks]
        exact .cons (hK tr0 (by simp) (trOf curr) (by simp)) (fun _ h => nomatch h) .nil
      · rw [hks]; exact List.pairwise_singleton _ _

/-- one bucket, one key, one binding per block, pairwise non-generalising payloads: accepted as one family -/
theorem parseGroups_single_bucket (items : List T) (gid bounded : T) (a : String) (trOf pay : Blk → T)
    (b1 : Blk) (other : List Blk) (hB : items.map mkBlk = b1 :: other)
    (hid : ∀ b ∈ b1 :: other, groupIdOf b.item = gid) (hnd : ((b1 :: other).map (·.item)).Nodup)
    (hsb : ∀ b ∈ b1 :: other, SingleBound bounded (trOf b) a (pay b) b)
    (htr : ∀ b ∈ b1 :: other, ∀ b' ∈ b1 :: other, tbEq (trOf b) (trOf b') = .t)
    (hself : selfIdentity gid = true) (hng : NonGen ((b1 :: other).map pay)) :
    ∃ u, parseGroups items = .ok [(gid, ⟨[((bounded, lastTr trOf (trOf b1) other),
      (b1 :: other).map (fun b => [(a, pay b)]))], u⟩, b1 :: other)] := by
  have hK : ∀ t1 ∈ (b1 :: other).map trOf, ∀ t2 ∈ (b1 :: other).map trOf, keyEq (bounded, t1) (bounded, t2) = true := by
    intro t1 h1 t2 h2
    obtain ⟨x, hx, rfl⟩ := List.mem_map.1 h1
    obtain ⟨y, hy, rfl⟩ := List.mem_map.1 h2
    simp [keyEq, htr x hx y hy]
  have hk : keyEq (bounded, lastTr trOf (trOf b1) other) (bounded, lastTr trOf (trOf b1) other) = true := by
    have hm : lastTr trOf (trOf b1) other ∈ (b1 :: other).map trOf := by
      simpa using lastTr_mem trOf (trOf b1) other
    exact hK _ hm _ hm
  obtain ⟨hks, hrs⟩ := (hsb b1 (by simp)).ks_rs
  obtain ⟨hch, hlast, hadd⟩ := single_chain trOf pay other (trOf b1) [[(a, pay b1)]]
    (fun b hb => hsb b (List.mem_cons_of_mem _ hb)) (by simpa using hK)
  have hfam : (lastKs b1.ks other).zip (addRows (b1.rs.map (fun r => [r])) other) =
      [((bounded, lastTr trOf (trOf b1) other), (b1 :: other).map (fun b => [(a, pay b)]))] := by
    rw [hks, hrs, List.map_cons, List.map_nil, hlast, hadd]
    rfl
  have := parseGroups_multi_key items gid b1 other hB hid hnd (by rw [hks]; exact List.pairwise_singleton _ _)
    (by rw [hks]; exact hch) hself
  rw [hfam] at this
  refine this (by simp) (by simp) ?_
  have hrows : (b1 :: other).map (fun b => [(a, pay b)]) = ((b1 :: other).map pay).map (fun p => [(a, p)]) := by
    simp
  rw [hrows]
  exact isOverlapping_single hk _ (by simp) hng

/-! ### Executable forms of `DistinctKeys` and `AlignedK` -/

def distinctKeysB : List BKey → Bool
  | [] => true
  | k :: ks => ks.all (fun k' => !keyEq k k') && distinctKeysB ks

theorem distinctKeys_of_B : ∀ {ks : List BKey}, distinctKeysB ks = true → DistinctKeys ks
  | [], _ => List.Pairwise.nil
  | k :: ks, h => by
      simp only [distinctKeysB, Bool.and_eq_true, List.all_eq_true, Bool.not_eq_true'] at h
      exact List.Pairwise.cons h.1 (distinctKeys_of_B h.2)

def alignedKB : List BKey → List BKey → Bool
  | [], [] => true
  | k :: ks, k' :: ks' => keyEq k k' && ks'.all (fun k'' => !keyEq k k'') && alignedKB ks ks'
  | _, _ => false

theorem alignedK_of_B : ∀ {ks ks' : List BKey}, alignedKB ks ks' = true → AlignedK ks ks'
  | [], [], _ => .nil
  | k :: ks, k' :: ks', h => by
      simp only [alignedKB, Bool.and_eq_true, List.all_eq_true, Bool.not_eq_true'] at h
      exact .cons h.1.1 h.1.2 (alignedK_of_B h.2)
  | [], _ :: _, h => by simp [alignedKB] at h
  | _ :: _, [], h => by simp [alignedKB] at h

def alignedChainB : List BKey → List Blk → Bool
  | _, [] => true
  | ks, b :: rest => alignedKB ks b.ks && distinctKeysB b.ks && alignedChainB b.ks rest

theorem alignedChain_of_B : ∀ {ks : List BKey} {bs : List Blk}, alignedChainB ks bs = true → AlignedChain ks bs
  | _, [], _ => trivial
  | ks, b :: rest, h => by
      simp only [alignedChainB, Bool.and_eq_true] at h
      exact ⟨alignedK_of_B h.1.1, distinctKeys_of_B h.1.2, alignedChain_of_B h.2⟩


/-! ### Counting the decrements: what the counters-only trace does to every header -/

theorem Supersets.get_dec (s : Supersets) (id x : T) :
    (s.dec id).get x = if x == id then s.get x - 1 else s.get x := by
  induction s with
  | nil => simp [Supersets.dec, Supersets.get]
  | cons e s ih =>
    simp only [Supersets.dec, Supersets.get, List.map_cons, List.find?_cons] at ih ⊢
    by_cases hex : (e.1 == x) = true
    · have hx : e.1 = x := eq_of_beq hex
      by_cases hid : (e.1 == id) = true
      · have : (x == id) = true := by rw [← hx]; exact hid
        simp [hex, hid, this]
      · have : (x == id) = false := by rw [← hx]; simpa using hid
        simp [hex, hid, this]
    · have hex' : (e.1 == x) = false := by simpa using hex
      by_cases hid : (e.1 == id) = true
      · simp only [hid, if_true, hex']
        exact ih
      · simp only [hid, Bool.false_eq_true, if_false, hex']
        exact ih

/-- the headers a header generalises, as recorded by `make_sets` -/
def subsIds (env : Env) (g : T) : List T := (env.subsets.get g).map (·.1)

/-- number of visits at which a counter starting at `a` is found to be 0 during `n` decrements -/
def Z (a n : Nat) : Nat := n - (a - 1)

theorem Z_add (a n1 n2 : Nat) : Z a (n1 + n2) = Z a n1 + Z (a - n1) n2 := by
  unfold Z
  rw [Nat.sub_right_comm a n1 1]
  generalize a - 1 = c
  omega

/-- the effect of the decrements `D` (a list of headers, one entry per decrement) on every header `x`: its counter
    went down by the number of its decrements, and `x` was unlocked (is listed in `ids`) once for every decrement
    that found the counter at 0 -/
def Eff (D : List T) (sup : Supersets) (ids : List T) (sup' : Supersets) : Prop :=
  ∀ x, sup'.get x = sup.get x - D.count x ∧ ids.count x = Z (sup.get x) (D.count x)

theorem Eff.append {D1 D2 ids1 ids2 : List T} {sup sup1 sup2 : Supersets} (h1 : Eff D1 sup ids1 sup1)
    (h2 : Eff D2 sup1 ids2 sup2) : Eff (D1 ++ D2) sup (ids1 ++ ids2) sup2 := by
  intro x
  obtain ⟨a1, b1⟩ := h1 x
  obtain ⟨a2, b2⟩ := h2 x
  rw [List.count_append, List.count_append, Z_add, b1, b2, a2, a1]
  exact ⟨by omega, rfl⟩

theorem Eff.perm {D D' ids : List T} {sup sup' : Supersets} (hp : D.Perm D') (h : Eff D sup ids sup') :
    Eff D' sup ids sup' := by
  intro x; rw [← hp.count_eq]; exact h x

/-- one decrement: the header is unlocked iff its counter is 0 afterwards -/
theorem Eff.dec (sup : Supersets) (id : T) :
    Eff [id] sup (if (sup.dec id).get id == 0 then [id] else []) (sup.dec id) := by
  intro x
  rw [Supersets.get_dec, Supersets.get_dec, beq_self_eq_true, if_pos rfl, List.count_singleton]
  by_cases hx : x = id
  · subst hx
    simp only [beq_self_eq_true, if_true, Z, beq_iff_eq, true_and]
    by_cases h : sup.get x - 1 = 0
    · rw [if_pos h, List.count_singleton, beq_self_eq_true, if_pos rfl]; omega
    · rw [if_neg h, List.count_nil]; omega
  · have h1 : (x == id) = false := by simpa using hx
    have h2 : (id == x) = false := by simpa using fun e => hx e.symm
    simp only [h1, h2, Bool.false_eq_true, if_false, Z, Nat.sub_zero, true_and]
    rw [Nat.zero_sub]
    split
    · rw [List.count_singleton, h2]; rfl
    · rfl

theorem trace_eff (env : Env) : ∀ fuel,
    (∀ currId n sup ids sup', traceRec env fuel currId n sup = some (ids, sup') →
      Eff ((currId :: ids).flatMap (subsIds env)) sup ids sup') ∧
    (∀ currId subs sup ids sup', traceUnlock env fuel currId subs sup = some (ids, sup') →
      Eff (subs.map (·.1) ++ ids.flatMap (subsIds env)) sup ids sup')
  | 0 => by
      constructor
      · intro currId n sup ids sup' h; rw [traceRec] at h; cases h
      · intro currId subs sup ids sup' h; rw [traceUnlock] at h; cases h
  | fuel + 1 => by
      obtain ⟨ihR, ihU⟩ := trace_eff env fuel
      constructor
      · intro currId n sup ids sup' h
        cases n with
        | zero => rw [traceRec] at h; exact ihU _ _ _ _ _ h
        | succ n => rw [traceRec] at h; exact ihR _ _ _ _ _ h
      · intro currId subs sup ids sup' h
        cases subs with
        | nil =>
          rw [traceUnlock] at h; cases h
          intro x; simp [Z]
        | cons s rest =>
          obtain ⟨subId, σs⟩ := s
          rw [traceUnlock] at h
          have hdec := Eff.dec sup subId
          split at h
          · next hz =>
            rw [if_pos hz] at hdec
            split at h
            · cases h
            · next ids1 sp1 h1 =>
              split at h
              · cases h
              · next ids2 sp2 h2 =>
                cases h
                refine ((hdec.append (ihR _ _ _ _ _ h1)).append (ihU _ _ _ _ _ h2)).perm ?_
                refine List.perm_iff_count.2 fun x => ?_
                simp only [List.map_cons, List.flatMap_cons, List.flatMap_append, List.count_append, List.count_cons,
                  List.count_nil]
                omega
          · next hz =>
            rw [if_neg hz] at hdec
            exact hdec.append (ihU _ _ _ _ _ h)

/-- the driver loop: every header `x` is listed once per root occurrence, plus once for every decrement that found
    its counter at 0 -/
theorem traceGo_eff (env : Env) (fuel : Nat) : ∀ (roots : List T) (sup : Supersets) (tr : List T),
    traceGo env fuel roots sup = some tr →
    ∀ x, tr.count x = roots.count x + Z (sup.get x) ((tr.flatMap (subsIds env)).count x)
  | [], sup, tr, h, x => by
      simp only [traceGo, Option.some.injEq] at h
      subst h
      simp [Z]
  | r :: rest, sup, tr, h, x => by
      rw [traceGo] at h
      split at h
      · cases h
      · next ids sup1 h1 =>
        cases htl : traceGo env fuel rest sup1 with
        | none => rw [htl] at h; cases h
        | some tl =>
          rw [htl] at h
          simp only [Option.map_some, Option.some.injEq] at h
          subst h
          obtain ⟨a1, b1⟩ := (trace_eff env _).1 _ _ _ _ _ h1 x
          have ih := traceGo_eff env fuel rest sup1 tl htl x
          rw [List.flatMap_append, List.count_append, List.count_append, Z_add, ← a1, ih, ← b1, List.count_cons,
            List.count_cons]
          omega

/-! ### Acyclic header relation ⇒ every header is processed exactly once (Kahn's argument) -/

/-- double counting: decrements of `x` caused by the processed headers = processed occurrences of the recorded
    generalisers of `x` -/
theorem count_flatMap_pairs (E : List (T × T × Subst)) (x : T) (tr : List T) :
    (tr.flatMap (fun g => (E.filter (fun p => p.1 == g)).map (fun p => p.2.1))).count x =
      ((E.filter (fun p => p.2.1 == x)).map (fun p => tr.count p.1)).sum := by
  rw [List.count_flatMap]
  have h1 : ∀ g, (List.count x ∘ fun g => (E.filter (fun p => p.1 == g)).map (fun p => p.2.1)) g =
      (E.filter (fun p => p.2.1 == x)).countP (fun p => p.1 == g) := by
    intro g
    simp only [Function.comp]
    induction E with
    | nil => rfl
    | cons p E ih =>
      cases a1 : (p.1 == g) <;> cases a2 : (p.2.1 == x) <;>
        simp only [List.filter_cons, a1, a2, Bool.false_eq_true, if_false, if_true, List.map_cons, List.count_cons,
          List.countP_cons, ih] <;> omega
  rw [List.map_congr_left (fun g _ => h1 g)]
  rw [double_count (fun g (p : T × T × Subst) => p.1 == g)]
  apply congrArg
  apply List.map_congr_left
  intro p _
  rw [List.count_eq_countP]
  apply List.countP_congr
  intro g _
  constructor
  · intro h; rw [eq_of_beq h]; simp
  · intro h; have := eq_of_beq h; rw [this]; simp

def predsOf (E : List (T × T × Subst)) (x : T) : List T := (E.filter (fun p => p.2.1 == x)).map (·.1)

/-- one layer of Kahn's algorithm: drop the headers none of whose recorded generalisers is still there -/
def kahnStep (E : List (T × T × Subst)) (R : List T) : List T :=
  R.filter (fun x => (predsOf E x).any (fun g => R.contains g))

def kahnIter (E : List (T × T × Subst)) : Nat → List T → List T
  | 0, R => R
  | n + 1, R => kahnIter E n (kahnStep E R)

/-- executable acyclicity of the recorded generalisation relation: peeling off minimal headers `|ids|` times
    leaves nothing -/
def acyclicIds (ids : List T) : Bool := (kahnIter (msPairs ids) ids.length ids).isEmpty


def indeg (E : List (T × T × Subst)) (x : T) : Nat := (E.filter (fun p => p.2.1 == x)).length

theorem roots_count (ids : List T) (hn : ids.Nodup) (x : T) :
    ((((makeSets ids).1).filter (fun e => e.2 == 0)).map (·.1)).count x =
      if x ∈ ids ∧ indeg (msPairs ids) x = 0 then 1 else 0 := by
  rw [makeSets_eq]
  simp only
  have h1 : ((ids.map (fun id => (id, ((msPairs ids).filter (fun p => p.2.1 == id)).length))).filter
      (fun e => e.2 == 0)).map (·.1) = ids.filter (fun id => indeg (msPairs ids) id == 0) := by
    rw [List.filter_map, List.map_map]
    have : ((fun x => x.1) ∘ fun id => (id, ((msPairs ids).filter (fun p => p.2.1 == id)).length)) = id := rfl
    rw [this, List.map_id]
    rfl
  rw [h1]
  have hn' : (ids.filter (fun id => indeg (msPairs ids) id == 0)).Nodup := hn.sublist List.filter_sublist
  rw [hn'.count]
  simp only [List.mem_filter, beq_iff_eq]

theorem trace_count_formula (items : List T) (tr : List T) (h : parseTrace items = some tr) (x : T) :
    let ids := (mkBuckets (items.map mkBlk)).map (·.1)
    let E := msPairs ids
    tr.count x = (if x ∈ ids ∧ indeg E x = 0 then 1 else 0) +
      Z (if x ∈ ids then indeg E x else 0) (((E.filter (fun p => p.2.1 == x)).map (fun p => tr.count p.1)).sum) := by
  intro ids E
  have hn : ids.Nodup := mkBuckets_ids_nodup _
  have := traceGo_eff _ _ _ _ _ h x
  rw [show parseRoots items = (((makeSets ids).1).filter (fun e => e.2 == 0)).map (·.1) from rfl,
    roots_count ids hn x, supersets_get_makeSets ids x] at this
  have hsub : subsIds (parseEnv items) = fun g => (E.filter (fun p => p.1 == g)).map (fun p => p.2.1) := by
    funext g
    exact subsets_get_makeSets ids g
  rw [hsub, count_flatMap_pairs] at this
  exact this

theorem kahn_step_count (items : List T) (tr : List T) (h : parseTrace items = some tr) (R : List T)
    (H : ∀ x ∈ (mkBuckets (items.map mkBlk)).map (·.1), x ∉ R → tr.count x = 1) :
    ∀ x ∈ (mkBuckets (items.map mkBlk)).map (·.1),
      x ∉ kahnStep (msPairs ((mkBuckets (items.map mkBlk)).map (·.1))) R → tr.count x = 1 := by
  intro x hx hnot
  by_cases hR : x ∈ R
  · have hpreds : ∀ p ∈ (msPairs ((mkBuckets (items.map mkBlk)).map (·.1))).filter (fun p => p.2.1 == x),
        tr.count p.1 = 1 := by
      intro p hp
      have hpE := (List.mem_filter.1 hp).1
      apply H p.1 (msPairs_fst_mem hpE)
      intro hpR
      apply hnot
      simp only [kahnStep, List.mem_filter, List.any_eq_true, List.contains_iff_mem]
      exact ⟨hR, p.1, List.mem_map.2 ⟨p, hp, rfl⟩, hpR⟩
    have := trace_count_formula items tr h x
    simp only at this
    rw [sum_map_const_one _ _ hpreds] at this
    rw [this]
    simp only [hx, true_and, if_true, indeg, Z]
    split <;> omega
  · exact H x hx hR

theorem kahn_iter_count (items : List T) (tr : List T) (h : parseTrace items = some tr) : ∀ (n : Nat) (R : List T),
    (∀ x ∈ (mkBuckets (items.map mkBlk)).map (·.1), x ∉ R → tr.count x = 1) →
    ∀ x ∈ (mkBuckets (items.map mkBlk)).map (·.1),
      x ∉ kahnIter (msPairs ((mkBuckets (items.map mkBlk)).map (·.1))) n R → tr.count x = 1
  | 0, R, H => H
  | n + 1, R, H => by
      rw [kahnIter]
      exact kahn_iter_count items tr h n _ (kahn_step_count items tr h R H)

/-- executable acyclicity of the recorded generalisation relation between the bucket headers -/
def acyclicB (items : List T) : Bool := acyclicIds ((mkBuckets (items.map mkBlk)).map (·.1))

/-- with an acyclic header relation the counters unlock every header exactly once -/
theorem traceCovers_of_acyclic (items : List T) (tr : List T) (h : parseTrace items = some tr)
    (ha : acyclicB items = true) : traceCovers items = true := by
  have hn : ((mkBuckets (items.map mkBlk)).map (·.1)).Nodup := mkBuckets_ids_nodup _
  have hempty : kahnIter (msPairs ((mkBuckets (items.map mkBlk)).map (·.1)))
      ((mkBuckets (items.map mkBlk)).map (·.1)).length ((mkBuckets (items.map mkBlk)).map (·.1)) = [] := by
    simpa [acyclicB, acyclicIds] using ha
  have hone : ∀ x ∈ (mkBuckets (items.map mkBlk)).map (·.1), tr.count x = 1 := by
    intro x hx
    apply kahn_iter_count items tr h _ _ (fun y _ hy => absurd ‹_› hy) x hx
    rw [hempty]; simp
  unfold traceCovers
  rw [h]
  apply List.isPerm_iff.2
  apply List.perm_iff_count.2
  intro x
  rw [hn.count]
  by_cases hx : x ∈ (mkBuckets (items.map mkBlk)).map (·.1)
  · rw [if_pos hx]; exact hone x hx
  · rw [if_neg hx]
    have := trace_count_formula items tr h x
    simp only [hx, false_and, if_false] at this
    have hnil : (msPairs ((mkBuckets (items.map mkBlk)).map (·.1))).filter (fun p => p.2.1 == x) = [] := by
      apply List.filter_eq_nil_iff.2
      intro p hp hc
      exact hx (eq_of_beq hc ▸ msPairs_snd_mem hp)
    rw [hnil] at this
    simpa [Z] using this

/-- partition for nested headers under executable acyclicity -/
theorem parseGroups_partition_acyclic {rawItems : List T} {groups : Groups} (h : parseGroups rawItems = .ok groups)
    (ha : acyclicB rawItems = true) :
    (groups.flatMap (fun e => e.2.2)).Perm ((mkBuckets (rawItems.map mkBlk)).flatMap (fun bk => bk.2)) := by
  obtain ⟨tr, ht, _⟩ := parseGroups_trace h
  exact parseGroups_partition_of_trace h (traceCovers_of_acyclic rawItems tr ht ha)

theorem kahnIter_nil (E : List (T × T × Subst)) : ∀ n, kahnIter E n [] = []
  | 0 => rfl
  | n + 1 => kahnIter_nil E n

/-- no recorded generalisation pair at all: the header relation is acyclic -/
theorem acyclicB_of_msPairs_nil (items : List T) (h : msPairs ((mkBuckets (items.map mkBlk)).map (·.1)) = []) :
    acyclicB items = true := by
  unfold acyclicB acyclicIds
  rw [h]
  cases (mkBuckets (items.map mkBlk)).map (·.1) with
  | nil => rfl
  | cons x l =>
    have : kahnStep [] (x :: l) = [] := by simp [kahnStep, predsOf]
    rw [List.length_cons, kahnIter, this, kahnIter_nil]
    rfl

/-- without nested headers every block is placed exactly once: nothing is recorded, so nothing is cyclic -/
theorem parseGroups_partition_partial {rawItems : List T} {groups : Groups} (h : parseGroups rawItems = .ok groups)
    (hns : ∀ id, (parseEnv rawItems).subsets.get id = []) :
    (groups.flatMap (fun e => e.2.2)).Perm ((mkBuckets (rawItems.map mkBlk)).flatMap (fun bk => bk.2)) :=
  parseGroups_partition_acyclic h (acyclicB_of_msPairs_nil rawItems (msPairs_nil_of_no_subsets hns))

end DI

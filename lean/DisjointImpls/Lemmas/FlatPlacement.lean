/-
  Bound placement and bound order do not matter to the grouping search, for invocations without nested headers (C06).

  Moving a trait bound between its inline position and the where-clause, or re-ordering bounds / predicates, permutes
  the list `Blk.raw` that `TraitBoundsVisitor::find` extracts from a block. The search reads that list only through
  the per-key fold `otherFold` (`ABG.new` / `intersection`), which `Lemmas/FlatOrder.lean` turns into the member's own
  row `rowOf b k`. Here:

  * `rowOf_eq_pl`: `rowOf b k` is a left fold over the bounds of the block whose key is `keyEq` to `k`; whether it is
    defined only depends on the SET of bounds; what it binds an associated type to (`cell`) is the LAST binding of that
    associated type among those bounds (`cell_eq_pl`) — a genuine order dependence, removed by the executable side
    condition `noConflictingBindings` (`cell_perm_pl`, `blkSim_of_perm_pl`), which is also necessary
    (`noConflict_necessary_pl`).
  * `BlkSim_pl` (`Lemmas/FlatOrder.lean`): two blocks with the same rows as finite maps and the same `?Sized` set. The
    candidate filter of a flat bucket (`accOK`), the keys, rows and `?Sized` set of its single candidate only depend on
    the blocks up to `BlkSim_pl` (`BlksCorr`); here for a bucket presented position by position (`blksCorr_of_sim_pl`,
    `accOK_sim_pl`, `pruneB_famSpec_sim_pl`).
  * `goFlat_eq_pl` (`Lemmas/FlatOrder.lean`): the bucket-by-bucket loop in closed form (first bucket that panics or fails the filter, else the
    list of the pruned single candidates), from which acceptance, the kind of rejection and the reported header follow
    for two presentations (`goFlat_placement_verdict_pl`), and the correspondence of the families
    (`goFlat_placement_families_pl`, executable form `famSimB_pl`); on `parseGroups`: `parseGroups_placement_*_pl`.
  * `findBounds_move_pl`, `findBounds_where_perm_pl`: moving inline bounds into the where-clause and re-ordering
    predicates permute what `findBounds` lists; `mkBuckets_placed_pl`: invocations that correspond block by block have
    corresponding buckets; `applies_placed_pl`: the semantic blocks apply to the same queries.
-/
import DisjointImpls.Lemmas.FlatAccept
import DisjointImpls.Lemmas.Refine
namespace DI

/-! ### looking up an associated type in a row that is being extended -/

/-- the binding of `x` after the bindings `es` have been written over the optional binding `o`: the last one wins -/
def bindFold_pl (x : String) (o : Option T) (es : List (String × T)) : Option T :=
  es.foldl (fun o e => if e.1 == x then some e.2 else o) o

/-- writing bindings over an existing binding: the last new binding of `x` wins, else the old one stays -/
theorem bindFold_or_pl (x : String) : ∀ (es : List (String × T)) (o : Option T),
    bindFold_pl x o es = match bindFold_pl x none es with | some v => some v | none => o
  | [], o => rfl
  | e :: es, o => by
      unfold bindFold_pl
      rw [List.foldl_cons, List.foldl_cons]
      have ih1 := bindFold_or_pl x es (if e.1 == x then some e.2 else o)
      have ih2 := bindFold_or_pl x es (if e.1 == x then some e.2 else none)
      unfold bindFold_pl at ih1 ih2
      rw [ih1, ih2]
      cases List.foldl (fun o e => if e.1 == x then some e.2 else o) none es with
      | some v => rfl
      | none =>
        by_cases hex : (e.1 == x) = true
        · simp only [hex, if_true]
        · simp only [hex, Bool.false_eq_true, if_false]

theorem bindFold_isSome_pl (x : String) : ∀ (es : List (String × T)) (o : Option T),
    (bindFold_pl x o es).isSome = (o.isSome || es.any (fun e => e.1 == x))
  | [], o => by simp [bindFold_pl]
  | e :: es, o => by
      unfold bindFold_pl
      rw [List.foldl_cons]
      have ih := bindFold_isSome_pl x es (if e.1 == x then some e.2 else o)
      unfold bindFold_pl at ih
      rw [ih, List.any_cons]
      by_cases hex : (e.1 == x) = true
      · simp [hex]
      · have hex' := Bool.eq_false_iff.2 hex
        simp only [hex', Bool.false_eq_true, if_false, Bool.false_or]

/-! ### the member's own row, as a fold over the bounds with that key -/

/-- the key under which a bound is stored -/
def RawBound.key (rb : RawBound) : BKey := (rb.bounded, rb.tr)

theorem findKey_replace_pl {α : Type} {k' k : BKey} (v : α) (hk' : WfKey k') (hk : WfKey k) : ∀ (bs : List (BKey × α)),
    (∀ e ∈ bs, WfKey e.1) →
    findKey (bs.map (fun e => if keyEq e.1 k' then (e.1, v) else e)) k =
      if keyEq k' k then (findKey bs k).map (fun _ => v) else findKey bs k
  | [], _ => by simp [findKey]
  | (k0, w) :: bs, hbs => by
      have ih := findKey_replace_pl v hk' hk bs (fun e he => hbs e (List.mem_cons_of_mem _ he))
      have hk0 : WfKey k0 := hbs (k0, w) (by simp)
      simp only [List.map_cons]
      by_cases hkk : keyEq k' k = true
      · have hn : nk k' = nk k := (keyEq_iff hk' hk).1 hkk
        have e1 : keyEq k0 k' = keyEq k0 k := keyEq_congr_right hk0 hk' hk hn
        simp only [hkk, if_true] at ih ⊢
        by_cases h0 : keyEq k0 k = true
        · simp [e1, h0, findKey]
        · simp only [e1, h0, Bool.false_eq_true, if_false, findKey]
          exact ih
      · simp only [hkk, Bool.false_eq_true, if_false] at ih ⊢
        by_cases h0 : keyEq k0 k = true
        · have : keyEq k0 k' = false := by
            cases h1 : keyEq k0 k' with
            | false => rfl
            | true =>
              exfalso
              apply hkk
              rw [keyEq_iff hk' hk, ← (keyEq_iff hk0 hk').1 h1, (keyEq_iff hk0 hk).1 h0]
          simp [this, findKey, h0]
        · by_cases h1 : keyEq k0 k' = true
          · simp only [h1, if_true, findKey, h0, Bool.false_eq_true, if_false]
            exact ih
          · simp only [h1, Bool.false_eq_true, if_false, findKey, h0]
            exact ih

/-- one bound folded into the rows of the block: only the row of its own key changes -/
theorem findKey_otherStep_pl {acc : List (BKey × Row)} (hacc : ∀ e ∈ acc, WfKey e.1) {rb : RawBound}
    (hrb : WfKey rb.key) {k : BKey} (hk : WfKey k) :
    findKey (otherStep acc rb) k =
      if keyEq rb.key k then some (Row.extend ((findKey acc k).getD []) rb.binds) else findKey acc k := by
  unfold otherStep
  change WfKey (rb.bounded, rb.tr) at hrb
  show findKey (match findKey acc (rb.bounded, rb.tr) with
    | some r => insertKey acc (rb.bounded, rb.tr) (Row.extend r rb.binds)
    | none => acc ++ [((rb.bounded, rb.tr), Row.extend [] rb.binds)]) k =
      if keyEq (rb.bounded, rb.tr) k then some (Row.extend ((findKey acc k).getD []) rb.binds) else findKey acc k
  cases hf : findKey acc (rb.bounded, rb.tr) with
  | none =>
    simp only
    rw [findKey_append]
    by_cases hkk : keyEq (rb.bounded, rb.tr) k = true
    · have hn := (keyEq_iff hrb hk).1 hkk
      have : findKey acc k = none := by rw [← findKey_congr hacc hrb hk hn]; exact hf
      simp [this, findKey, hkk]
    · simp only [hkk, Bool.false_eq_true, if_false, findKey]
      cases findKey acc k <;> rfl
  | some r =>
    simp only
    unfold insertKey
    rw [if_pos (findKey_some_any hf), findKey_replace_pl _ hrb hk acc hacc]
    by_cases hkk : keyEq (rb.bounded, rb.tr) k = true
    · have hn := (keyEq_iff hrb hk).1 hkk
      have : findKey acc k = some r := by rw [← findKey_congr hacc hrb hk hn]; exact hf
      simp [this, hkk]
    · simp [hkk]

/-- one step of the fold that computes the row of the key `k` -/
def rowStep_pl (k : BKey) (o : Option Row) (rb : RawBound) : Option Row :=
  if keyEq rb.key k then some (Row.extend (o.getD []) rb.binds) else o

theorem otherStep_wf_pl {acc : List (BKey × Row)} (hacc : ∀ e ∈ acc, WfKey e.1) {rb : RawBound} (hrb : WfKey rb.key) :
    ∀ e ∈ otherStep acc rb, WfKey e.1 := by
  intro e he
  rw [otherStep_eq] at he
  rcases mem_insertKey_keys (List.mem_map_of_mem he) with hm | hm
  · obtain ⟨e0, he0, h0⟩ := List.mem_map.1 hm
    rw [← h0]; exact hacc e0 he0
  · rw [hm]; exact hrb

theorem findKey_foldl_otherStep_pl {k : BKey} (hk : WfKey k) : ∀ (raw : List RawBound) (acc : List (BKey × Row)),
    (∀ e ∈ acc, WfKey e.1) → (∀ rb ∈ raw, WfKey rb.key) →
    findKey (raw.foldl otherStep acc) k = raw.foldl (rowStep_pl k) (findKey acc k)
  | [], _, _, _ => rfl
  | rb :: raw, acc, hacc, hraw => by
      rw [List.foldl_cons, List.foldl_cons,
        findKey_foldl_otherStep_pl hk raw _ (otherStep_wf_pl hacc (hraw rb (by simp)))
          (fun x hx => hraw x (List.mem_cons_of_mem _ hx)),
        findKey_otherStep_pl hacc (hraw rb (by simp)) hk]
      rfl

theorem wfBlk_iff_pl {b : Blk} : wfBlk b = true ↔ ∀ rb ∈ b.raw, WfKey rb.key := by
  simp only [wfBlk, List.all_eq_true]
  rfl

/-- **the member's own row for a key**: fold the bindings of the bounds with that key, in written order -/
theorem rowOf_eq_pl {b : Blk} (hb : wfBlk b = true) {k : BKey} (hk : WfKey k) :
    rowOf b k = b.raw.foldl (rowStep_pl k) none := by
  unfold rowOf
  rw [otherFold_eq, findKey_foldl_otherStep_pl hk b.raw [] (fun e he => by cases he) (wfBlk_iff_pl.1 hb)]
  rfl

theorem foldl_rowStep_isSome_pl (k : BKey) : ∀ (raw : List RawBound) (o : Option Row),
    (raw.foldl (rowStep_pl k) o).isSome = (o.isSome || raw.any (fun rb => keyEq rb.key k))
  | [], o => by simp
  | rb :: raw, o => by
      rw [List.foldl_cons, foldl_rowStep_isSome_pl k raw]
      unfold rowStep_pl
      by_cases h : keyEq rb.key k = true
      · simp [h]
      · simp [h]

/-- whether a block has a bound with the key `k` only depends on the set of its bounds -/
theorem rowOf_isSome_pl {b : Blk} (hb : wfBlk b = true) {k : BKey} (hk : WfKey k) :
    (rowOf b k).isSome = b.raw.any (fun rb => keyEq rb.key k) := by
  rw [rowOf_eq_pl hb hk, foldl_rowStep_isSome_pl]
  rfl

/-- one step of the fold that computes what the block binds `x` to under the key `k` -/
def cellStep_pl (k : BKey) (x : String) (o : Option T) (rb : RawBound) : Option T :=
  if keyEq rb.key k then bindFold_pl x o rb.binds else o

theorem foldl_rowStep_lookup_pl (k : BKey) (x : String) : ∀ (raw : List RawBound) (o : Option Row),
    rowLookup ((raw.foldl (rowStep_pl k) o).getD []) x = raw.foldl (cellStep_pl k x) (rowLookup (o.getD []) x)
  | [], _ => rfl
  | rb :: raw, o => by
      rw [List.foldl_cons, List.foldl_cons, foldl_rowStep_lookup_pl k x raw]
      congr 1
      unfold rowStep_pl cellStep_pl
      by_cases h : keyEq rb.key k = true
      · simp only [h, if_true, Option.getD_some]
        exact rowLookup_extend x rb.binds _
      · simp only [h, Bool.false_eq_true, if_false]

/-- **what a block binds an associated type to under a key**: the last binding among its bounds with that key -/
theorem cell_eq_pl {b : Blk} (hb : wfBlk b = true) {k : BKey} (hk : WfKey k) (x : String) :
    cell b (k, x) = b.raw.foldl (cellStep_pl k x) none := by
  unfold cell rowD
  simp only
  rw [rowOf_eq_pl hb hk, foldl_rowStep_lookup_pl]
  rfl

/-- what a single bound binds the associated type `x` to: its last binding of `x` -/
def lastBind_pl (rb : RawBound) (x : String) : Option T := bindFold_pl x none rb.binds

theorem cellStep_eq_pl (k : BKey) (x : String) (o : Option T) (rb : RawBound) :
    cellStep_pl k x o rb = if keyEq rb.key k then (match lastBind_pl rb x with | some v => some v | none => o) else o := by
  unfold cellStep_pl lastBind_pl
  rw [bindFold_or_pl]

/-- if all bounds with the key `k` that bind `x` agree on their (last) binding `p`, their order is immaterial -/
theorem foldl_cellStep_uniform_pl (k : BKey) (x : String) (p : T) : ∀ (raw : List RawBound) (o : Option T),
    (∀ rb ∈ raw, keyEq rb.key k = true → (lastBind_pl rb x).isSome = true → lastBind_pl rb x = some p) →
    raw.foldl (cellStep_pl k x) o =
      if raw.any (fun rb => keyEq rb.key k && (lastBind_pl rb x).isSome) then some p else o
  | [], _, _ => rfl
  | rb :: raw, o, h => by
      rw [List.foldl_cons, foldl_cellStep_uniform_pl k x p raw _ (fun r hr => h r (List.mem_cons_of_mem _ hr))]
      simp only [List.any_cons]
      rw [cellStep_eq_pl]
      by_cases hk : keyEq rb.key k = true
      · simp only [hk, if_true, Bool.true_and]
        cases hl : lastBind_pl rb x with
        | none => simp only [Option.isSome_none, Bool.false_or]
        | some v =>
          have := h rb (by simp) hk (by rw [hl]; rfl)
          rw [hl] at this
          cases this
          simp only [Option.isSome_some, Bool.true_or, if_true]
          split <;> rfl
      · have hk' := Bool.eq_false_iff.2 hk
        simp only [hk', Bool.false_eq_true, if_false, Bool.false_and, Bool.false_or]

/-! ### the side condition and the invariance under permutations of the bounds -/

/-- the bounds of the block with one dispatch key (same bounded type, `TraitBound::eq` trait paths) that bind an
    associated type agree on what they bind it to (for each bound: its last binding of that associated type). It fails
    for `T: D<G = A>` together with `T: D<G = B>`, inline or in the where-clause (rustc rejects such a block, but the
    macro runs first); it holds when a binding is merely repeated. -/
def noConflictingBindings (b : Blk) : Bool :=
  b.raw.all (fun rb => b.raw.all (fun rb' => !keyEq rb.key rb'.key ||
    rb.binds.all (fun e => (lastBind_pl rb' e.1).isNone || lastBind_pl rb e.1 == lastBind_pl rb' e.1)))

theorem noConflict_spec_pl {b : Blk} (h : noConflictingBindings b = true) {rb rb' : RawBound} (hrb : rb ∈ b.raw)
    (hrb' : rb' ∈ b.raw) (hk : keyEq rb.key rb'.key = true) {x : String} (hs : (lastBind_pl rb x).isSome = true)
    (hs' : (lastBind_pl rb' x).isSome = true) : lastBind_pl rb x = lastBind_pl rb' x := by
  simp only [noConflictingBindings, List.all_eq_true, Bool.or_eq_true, Bool.not_eq_true', beq_iff_eq] at h
  unfold lastBind_pl at hs
  rw [bindFold_isSome_pl] at hs
  simp only [Option.isSome_none, Bool.false_or, List.any_eq_true, beq_iff_eq] at hs
  obtain ⟨e, he, hx⟩ := hs
  rcases h rb hrb rb' hrb' with h1 | h1
  · rw [hk] at h1; cases h1
  · rcases h1 e he with h2 | h2
    · rw [hx] at h2
      cases hl : lastBind_pl rb' x with
      | none => rw [hl] at hs'; cases hs'
      | some v => rw [hl] at h2; cases h2
    · rw [hx] at h2; exact h2

theorem wfBlk_perm_pl {b b' : Blk} (hp : b'.raw.Perm b.raw) : wfBlk b' = wfBlk b := by
  unfold wfBlk
  exact hp.all_eq

theorem noConflict_perm_pl {b b' : Blk} (hp : b'.raw.Perm b.raw) : noConflictingBindings b' = noConflictingBindings b := by
  unfold noConflictingBindings
  rw [hp.all_eq]
  congr 1
  funext rb
  rw [hp.all_eq]

/-- what a block binds an associated type to under a key does not depend on the order of its bounds, provided the
    bounds with that key that bind it agree on the binding -/
theorem cell_perm_pl {b b' : Blk} (hp : b'.raw.Perm b.raw) (hb : wfBlk b = true) (hc : noConflictingBindings b = true)
    {k : BKey} (hk : WfKey k) (x : String) : cell b' (k, x) = cell b (k, x) := by
  have hb' : wfBlk b' = true := by rw [wfBlk_perm_pl hp]; exact hb
  rw [cell_eq_pl hb hk, cell_eq_pl hb' hk]
  by_cases hex : ∃ rb ∈ b.raw, keyEq rb.key k = true ∧ (lastBind_pl rb x).isSome = true
  · obtain ⟨rb0, hrb0, hk0, hs0⟩ := hex
    cases hl0 : lastBind_pl rb0 x with
    | none => rw [hl0] at hs0; cases hs0
    | some p =>
      have huni : ∀ rb ∈ b.raw, keyEq rb.key k = true → (lastBind_pl rb x).isSome = true → lastBind_pl rb x = some p := by
        intro rb hrb hkr hs
        have w0 := wfBlk_iff_pl.1 hb rb0 hrb0
        have w1 := wfBlk_iff_pl.1 hb rb hrb
        have hkk : keyEq rb.key rb0.key = true := by
          rw [keyEq_iff w1 w0, (keyEq_iff w1 hk).1 hkr, (keyEq_iff w0 hk).1 hk0]
        rw [noConflict_spec_pl hc hrb hrb0 hkk hs hs0, hl0]
      rw [foldl_cellStep_uniform_pl k x p b.raw none huni,
        foldl_cellStep_uniform_pl k x p b'.raw none (fun rb hrb => huni rb (hp.mem_iff.1 hrb)), hp.any_eq]
  · have huni : ∀ rb ∈ b.raw, keyEq rb.key k = true → (lastBind_pl rb x).isSome = true →
        lastBind_pl rb x = some (T.tparam "") := by
      intro rb hrb hkr hs
      exact absurd ⟨rb, hrb, hkr, hs⟩ hex
    rw [foldl_cellStep_uniform_pl k x _ b.raw none huni,
      foldl_cellStep_uniform_pl k x _ b'.raw none (fun rb hrb => huni rb (hp.mem_iff.1 hrb)), hp.any_eq]

/-- the block with the bound `rb` moved to the end of the list of bounds -/
def moveLast_pl (b : Blk) (rb : RawBound) : Blk := ⟨b.item, b.raw.erase rb ++ [rb]⟩

theorem moveLast_perm_pl {b : Blk} {rb : RawBound} (h : rb ∈ b.raw) : (moveLast_pl b rb).raw.Perm b.raw :=
  (List.perm_append_comm.trans (List.perm_cons_erase h).symm)

theorem cell_moveLast_pl {b : Blk} (hb : wfBlk b = true) {rb : RawBound} (h : rb ∈ b.raw) {k : BKey} (hk : WfKey k)
    (hkk : keyEq rb.key k = true) {x : String} {p : T} (hl : lastBind_pl rb x = some p) :
    cell (moveLast_pl b rb) (k, x) = some p := by
  have hb' : wfBlk (moveLast_pl b rb) = true := by rw [wfBlk_perm_pl (moveLast_perm_pl h)]; exact hb
  rw [cell_eq_pl hb' hk]
  show List.foldl (cellStep_pl k x) none (b.raw.erase rb ++ [rb]) = some p
  rw [List.foldl_append, List.foldl_cons, List.foldl_nil, cellStep_eq_pl, hkk, hl]
  rfl

/-- **the side condition is necessary, block by block**: a block that violates `noConflictingBindings` has a
    presentation with the bounds in another order that binds some associated type differently -/
theorem noConflict_necessary_pl {b : Blk} (hb : wfBlk b = true) (hc : noConflictingBindings b = false) :
    ∃ b', b'.item = b.item ∧ b'.raw.Perm b.raw ∧ ∃ k x, WfKey k ∧ cell b' (k, x) ≠ cell b (k, x) := by
  unfold noConflictingBindings at hc
  rw [List.all_eq_false] at hc
  obtain ⟨rb, hrb, h1⟩ := hc
  rw [Bool.not_eq_true, List.all_eq_false] at h1
  obtain ⟨rb', hrb', h2⟩ := h1
  rw [Bool.not_eq_true, Bool.or_eq_false_iff, List.all_eq_false] at h2
  obtain ⟨h3, e, he, h4⟩ := h2
  rw [Bool.not_eq_true, Bool.or_eq_false_iff] at h4
  have hkk : keyEq rb.key rb'.key = true := by simpa using h3
  have hsome : (lastBind_pl rb' e.1).isNone = false := h4.1
  have hdiff : ¬ lastBind_pl rb e.1 = lastBind_pl rb' e.1 := by simpa using h4.2
  have w := wfBlk_iff_pl.1 hb rb hrb
  have w' := wfBlk_iff_pl.1 hb rb' hrb'
  have hkk' : keyEq rb'.key rb.key = true := by rw [keyEq_iff w' w, (keyEq_iff w w').1 hkk]
  cases hq : lastBind_pl rb' e.1 with
  | none => rw [hq] at hsome; cases hsome
  | some q =>
    cases hp : lastBind_pl rb e.1 with
    | none =>
      exfalso
      have : (lastBind_pl rb e.1).isSome = true := by
        unfold lastBind_pl
        rw [bindFold_isSome_pl]
        simp only [Option.isSome_none, Bool.false_or, List.any_eq_true, beq_iff_eq]
        exact ⟨e, he, rfl⟩
      rw [hp] at this
      cases this
    | some p =>
      have hpq : p ≠ q := by
        intro e1
        apply hdiff
        rw [hp, hq, e1]
      have c1 := cell_moveLast_pl hb hrb w (keyEq_refl w) hp
      have c2 := cell_moveLast_pl hb hrb' w hkk' hq
      by_cases hcell : cell b (rb.key, e.1) = some p
      · refine ⟨moveLast_pl b rb', rfl, moveLast_perm_pl hrb', rb.key, e.1, w, ?_⟩
        rw [c2, hcell]
        intro e2
        exact hpq (Option.some.inj e2).symm
      · refine ⟨moveLast_pl b rb, rfl, moveLast_perm_pl hrb, rb.key, e.1, w, ?_⟩
        rw [c1]
        exact fun e2 => hcell e2.symm

theorem mem_unsized_pl {b : Blk} {p : T} : p ∈ b.unsized ↔ ∃ rb ∈ b.raw, rb.maybe = true ∧ rb.bounded = p := by
  unfold Blk.unsized
  simp only [List.mem_eraseDups, List.mem_map, List.mem_filter]
  constructor
  · rintro ⟨rb, ⟨h1, h2⟩, h3⟩; exact ⟨rb, h1, h2, h3⟩
  · rintro ⟨rb, h1, h2, h3⟩; exact ⟨rb, ⟨h1, h2⟩, h3⟩

/-! ### blocks with the same rows as finite maps -/

/-- **a block whose bounds are permuted**: same rows as finite maps, provided no associated type is bound twice to
    different payloads under one key -/
theorem blkSim_of_perm_pl {b b' : Blk} (hp : b'.raw.Perm b.raw) (hb : wfBlk b = true)
    (hc : noConflictingBindings b = true) : BlkSim_pl b b' := by
  have hb' : wfBlk b' = true := by rw [wfBlk_perm_pl hp]; exact hb
  refine ⟨hb, hb', ?_, ?_, ?_⟩
  · intro k hk
    rw [rowOf_isSome_pl hb hk, rowOf_isSome_pl hb' hk, hp.any_eq]
  · intro k hk x
    exact (cell_perm_pl hp hb hc hk x).symm
  · intro p
    rw [mem_unsized_pl, mem_unsized_pl]
    constructor
    · rintro ⟨rb, h1, h2⟩; exact ⟨rb, hp.mem_iff.2 h1, h2⟩
    · rintro ⟨rb, h1, h2⟩; exact ⟨rb, hp.mem_iff.1 h1, h2⟩

/-- bucket `blks'` presents the blocks of bucket `blks`, position by position -/
abbrev BlksSim_pl (blks blks' : List Blk) : Prop := Forall2 BlkSim_pl blks blks'

theorem blksSim_symm_pl {blks blks' : List Blk} (h : BlksSim_pl blks blks') : BlksSim_pl blks' blks :=
  h.flip.imp (fun _ _ hs => BlkSim_pl.symm hs)



/-- a key of a block is, up to spelling, a key of the block that presents it -/
theorem key_sim_pl {b b' : Blk} (hs : BlkSim_pl b b') {e : BKey × Row} (he : e ∈ otherFold b) :
    ∃ e' ∈ otherFold b', WfKey e.1 ∧ WfKey e'.1 ∧ nk e'.1 = nk e.1 := by
  have hwk : WfKey e.1 := wfBlk_key hs.wf he
  have h1 : (rowOf b' e.1).isSome = true := by rw [← hs.some _ hwk, rowOf_self hs.wf he]; rfl
  unfold rowOf at h1
  cases hf : findKey (otherFold b') e.1 with
  | none => rw [hf] at h1; cases h1
  | some r =>
    obtain ⟨k', hmem, hke⟩ := findKey_some_keyEq hf
    have hwk' : WfKey k' := wfBlk_key hs.wf' hmem
    exact ⟨(k', r), hmem, hwk, hwk', (keyEq_iff hwk' hwk).1 hke⟩

/-- a bucket and its presentation block by block correspond -/
theorem blksCorr_of_sim_pl {blks blks' : List Blk} (h : BlksSim_pl blks blks') : BlksCorr blks blks' :=
  ⟨h.left, h.right, h.length_eq⟩

theorem blksSim_wf_pl {blks blks' : List Blk} (h : BlksSim_pl blks blks') : ∀ b ∈ blks, wfBlk b = true :=
  (blksCorr_of_sim_pl h).wf

theorem accOK_sim_pl {blks blks' : List Blk} (h : BlksSim_pl blks blks') (hnd : blks.Nodup) (hnd' : blks'.Nodup) :
    accOK blks = accOK blks' :=
  accOK_corr (blksCorr_of_sim_pl h) (blksCorr_of_sim_pl (blksSim_symm_pl h)) (h.flip.pair hnd)
    ((blksSim_symm_pl h).flip.pair hnd') hnd hnd'

/-! ### the verdict of the bucket-by-bucket loop -/

/-- the outcome of the grouping, without the families: accepted, rejected with "Unable to form impl group" for a
    header, or a panic -/
inductive Verdict where
  | accepted
  | unable (id : T)
  | panic (e : SearchErr)
  deriving Repr, DecidableEq

def ParseResult.verdict : ParseResult → Verdict
  | .ok _ => .accepted
  | .unableToForm id => .unable id
  | .panic e => .panic e

theorem ParseResult.verdict_accepted {r : ParseResult} : r.verdict = .accepted ↔ ∃ g, r = .ok g := by
  cases r <;> simp [ParseResult.verdict]

theorem ParseResult.verdict_unable {r : ParseResult} {id : T} : r.verdict = .unable id ↔ r = .unableToForm id := by
  cases r <;> simp [ParseResult.verdict]

theorem ParseResult.verdict_panic {r : ParseResult} {e : SearchErr} : r.verdict = .panic e ↔ r = .panic e := by
  cases r <;> simp [ParseResult.verdict]

/-- the first bucket at which the loop stops: its header and whether it panics -/
def firstBad_pl (l : List (T × List Blk)) : Option (T × Bool) :=
  (l.find? bucketBad_pl).map (fun bk => (bk.1, bucketPanics bk))

theorem flatResult_verdict_pl (l : List (T × List Blk)) (acc : Groups) :
    (flatResult_pl l acc).verdict = match firstBad_pl l with
      | none => .accepted
      | some (id, p) => if p then .panic .unwrapNone else .unable id := by
  unfold flatResult_pl firstBad_pl
  cases l.find? bucketBad_pl with
  | none => rfl
  | some bk =>
    simp only [Option.map_some]
    cases bucketPanics bk <;> rfl

/-! ### two presentations of the buckets -/

/-- bucket by bucket the same header, and block by block the same rows as finite maps -/
abbrev BucketsSim_pl (l l' : List (T × List Blk)) : Prop :=
  Forall2 (fun bk bk' => bk.1 = bk'.1 ∧ BlksSim_pl bk.2 bk'.2) l l'

theorem firstBad_sim_pl {l l' : List (T × List Blk)} (h : BucketsSim_pl l l')
    (hnd : ∀ bk ∈ l, bk.2.Nodup) (hnd' : ∀ bk ∈ l', bk.2.Nodup) : firstBad_pl l = firstBad_pl l' := by
  induction h with
  | nil => rfl
  | @cons bk bk' t t' hb _ ih =>
    have hpan : bucketPanics bk = bucketPanics bk' := by
      unfold bucketPanics
      rw [hb.1, hb.2.length_eq]
    have hacc : accOK bk.2 = accOK bk'.2 := accOK_sim_pl hb.2 (hnd bk (by simp)) (hnd' bk' (by simp))
    have hbad : bucketBad_pl bk = bucketBad_pl bk' := by unfold bucketBad_pl; rw [hpan, hacc]
    have ih' := ih (fun b hb => hnd b (List.mem_cons_of_mem _ hb)) (fun b hb => hnd' b (List.mem_cons_of_mem _ hb))
    unfold firstBad_pl at ih' ⊢
    rw [List.find?_cons, List.find?_cons, ← hbad]
    cases bucketBad_pl bk with
    | true => simp only [Option.map_some, hb.1, hpan]
    | false => exact ih'

/-- buckets that correspond position by position satisfy the side condition of the loop together -/
theorem buckets_hyps_pl {R : Blk → Blk → Prop} {l l' : List (T × List Blk)}
    (h : Forall2 (fun bk bk' => bk.1 = bk'.1 ∧ Forall2 R bk.2 bk'.2) l l')
    (hl : ∀ bk ∈ l, selfWeak bk.1 = true ∧ bk.2 ≠ []) : ∀ bk' ∈ l', selfWeak bk'.1 = true ∧ bk'.2 ≠ [] := by
  intro bk' hbk'
  obtain ⟨bk, hbk, h1, h2⟩ := h.right bk' hbk'
  refine ⟨h1 ▸ (hl bk hbk).1, fun e => (hl bk hbk).2 (List.length_eq_zero_iff.1 ?_)⟩
  rw [h2.length_eq, e]; rfl

/-- acceptance, the kind of rejection and the reported header agree for two presentations of the buckets -/
theorem goFlat_sim_verdict_pl {l l' : List (T × List Blk)} (h : BucketsSim_pl l l')
    (hl : ∀ bk ∈ l, selfWeak bk.1 = true ∧ bk.2 ≠ []) (hnd : ∀ bk ∈ l, bk.2.Nodup) (hnd' : ∀ bk ∈ l', bk.2.Nodup) :
    (goFlat l []).verdict = (goFlat l' []).verdict := by
  have hl' := buckets_hyps_pl h hl
  rw [goFlat_eq_pl l [] hl, goFlat_eq_pl l' [] hl', flatResult_verdict_pl, flatResult_verdict_pl,
    firstBad_sim_pl h hnd hnd']

theorem goFlat_ok_groups_pl {l : List (T × List Blk)} {g : Groups} (hl : ∀ bk ∈ l, selfWeak bk.1 = true ∧ bk.2 ≠ [])
    (h : goFlat l [] = .ok g) : g = l.map grpOf_pl := by
  rw [goFlat_eq_pl l [] hl] at h
  unfold flatResult_pl at h
  cases hf : l.find? bucketBad_pl with
  | none => rw [hf] at h; simp only [List.nil_append] at h; cases h; rfl
  | some bk =>
    rw [hf] at h
    simp only at h
    split at h <;> cases h

/-! ### the families of two presentations -/

/-- two rows bind every associated type to the same payload (rows compared as finite maps) -/
def RowEq_pl (r r' : Row) : Prop := ∀ a, rowLookup r a = rowLookup r' a

/-- every key of the pruned family of one presentation is, up to spelling, a key of the other, with the same row (as a
    finite map) for every member -/
theorem pruneB_famSpec_sim_pl {blks blks' : List Blk} {l l' : Blk} (h : BlksSim_pl blks blks') (hl : l ∈ blks)
    (hl' : l' ∈ blks') :
    ∀ kr ∈ pruneB (famSpec blks l), ∃ kr' ∈ pruneB (famSpec blks' l'), keyEq kr.1 kr'.1 = true ∧ WfKey kr.1 ∧ WfKey kr'.1 ∧
      Forall2 RowEq_pl kr.2 kr'.2 := by
  intro kr hkr
  obtain ⟨kr', hkr', h1, h2, h3, h4, h5⟩ := pruneB_famSpec_corr (blksCorr_of_sim_pl h) hl hl' kr hkr
  refine ⟨kr', hkr', (keyEq_iff h1 h2).2 h3.symm, h1, h2, ?_⟩
  rw [h4, h5]
  apply h.map _ _
  intro b b' hs a
  show rowLookup (rowD b kr.1) a = rowLookup (rowD b' kr'.1) a
  rw [rowD_congr hs.wf' h2 h1 h3]
  exact hs.cell kr.1 h1 a

/-- two families correspond: same header, members position by position with the same rows as finite maps, the same
    keys up to spelling and order (`nk`: bounded type and dispatch key of the trait path), under corresponding keys
    every member has the same row as a finite map, and the same `?Sized` set -/
def FamSim_pl (e e' : T × ABG × List Blk) : Prop :=
  e.1 = e'.1 ∧ BlksSim_pl e.2.2 e'.2.2 ∧
  (e.2.1.bounds.map (fun kr => nk kr.1)).Perm (e'.2.1.bounds.map (fun kr => nk kr.1)) ∧
  (∀ kr ∈ e.2.1.bounds, ∃ kr' ∈ e'.2.1.bounds, keyEq kr.1 kr'.1 = true ∧ Forall2 RowEq_pl kr.2 kr'.2) ∧
  (∀ kr' ∈ e'.2.1.bounds, ∃ kr ∈ e.2.1.bounds, keyEq kr.1 kr'.1 = true ∧ Forall2 RowEq_pl kr.2 kr'.2) ∧
  ∀ p, p ∈ e.2.1.unsized ↔ p ∈ e'.2.1.unsized

theorem rowEq_symm_pl {rs rs' : List Row} (h : Forall2 RowEq_pl rs rs') : Forall2 RowEq_pl rs' rs :=
  h.flip.imp (fun _ _ hr a => (hr a).symm)

theorem grpOf_sim_pl {bk bk' : T × List Blk} (hid : bk.1 = bk'.1) (h : BlksSim_pl bk.2 bk'.2) (hne : bk.2 ≠ []) :
    FamSim_pl (grpOf_pl bk) (grpOf_pl bk') := by
  have hc := blksCorr_of_sim_pl h
  have hc' := blksCorr_of_sim_pl (blksSim_symm_pl h)
  have hne' : bk'.2 ≠ [] := fun e => hne (List.length_eq_zero_iff.1 (by rw [hc.len, e]; rfl))
  obtain ⟨l, hl, hspec, _⟩ := famBL_spec hne hc.wf
  obtain ⟨l', hl', hspec', _⟩ := famBL_spec hne' hc.wf'
  refine ⟨hid, h, ?_, ?_, ?_, fun p => ⟨famUL_corr hc p, famUL_corr hc' p⟩⟩
  · show ((pruneB (famBL bk.2)).map _).Perm ((pruneB (famBL bk'.2)).map _)
    rw [hspec, hspec']
    exact pruneB_famSpec_keys_corr hc hc' hl hl'
  · show ∀ kr ∈ pruneB (famBL bk.2), ∃ kr' ∈ pruneB (famBL bk'.2), _
    rw [hspec, hspec']
    intro kr hkr
    obtain ⟨kr', hkr', h1, _, _, h4⟩ := pruneB_famSpec_sim_pl h hl hl' kr hkr
    exact ⟨kr', hkr', h1, h4⟩
  · show ∀ kr' ∈ pruneB (famBL bk'.2), ∃ kr ∈ pruneB (famBL bk.2), _
    rw [hspec, hspec']
    intro kr' hkr'
    obtain ⟨kr, hkr, h1, h2, h3, h4⟩ := pruneB_famSpec_sim_pl (blksSim_symm_pl h) hl' hl kr' hkr'
    exact ⟨kr, hkr, (keyEq_iff h3 h2).2 ((keyEq_iff h2 h3).1 h1).symm, rowEq_symm_pl h4⟩

/-- the families of two presentations of the buckets correspond, family by family in the same order -/
theorem goFlat_sim_families_pl {l l' : List (T × List Blk)} {g g' : Groups} (h : BucketsSim_pl l l')
    (hl : ∀ bk ∈ l, selfWeak bk.1 = true ∧ bk.2 ≠ []) (hg : goFlat l [] = .ok g) (hg' : goFlat l' [] = .ok g') :
    Forall2 FamSim_pl g g' := by
  have hl' := buckets_hyps_pl h hl
  rw [goFlat_ok_groups_pl hl hg, goFlat_ok_groups_pl hl' hg']
  clear hg hg' hl'
  induction h with
  | nil => exact .nil
  | @cons bk bk' t t' hb _ ih =>
    exact .cons (grpOf_sim_pl hb.1 hb.2 (hl bk (by simp)).2) (ih (fun b hb => hl b (List.mem_cons_of_mem _ hb)))

/-! ### presentations that differ by the placement and order of the bounds -/

/-- `b'` presents the block `b` with its bounds placed / ordered differently: the same canonical header, and the
    bounds `TraitBoundsVisitor::find` lists for `b'` are a permutation of those it lists for `b` -/
def PlacedAs (b b' : Blk) : Prop := groupIdOf b.item = groupIdOf b'.item ∧ b'.raw.Perm b.raw

/-- executable form of `PlacedAs` -/
def placedAsB (b b' : Blk) : Bool := groupIdOf b.item == groupIdOf b'.item && b'.raw.isPerm b.raw

theorem placedAsB_iff {b b' : Blk} : placedAsB b b' = true ↔ PlacedAs b b' := by
  simp only [placedAsB, PlacedAs, Bool.and_eq_true, beq_iff_eq, List.isPerm_iff]

/-- executable form of `Forall2` -/
def forall2B_pl {α β : Type} (r : α → β → Bool) : List α → List β → Bool
  | [], [] => true
  | a :: l1, b :: l2 => r a b && forall2B_pl r l1 l2
  | _, _ => false

theorem forall2B_iff_pl {α β : Type} {r : α → β → Bool} {R : α → β → Prop} (hr : ∀ a b, r a b = true ↔ R a b) :
    ∀ (l1 : List α) (l2 : List β), forall2B_pl r l1 l2 = true ↔ Forall2 R l1 l2
  | [], [] => by simp [forall2B_pl, Forall2.nil]
  | [], _ :: _ => by simp only [forall2B_pl]; exact ⟨fun h => (by cases h), fun h => (by cases h)⟩
  | _ :: _, [] => by simp only [forall2B_pl]; exact ⟨fun h => (by cases h), fun h => (by cases h)⟩
  | a :: l1, b :: l2 => by
      simp only [forall2B_pl, Bool.and_eq_true, hr, forall2B_iff_pl hr l1 l2]
      constructor
      · rintro ⟨h1, h2⟩; exact .cons h1 h2
      · intro h; cases h with | cons h1 h2 => exact ⟨h1, h2⟩

/-- bucket by bucket the same header, and block by block a presentation with the bounds placed / ordered differently -/
def BucketsPlaced (l l' : List (T × List Blk)) : Prop :=
  Forall2 (fun bk bk' => bk.1 = bk'.1 ∧ Forall2 PlacedAs bk.2 bk'.2) l l'

/-- executable form of `BucketsPlaced` -/
def bucketsPlacedB (l l' : List (T × List Blk)) : Bool :=
  forall2B_pl (fun bk bk' => bk.1 == bk'.1 && forall2B_pl placedAsB bk.2 bk'.2) l l'

theorem bucketsPlacedB_iff {l l' : List (T × List Blk)} : bucketsPlacedB l l' = true ↔ BucketsPlaced l l' := by
  unfold bucketsPlacedB BucketsPlaced
  apply forall2B_iff_pl
  intro bk bk'
  simp only [Bool.and_eq_true, beq_iff_eq, forall2B_iff_pl (fun a b => placedAsB_iff (b := a) (b' := b))]

/-- executable side condition on the buckets (what `flatWF0` gives for the buckets `mkBuckets` builds, plus
    `noConflictingBindings`): a header that matches itself does so with identity bindings only, no bucket is empty,
    every trait path of a bound can be compared, no associated type is bound twice to different payloads under one
    key, and the blocks of a bucket are pairwise different -/
def flatBucketsOK_pl (l : List (T × List Blk)) : Bool :=
  l.all (fun bk => selfWeak bk.1 && !bk.2.isEmpty && bk.2.all (fun b => wfBlk b && noConflictingBindings b) &&
    decide bk.2.Nodup)

/-- the blocks of every bucket are pairwise different (true of the buckets `mkBuckets` builds) -/
def bucketsNodup_pl (l : List (T × List Blk)) : Bool := l.all (fun bk => decide bk.2.Nodup)

theorem flatBucketsOK_spec_pl {l : List (T × List Blk)} (h : flatBucketsOK_pl l = true) :
    ∀ bk ∈ l, (selfWeak bk.1 = true ∧ bk.2 ≠ []) ∧ (∀ b ∈ bk.2, wfBlk b = true ∧ noConflictingBindings b = true) ∧
      bk.2.Nodup := by
  intro bk hbk
  simp only [flatBucketsOK_pl, List.all_eq_true, Bool.and_eq_true, Bool.not_eq_true', List.isEmpty_eq_false_iff,
    decide_eq_true_eq] at h
  obtain ⟨⟨⟨h1, h2⟩, h3⟩, h4⟩ := h bk hbk
  exact ⟨⟨h1, h2⟩, h3, h4⟩

theorem bucketsSim_of_placed_pl {l l' : List (T × List Blk)} (h : BucketsPlaced l l')
    (hok : ∀ bk ∈ l, ∀ b ∈ bk.2, wfBlk b = true ∧ noConflictingBindings b = true) : BucketsSim_pl l l' :=
  h.mem.imp fun bk _ ⟨hbk, _, hid, hbl⟩ => ⟨hid, hbl.mem.imp fun b _ ⟨hb, _, hp⟩ =>
    blkSim_of_perm_pl hp.2 (hok bk hbk b hb).1 (hok bk hbk b hb).2⟩

/-- **acceptance does not depend on the placement and order of the bounds** (loop over explicit flat buckets): the
    same verdict — accepted, "Unable to form impl group" for the same header, or the same panic -/
theorem goFlat_placement_verdict_pl {l l' : List (T × List Blk)} (hpl : BucketsPlaced l l')
    (hok : flatBucketsOK_pl l = true) (hnd' : bucketsNodup_pl l' = true) :
    (goFlat l []).verdict = (goFlat l' []).verdict := by
  have hs := flatBucketsOK_spec_pl hok
  apply goFlat_sim_verdict_pl (bucketsSim_of_placed_pl hpl (fun bk hbk => (hs bk hbk).2.1))
    (fun bk hbk => (hs bk hbk).1) (fun bk hbk => (hs bk hbk).2.2)
  simpa [bucketsNodup_pl] using hnd'

/-- **the families do not depend on the placement and order of the bounds** (loop over explicit flat buckets) -/
theorem goFlat_placement_families_pl {l l' : List (T × List Blk)} {g g' : Groups} (hpl : BucketsPlaced l l')
    (hok : flatBucketsOK_pl l = true) (hg : goFlat l [] = .ok g) (hg' : goFlat l' [] = .ok g') :
    Forall2 FamSim_pl g g' := by
  have hs := flatBucketsOK_spec_pl hok
  exact goFlat_sim_families_pl (bucketsSim_of_placed_pl hpl (fun bk hbk => (hs bk hbk).2.1))
    (fun bk hbk => (hs bk hbk).1) hg hg'

/-! ### on `parseGroups` -/

/-- no block of the invocation binds an associated type twice to different payloads under one key -/
def noConflictingBindingsAll (items : List T) : Bool := (items.map mkBlk).all noConflictingBindings

theorem buckets_ok_pl (items : List T) (hwf : flatWF0 items = true) (hc : noConflictingBindingsAll items = true) :
    flatBucketsOK_pl (mkBuckets (items.map mkBlk)) = true := by
  simp only [flatBucketsOK_pl, List.all_eq_true, Bool.and_eq_true, Bool.not_eq_true', List.isEmpty_eq_false_iff,
    decide_eq_true_eq]
  intro bk hbk
  obtain ⟨h1, h2, h3, h4, h5⟩ := buckets_facts items hwf bk hbk
  refine ⟨⟨⟨h1, h2⟩, fun b hb => ⟨h4 b hb, ?_⟩⟩, h3⟩
  simp only [noConflictingBindingsAll, List.all_eq_true] at hc
  exact hc b ((h5 b).1 hb).1

theorem buckets_nodup_pl (items : List T) : bucketsNodup_pl (mkBuckets (items.map mkBlk)) = true := by
  simp only [bucketsNodup_pl, List.all_eq_true, decide_eq_true_eq]
  intro bk hbk
  exact nodup_of_items_nodup ((mkBuckets_inv (items.map mkBlk)).good bk hbk).2.1

theorem bucketsPlaced_ids_pl {l l' : List (T × List Blk)} (h : BucketsPlaced l l') : l.map (·.1) = l'.map (·.1) := by
  induction h with
  | nil => rfl
  | cons hb _ ih => simp only [List.map_cons, ih, hb.1]

/-- two un-nested invocations whose buckets correspond up to the placement / order of the bounds: `parseGroups` is the
    loop over the buckets for both -/
theorem parseGroups_placed_flat_pl {items items' : List T}
    (hpl : BucketsPlaced (mkBuckets (items.map mkBlk)) (mkBuckets (items'.map mkBlk)))
    (hms : msPairs ((mkBuckets (items.map mkBlk)).map (·.1)) = []) :
    parseGroups items = goFlat (mkBuckets (items.map mkBlk)) [] ∧
    parseGroups items' = goFlat (mkBuckets (items'.map mkBlk)) [] := by
  have hms' : msPairs ((mkBuckets (items'.map mkBlk)).map (·.1)) = [] := by
    rw [← bucketsPlaced_ids_pl hpl]; exact hms
  exact ⟨parseGroups_flat items (no_subsets_of_msPairs_nil hms), parseGroups_flat items' (no_subsets_of_msPairs_nil hms')⟩

theorem parseGroups_placement_verdict_pl {items items' : List T}
    (hpl : BucketsPlaced (mkBuckets (items.map mkBlk)) (mkBuckets (items'.map mkBlk)))
    (hms : msPairs ((mkBuckets (items.map mkBlk)).map (·.1)) = []) (hwf : flatWF0 items = true)
    (hc : noConflictingBindingsAll items = true) :
    (parseGroups items).verdict = (parseGroups items').verdict := by
  obtain ⟨h1, h2⟩ := parseGroups_placed_flat_pl hpl hms
  rw [h1, h2]
  exact goFlat_placement_verdict_pl hpl (buckets_ok_pl items hwf hc) (buckets_nodup_pl items')

theorem parseGroups_placement_families_pl {items items' : List T} {g g' : Groups}
    (hpl : BucketsPlaced (mkBuckets (items.map mkBlk)) (mkBuckets (items'.map mkBlk)))
    (hms : msPairs ((mkBuckets (items.map mkBlk)).map (·.1)) = []) (hwf : flatWF0 items = true)
    (hc : noConflictingBindingsAll items = true) (hg : parseGroups items = .ok g) (hg' : parseGroups items' = .ok g') :
    Forall2 FamSim_pl g g' := by
  obtain ⟨h1, h2⟩ := parseGroups_placed_flat_pl hpl hms
  rw [h1] at hg
  rw [h2] at hg'
  exact goFlat_placement_families_pl hpl (buckets_ok_pl items hwf hc) hg hg'

/-! ### the semantic level: the same block -/

/-- the generics of a (canonical) block -/
def genericsOf_pl (item : T) : T := (implGenerics item).getD (.node "?" [] [])

/-- `it'` presents the block `it` with its bounds placed / ordered differently: `PlacedAs` on the canonical blocks,
    and the same declared type parameters (as a set) -/
def PlacedItem (it it' : T) : Prop :=
  PlacedAs (mkBlk it) (mkBlk it') ∧
  ∀ x, x ∈ typeParamNames (genericsOf_pl (canon it)) ↔ x ∈ typeParamNames (genericsOf_pl (canon it'))

/-- executable form of `PlacedItem` -/
def placedItemB (it it' : T) : Bool :=
  placedAsB (mkBlk it) (mkBlk it') &&
  (typeParamNames (genericsOf_pl (canon it))).all (fun x => (typeParamNames (genericsOf_pl (canon it'))).contains x) &&
  (typeParamNames (genericsOf_pl (canon it'))).all (fun x => (typeParamNames (genericsOf_pl (canon it))).contains x)

theorem placedItemB_iff {it it' : T} : placedItemB it it' = true ↔ PlacedItem it it' := by
  simp only [placedItemB, PlacedItem, Bool.and_eq_true, placedAsB_iff, List.all_eq_true, List.contains_iff_mem]
  constructor
  · rintro ⟨⟨h1, h2⟩, h3⟩; exact ⟨h1, fun x => ⟨h2 x, h3 x⟩⟩
  · rintro ⟨h1, h2⟩; exact ⟨⟨h1, fun x => (h2 x).1⟩, fun x => (h2 x).2⟩

theorem applies_of_sub_pl {W : World} {b b' : Block} (hh : b'.hdr = b.hdr) (hc : ∀ c ∈ b'.clauses, c ∈ b.clauses)
    (hs : ∀ p ∈ b'.sizedParams, p ∈ b.sizedParams) {q : T} : applies W b q → applies W b' q := by
  rintro ⟨ρ, h0, h1, h2, h3⟩
  exact ⟨ρ, wkB_of_sub hh hc hs h0, by rw [hh]; exact h1, fun c hcm => h2 c (hc c hcm), fun p hp => h3 p (hs p hp)⟩

theorem isMaybeSizedOn_perm_pl {raw raw' : List RawBound} (hp : raw'.Perm raw) (x : String) :
    isMaybeSizedOn raw' x = isMaybeSizedOn raw x := by
  unfold isMaybeSizedOn
  exact hp.any_eq

theorem mkBlock_sub_pl {it it' : T} (hraw : ∀ rb, rb ∈ (mkBlk it').raw → rb ∈ (mkBlk it).raw)
    (hany : ∀ x, isMaybeSizedOn (mkBlk it').raw x = isMaybeSizedOn (mkBlk it).raw x)
    (hhdr : groupIdOf (mkBlk it').item = groupIdOf (mkBlk it).item)
    (hnames : ∀ x, x ∈ typeParamNames (genericsOf_pl (canon it')) → x ∈ typeParamNames (genericsOf_pl (canon it)))
    (W : World) (q : T) : applies W (mkBlock (canon it)) q → applies W (mkBlock (canon it')) q := by
  apply applies_of_sub_pl
  · exact hhdr
  · intro c hc
    simp only [mkBlock, List.mem_map, List.mem_filter] at hc ⊢
    obtain ⟨rb, ⟨h1, h2⟩, rfl⟩ := hc
    exact ⟨rb, ⟨hraw rb h1, h2⟩, rfl⟩
  · intro p hp
    simp only [mkBlock, List.mem_filter] at hp ⊢
    refine ⟨hnames p hp.1, ?_⟩
    have := hany p
    simp only [mkBlk] at this
    rw [← this]
    exact hp.2

/-- a block and its presentation with the bounds placed / ordered differently apply to the same queries -/
theorem applies_placed_pl {it it' : T} (h : PlacedItem it it') (W : World) (q : T) :
    applies W (mkBlock (canon it)) q ↔ applies W (mkBlock (canon it')) q := by
  obtain ⟨⟨hid, hp⟩, hn⟩ := h
  constructor
  · exact mkBlock_sub_pl (fun rb => hp.mem_iff.1) (isMaybeSizedOn_perm_pl hp) hid.symm (fun x => (hn x).2) W q
  · exact mkBlock_sub_pl (fun rb => hp.mem_iff.2) (isMaybeSizedOn_perm_pl hp.symm) hid (fun x => (hn x).1) W q

theorem exists_applies_placed_pl {items items' : List T} (h : Forall2 PlacedItem items items') (W : World) (q : T) :
    (∃ it ∈ items, applies W (mkBlock (canon it)) q) ↔ (∃ it' ∈ items', applies W (mkBlock (canon it')) q) := by
  constructor
  · rintro ⟨it, hit, ha⟩
    obtain ⟨it', hit', hp⟩ := h.left it hit
    exact ⟨it', hit', (applies_placed_pl hp W q).1 ha⟩
  · rintro ⟨it', hit', ha⟩
    obtain ⟨it, hit, hp⟩ := h.right it' hit'
    exact ⟨it, hit, (applies_placed_pl hp W q).2 ha⟩

/-! ### an executable form of the correspondence of two families (for the test harness) -/

/-- executable form of `RowEq_pl` -/
def rowEqB_pl (r r' : Row) : Bool := (r ++ r').all (fun e => rowLookup r e.1 == rowLookup r' e.1)

theorem rowEqB_iff_pl {r r' : Row} : rowEqB_pl r r' = true ↔ RowEq_pl r r' := by
  simp only [rowEqB_pl, List.all_eq_true, beq_iff_eq, RowEq_pl]
  constructor
  · intro h a
    by_cases h1 : a ∈ r.map (·.1)
    · obtain ⟨e, he, rfl⟩ := List.mem_map.1 h1
      exact h e (List.mem_append.2 (Or.inl he))
    · by_cases h2 : a ∈ r'.map (·.1)
      · obtain ⟨e, he, rfl⟩ := List.mem_map.1 h2
        exact h e (List.mem_append.2 (Or.inr he))
      · have n1 : rowLookup r a = none := by
          cases hl : rowLookup r a with
          | none => rfl
          | some v => exact absurd ((rowLookup_isSome_iff_fa r a).1 (by rw [hl]; rfl)) h1
        have n2 : rowLookup r' a = none := by
          cases hl : rowLookup r' a with
          | none => rfl
          | some v => exact absurd ((rowLookup_isSome_iff_fa r' a).1 (by rw [hl]; rfl)) h2
        rw [n1, n2]
  · intro h e _
    exact h e.1

/-- executable consequence of `FamSim_pl` together with `PlacedAs` for the members: what the harness compares on the
    families computed for two presentations of an invocation -/
def famSimB_pl (e e' : T × ABG × List Blk) : Bool :=
  e.1 == e'.1 && forall2B_pl placedAsB e.2.2 e'.2.2 &&
  (e.2.1.bounds.map (fun kr => nk kr.1)).isPerm (e'.2.1.bounds.map (fun kr => nk kr.1)) &&
  e.2.1.bounds.all (fun kr => e'.2.1.bounds.any (fun kr' => keyEq kr.1 kr'.1 && forall2B_pl rowEqB_pl kr.2 kr'.2)) &&
  e'.2.1.bounds.all (fun kr' => e.2.1.bounds.any (fun kr => keyEq kr.1 kr'.1 && forall2B_pl rowEqB_pl kr.2 kr'.2)) &&
  e.2.1.unsized.all (fun p => e'.2.1.unsized.contains p) && e'.2.1.unsized.all (fun p => e.2.1.unsized.contains p)

theorem famSimB_of_pl {e e' : T × ABG × List Blk} (h : FamSim_pl e e') (hm : Forall2 PlacedAs e.2.2 e'.2.2) :
    famSimB_pl e e' = true := by
  obtain ⟨h1, _, h3, h4, h5, h6⟩ := h
  have hrows : ∀ rs rs', Forall2 RowEq_pl rs rs' → forall2B_pl rowEqB_pl rs rs' = true :=
    fun rs rs' hr => (forall2B_iff_pl (fun a b => rowEqB_iff_pl (r := a) (r' := b)) rs rs').2 hr
  simp only [famSimB_pl, Bool.and_eq_true, beq_iff_eq, List.all_eq_true, List.any_eq_true, List.contains_iff_mem,
    List.isPerm_iff]
  refine ⟨⟨⟨⟨⟨⟨h1, (forall2B_iff_pl (fun a b => placedAsB_iff (b := a) (b' := b)) _ _).2 hm⟩, h3⟩, ?_⟩, ?_⟩,
    fun p hp => (h6 p).1 hp⟩, fun p hp => (h6 p).2 hp⟩
  · intro kr hkr
    obtain ⟨kr', hkr', hk, hr⟩ := h4 kr hkr
    exact ⟨kr', hkr', hk, hrows _ _ hr⟩
  · intro kr' hkr'
    obtain ⟨kr, hkr, hk, hr⟩ := h5 kr' hkr'
    exact ⟨kr, hkr, hk, hrows _ _ hr⟩

/-! ### moving a bound permutes what `TraitBoundsVisitor::find` lists -/

/-- the trait bounds a generic parameter contributes -/
def paramBounds_pl (xp : String × T) : List RawBound :=
  match typeParamBounds xp.2 with
  | some (x, bs) => boundsOf (mkTypeIdent x) bs
  | none => []

/-- the trait bounds a where-predicate contributes -/
def whereBounds_pl (w : T) : List RawBound :=
  match w with
  | .node "WherePredicate::Type" [] [.node "PredicateType" [] [_, bounded, .node "List" [] bs]] => boundsOf bounded bs
  | _ => []

/-- the generic parameters with their identifiers, in declaration order -/
def identParams_pl (g : T) : List (String × T) :=
  (genericsParams g).filterMap (fun p => (paramIdent p).map (fun x => (x, p)))

theorem findBounds_eq_pl (g : T) :
    findBounds g = (sortByIdent (identParams_pl g)).flatMap paramBounds_pl ++ (genericsWhere g).flatMap whereBounds_pl := rfl

/-- the trait bounds of a block without the sorting of the parameters: parameters in declaration order, then the
    where-clause -/
def unsortedBounds_pl (g : T) : List RawBound :=
  (identParams_pl g).flatMap paramBounds_pl ++ (genericsWhere g).flatMap whereBounds_pl

theorem insertByIdent_perm_pl (x : String × T) : ∀ (ys : List (String × T)), (insertByIdent x ys).Perm (x :: ys)
  | [] => List.Perm.refl _
  | y :: ys => by
      unfold insertByIdent
      split
      · exact ((insertByIdent_perm_pl x ys).cons y).trans (List.Perm.swap x y ys)
      · exact List.Perm.refl _

theorem sortByIdent_perm_pl : ∀ (xs : List (String × T)), (sortByIdent xs).Perm xs
  | [] => List.Perm.refl _
  | x :: xs => by
      show (insertByIdent x (sortByIdent xs)).Perm (x :: xs)
      exact (insertByIdent_perm_pl x _).trans ((sortByIdent_perm_pl xs).cons x)

/-- `TraitBoundsVisitor::find` lists the bounds of the parameters in declaration order and of the where-clause, up
    to a permutation (it sorts the parameters by identifier) -/
theorem findBounds_perm_unsorted_pl (g : T) : (findBounds g).Perm (unsortedBounds_pl g) := by
  rw [findBounds_eq_pl]
  unfold unsortedBounds_pl
  exact List.Perm.append_right _ ((sortByIdent_perm_pl _).flatMap_right _)

theorem boundsOf_append_pl (bounded : T) (bs1 bs2 : List T) :
    boundsOf bounded (bs1 ++ bs2) = boundsOf bounded bs1 ++ boundsOf bounded bs2 := by
  unfold boundsOf
  rw [List.filterMap_append]

/-- the type parameter `x` with the bounds `bs` (the other fields — attributes, colon, `=`, default — arbitrary) -/
def typeParam_pl (a c e d : T) (x : String) (bs : List T) : T :=
  .node "GenericParam::Type" [] [.node "TypeParam" [] [a, .node "Ident" [x] [], c, .node "List" [] bs, e, d]]

/-- the where-predicate `bounded: bs` -/
def wherePred_pl (lts bounded : T) (bs : List T) : T :=
  .node "WherePredicate::Type" [] [.node "PredicateType" [] [lts, bounded, .node "List" [] bs]]

theorem identParams_typeParam_pl (a c e d : T) (x : String) (bs : List T) (pre post : List T) :
    (pre ++ [typeParam_pl a c e d x bs] ++ post).filterMap (fun p => (paramIdent p).map (fun x => (x, p))) =
      pre.filterMap (fun p => (paramIdent p).map (fun x => (x, p))) ++ [(x, typeParam_pl a c e d x bs)] ++
        post.filterMap (fun p => (paramIdent p).map (fun x => (x, p))) := by
  simp [List.filterMap_append, typeParam_pl, paramIdent]

theorem paramBounds_typeParam_pl (a c e d : T) (x : String) (bs : List T) :
    paramBounds_pl (x, typeParam_pl a c e d x bs) = boundsOf (mkTypeIdent x) bs := by
  simp [paramBounds_pl, typeParam_pl, typeParamBounds]

theorem whereBounds_wherePred_pl (lts bounded : T) (bs : List T) :
    whereBounds_pl (wherePred_pl lts bounded bs) = boundsOf bounded bs := by
  simp [whereBounds_pl, wherePred_pl]

/-- **moving bounds of a type parameter from their inline position to a new where-predicate at the end of the
    where-clause permutes the list of bounds** (`g`, `g'`: the generics before and after, described through the
    accessors: the parameter `x` has the inline bounds `bs1 ++ bs2` before and `bs1` after, and the where-clause gains
    the predicate `x: bs2`) -/
theorem findBounds_move_pl (g g' : T) (pre post : List T) (a c e d lts : T) (x : String) (bs1 bs2 : List T)
    (hps : genericsParams g = pre ++ [typeParam_pl a c e d x (bs1 ++ bs2)] ++ post)
    (hps' : genericsParams g' = pre ++ [typeParam_pl a c e d x bs1] ++ post)
    (hw : genericsWhere g' = genericsWhere g ++ [wherePred_pl lts (mkTypeIdent x) bs2]) :
    (findBounds g').Perm (findBounds g) := by
  refine (findBounds_perm_unsorted_pl g').trans (List.Perm.trans ?_ (findBounds_perm_unsorted_pl g).symm)
  unfold unsortedBounds_pl identParams_pl
  rw [hps, hps', hw, identParams_typeParam_pl, identParams_typeParam_pl]
  simp only [List.flatMap_append, List.flatMap_cons, List.flatMap_nil, List.append_nil, paramBounds_typeParam_pl,
    whereBounds_wherePred_pl, boundsOf_append_pl]
  rw [List.perm_iff_count]
  intro r
  simp only [List.count_append]
  omega

/-- re-ordering the where-predicates permutes the list of bounds -/
theorem findBounds_where_perm_pl (g g' : T) (hps : genericsParams g' = genericsParams g)
    (hw : (genericsWhere g').Perm (genericsWhere g)) : (findBounds g').Perm (findBounds g) := by
  rw [findBounds_eq_pl, findBounds_eq_pl]
  unfold identParams_pl
  rw [hps]
  exact List.Perm.append_left _ (hw.flatMap_right _)

/-- re-ordering the bounds of one where-predicate permutes the list of bounds -/
theorem boundsOf_perm_pl (bounded : T) {bs bs' : List T} (h : bs'.Perm bs) : (boundsOf bounded bs').Perm (boundsOf bounded bs) := by
  unfold boundsOf
  exact h.filterMap _

/-! ### from a block-by-block correspondence of two invocations to the correspondence of their buckets -/

/-- one step of `mkBuckets` on two presentations of a block whose text is new on both sides -/
theorem bucketStep_placed_pl {acc acc' : List (T × List Blk)} (h : BucketsPlaced acc acc') {b b' : Blk} (hb : PlacedAs b b')
    (hnew : ∀ bk ∈ acc, ∀ x ∈ bk.2, x.item ≠ b.item) (hnew' : ∀ bk ∈ acc', ∀ x ∈ bk.2, x.item ≠ b'.item) :
    BucketsPlaced (bucketStep acc b) (bucketStep acc' b') := by
  have hids : ∀ l : List (T × List Blk), l.any (fun e => e.1 == groupIdOf b.item) =
      (l.map (·.1)).any (· == groupIdOf b.item) := fun l => by rw [List.any_map]; rfl
  have hany : acc'.any (fun e => e.1 == groupIdOf b.item) = acc.any (fun e => e.1 == groupIdOf b.item) := by
    rw [hids, hids, bucketsPlaced_ids_pl h]
  rw [bucketStep_eq, bucketStep_eq, ← hb.1, hany]
  split
  · refine h.mem.map _ _ fun bk bk' ⟨hbk, hbk', hid, hbl⟩ => ?_
    rw [← hid]
    split
    · rw [putBlk_fresh (hnew bk hbk), putBlk_fresh (hnew' bk' hbk')]
      exact ⟨rfl, hbl.append (.cons hb .nil)⟩
    · exact ⟨hid, hbl⟩
  · exact h.append (.cons ⟨rfl, .cons hb .nil⟩ .nil)

theorem foldl_bucketStep_placed_pl : ∀ (rest rest' pre pre' : List Blk) (acc acc' : List (T × List Blk)),
    Forall2 PlacedAs rest rest' → BucketsPlaced acc acc' → BInv pre acc → BInv pre' acc' →
    ((pre ++ rest).map (·.item)).Nodup → ((pre' ++ rest').map (·.item)).Nodup →
    BucketsPlaced (rest.foldl bucketStep acc) (rest'.foldl bucketStep acc')
  | _, _, _, _, _, _, .nil, h, _, _, _, _ => h
  | _, _, pre, pre', acc, acc', .cons (a := b) (b := b') (l1 := rest) (l2 := rest') hb ht, h, hi, hi', hnd, hnd' => by
      rw [List.foldl_cons, List.foldl_cons]
      have fresh : ∀ (pre rest : List Blk) (b : Blk) (acc : List (T × List Blk)), BInv pre acc →
          ((pre ++ b :: rest).map (·.item)).Nodup → ∀ bk ∈ acc, ∀ x ∈ bk.2, x.item ≠ b.item := by
        intro pre rest b acc hi hnd bk hbk x hx e
        have hxp : x ∈ pre := (hi.good bk hbk).2.2 x hx
        rw [List.map_append, List.nodup_append] at hnd
        exact hnd.2.2 x.item (List.mem_map.2 ⟨x, hxp, rfl⟩) b.item (by simp) e
      apply foldl_bucketStep_placed_pl rest rest' (pre ++ [b]) (pre' ++ [b']) _ _ ht
        (bucketStep_placed_pl h hb (fresh pre rest b acc hi hnd) (fresh pre' rest' b' acc' hi' hnd'))
        (bucketStep_inv hi b) (bucketStep_inv hi' b')
      · simpa using hnd
      · simpa using hnd'

/-- **two invocations that correspond block by block** (pairwise different block texts on both sides): their buckets
    correspond -/
theorem mkBuckets_placed_pl {bs bs' : List Blk} (h : Forall2 PlacedAs bs bs') (hnd : (bs.map (·.item)).Nodup)
    (hnd' : (bs'.map (·.item)).Nodup) : BucketsPlaced (mkBuckets bs) (mkBuckets bs') := by
  rw [mkBuckets_eq, mkBuckets_eq]
  exact foldl_bucketStep_placed_pl bs bs' [] [] [] [] h .nil
    ⟨fun bk hbk => (by cases hbk), fun b hb => (by cases hb)⟩ ⟨fun bk hbk => (by cases hbk), fun b hb => (by cases hb)⟩
    (by simpa using hnd) (by simpa using hnd')

/-- all executable hypotheses of the placement theorems on two invocations, in one check: block by block
    `placedAsB`, pairwise different canonical block texts on both sides, no header of the first invocation generalises
    a different one, `flatWF0` and `noConflictingBindingsAll` for the first invocation -/
def placementPreB (items items' : List T) : Bool :=
  forall2B_pl placedAsB (items.map mkBlk) (items'.map mkBlk) &&
  decide ((items.map mkBlk).map (·.item)).Nodup && decide ((items'.map mkBlk).map (·.item)).Nodup &&
  (msPairs ((mkBuckets (items.map mkBlk)).map (·.1))).isEmpty && flatWF0 items && noConflictingBindingsAll items

theorem placementPreB_spec {items items' : List T} (h : placementPreB items items' = true) :
    BucketsPlaced (mkBuckets (items.map mkBlk)) (mkBuckets (items'.map mkBlk)) ∧
    msPairs ((mkBuckets (items.map mkBlk)).map (·.1)) = [] ∧ flatWF0 items = true ∧
    noConflictingBindingsAll items = true := by
  simp only [placementPreB, Bool.and_eq_true, decide_eq_true_eq, List.isEmpty_iff] at h
  obtain ⟨⟨⟨⟨⟨h1, h2⟩, h3⟩, h4⟩, h5⟩, h6⟩ := h
  exact ⟨mkBuckets_placed_pl ((forall2B_iff_pl (fun a b => placedAsB_iff (b := a) (b' := b)) _ _).1 h1) h2 h3, h4, h5, h6⟩

end DI

/-
  The ROUND TRIP of parameter canonicalisation and the converse of alpha-invariance (C13): the block can be recovered
  from its canonical form and the computed renaming, and two blocks with the same canonical form are textual renamings of
  each other. Statements: `Props/C13.lean` (`C13_round_trip*`, `C13_same_canon_only_if_renaming*`); executable definitions:
  `Lemmas/CanonRoundTripDefs.lean`.

  * `unqs_qs_rt`            `unqsT_rt P (qsT_cr P t) = t` under `qsInvOK_rt P t` (inversion lemmas for `qsT_cr`);
  * `acT_renameImplDecls_rt`  the textual renaming of the occurrences commutes with the respelling of the declarations;
  * `acT_comp_rt`           `acT_cr ρ (acT_cr r t) = acT_cr (r ; ρ) t` under `acOK_rt r t`, for `ρ` defined exactly on the new
                            names of `r` (reserved identifiers; type and const names disjoint);
  * `acT_id_rt`             an identity renaming changes nothing on a tree in decoder normal form;
  * `alphaRenameC_comp_rt`, `alphaRenameC_inv_rt`   the block level;
  * `round_trip_rt`, `same_canon_only_if_renaming_rt`  the theorems.
-/
import DisjointImpls.Lemmas.CanonRoundTripDefs
import DisjointImpls.Lemmas.CanonIsRenaming
namespace DI

/-! ### The equations of `unqsT_rt` -/

theorem plainPathOf_eq_rt (x : String) (segs : List T) : plainPathOf_rt x segs = plainPath x segs := rfl

theorem unqsT_tparam_rt (P : String → Bool) (n : String) : unqsT_rt P (.tparam n) = .tparam n := by rw [unqsT_rt]
theorem unqsT_eparam_rt (P : String → Bool) (n : String) : unqsT_rt P (.eparam n) = .eparam n := by rw [unqsT_rt]
theorem unqsT_ign_rt (P : String → Bool) (as : List String) (ks : List T) :
    unqsT_rt P (.node "Ign" as ks) = .node "Ign" as ks := by rw [unqsT_rt]
theorem unqsT_eq_rt (P : String → Bool) (as : List String) (ks : List T) :
    unqsT_rt P (.node "Eq" as ks) = .node "Eq" as ks := by rw [unqsT_rt]
theorem unqsT_lifetime_rt (P : String → Bool) (as : List String) (x : String) :
    unqsT_rt P (.node "Lifetime" as [.node "Ident" [x] []]) = .node "Lifetime" as [.node "Ident" [x] []] := by rw [unqsT_rt]
theorem unqsT_typePath_rt (P : String → Bool) (as : List String) (q p : T) :
    unqsT_rt P (.node "Type::Path" as [q, p]) =
      (match unqsFires_rt P q p with
       | some x => .node "Type::Path" as [noneNode, plainPath x (pathSegs_rt (unqsT_rt P p))]
       | none => .node "Type::Path" as [unqsT_rt P q, unqsT_rt P p]) := by
  rw [unqsT_rt]; cases unqsFires_rt P q p <;> rfl
theorem unqsT_exprPath_rt (P : String → Bool) (as : List String) (a q p : T) :
    unqsT_rt P (.node "Expr::Path" as [a, q, p]) =
      (match unqsFires_rt P q p with
       | some x => .node "Expr::Path" as [unqsT_rt P a, noneNode, plainPath x (pathSegs_rt (unqsT_rt P p))]
       | none => .node "Expr::Path" as [unqsT_rt P a, unqsT_rt P q, unqsT_rt P p]) := by
  rw [unqsT_rt]; cases unqsFires_rt P q p <;> rfl

theorem unqsT_of_other_rt (P : String → Bool) {k : String} (as : List String) {ks : List T} (h : NodeOther k ks) :
    unqsT_rt P (.node k as ks) = .node k as (unqsL_rt P ks) :=
  h.arm (unqsT_rt.eq_8 P k as ks)

theorem unqsT_o_rt (P : String → Bool) {k : String} (as : List String) (ks : List T) (h : Oth5 k) :
    unqsT_rt P (.node k as ks) = .node k as (unqsL_rt P ks) := unqsT_of_other_rt P as (nodeOther_of5 ks h)

theorem unqsL_nil_rt (P : String → Bool) : unqsL_rt P [] = [] := by rw [unqsL_rt]
theorem unqsL_cons_rt (P : String → Bool) (t : T) (ts : List T) :
    unqsL_rt P (t :: ts) = unqsT_rt P t :: unqsL_rt P ts := by rw [unqsL_rt]

theorem unqsL_map_rt (P : String → Bool) : ∀ l : List T, unqsL_rt P l = l.map (unqsT_rt P)
  | [] => by rw [unqsL_nil_rt]; rfl
  | t :: ts => by rw [unqsL_cons_rt, unqsL_map_rt P ts]; rfl

theorem unqsT_noneNode_rt (P : String → Bool) : unqsT_rt P noneNode = noneNode := by
  simp only [noneNode, unqsT_o_rt, unqsL_nil_rt, Oth5, ne_eq, String.reduceEq, not_false_eq_true, and_self]

theorem unqsT_plainPath_rt (P : String → Bool) (x : String) (rest : List T) :
    unqsT_rt P (plainPath x rest) = plainPath x (unqsL_rt P rest) := by
  simp only [plainPath, plainSeg, nohead, argsNone, noneNode, unqsT_o_rt, unqsL_cons_rt, unqsL_nil_rt, Oth5, ne_eq, String.reduceEq, not_false_eq_true, and_self]

theorem colonPath_eq_rt (segs : List T) : colonPath_rt segs = .node "Path" [] [someColon, .node "List" [] segs] := rfl
theorem qselfNode_eq_rt (x : String) :
    qselfNode_rt x = .node "Some" [] [.node "QSelf" [] [.tparam x, .node "Atom" ["0"] [], noneNode]] := rfl
theorem qselfPath_fst_rt (x : String) (l : List T) : (qselfPath x l).1 = qselfNode_rt x := rfl
theorem qselfPath_snd_rt (x : String) (l : List T) : (qselfPath x l).2 = colonPath_rt l := rfl
theorem pathSegs_colonPath_rt (segs : List T) : pathSegs_rt (colonPath_rt segs) = segs := rfl

theorem unqsT_colonPath_rt (P : String → Bool) (segs : List T) :
    unqsT_rt P (colonPath_rt segs) = colonPath_rt (unqsL_rt P segs) := by
  simp only [colonPath_eq_rt, someColon, unqsT_o_rt, unqsL_cons_rt, unqsL_nil_rt, Oth5, ne_eq, String.reduceEq, not_false_eq_true, and_self]

theorem qsT_colonPath_rt (P : String → Bool) (segs : List T) :
    qsT_cr P (colonPath_rt segs) = colonPath_rt (qsL_cr P segs) := by
  rw [colonPath_eq_rt, colonPath_eq_rt, qsL_map_cr, (qsT_nodeMap_cr P).pathNode, (qsT_nodeMap_cr P).someColon_eq]

/-! ### Inversion lemmas for `qsT_cr` -/

theorem qsT_tparam_inv_rt {P : String → Bool} {t : T} {n : String} (h : qsT_cr P t = .tparam n) : t = .tparam n := by
  induction t using T.shapeInd with
  | tparam m => rw [qsT_tparam_cr] at h; exact h
  | eparam m => rw [qsT_eparam_cr] at h; cases h
  | ign as ks => rw [qsT_ign_cr] at h; cases h
  | eq as ks => rw [qsT_eq_cr] at h; cases h
  | lifetime as x => rw [qsT_lifetime_cr] at h; cases h
  | typePath as q p => rw [qsT_typePath_cr] at h; split at h <;> cases h
  | exprPath as a q p => rw [qsT_exprPath_cr] at h; split at h <;> cases h
  | other k as ks hh => rw [qsT_of_other_cr P as hh] at h; cases h

/-- the qualified self `<X>` of the resolver comes from itself -/
theorem qsT_qselfNode_inv_rt {P : String → Bool} {q : T} {x : String} (h : qsT_cr P q = qselfNode_rt x) :
    q = qselfNode_rt x := by
  have hF := qsT_nodeMap_cr P
  rw [qselfNode_eq_rt] at h ⊢
  obtain ⟨ks, rfl, e⟩ := hF.inv (by simp) h
  obtain ⟨t1, ts, rfl, e1, e2⟩ := List.map_eq_cons_iff.1 e.symm
  cases List.map_eq_nil_iff.1 e2
  obtain ⟨ks2, rfl, e3⟩ := hF.inv (by simp) e1
  obtain ⟨a, ts2, rfl, ea, e4⟩ := List.map_eq_cons_iff.1 e3.symm
  obtain ⟨b, ts3, rfl, eb, e5⟩ := List.map_eq_cons_iff.1 e4
  obtain ⟨c, ts4, rfl, ec, e6⟩ := List.map_eq_cons_iff.1 e5
  cases List.map_eq_nil_iff.1 e6
  cases qsT_tparam_inv_rt ea
  cases hF.leaf_inv (by simp) eb
  cases hF.noneNode_inv ec
  rfl

/-- the path `::segs…` of the resolver comes from such a path -/
theorem qsT_colonPath_inv_rt {P : String → Bool} {p : T} {segs' : List T} (h : qsT_cr P p = colonPath_rt segs') :
    ∃ segs, p = colonPath_rt segs ∧ segs' = qsL_cr P segs := by
  have hF := qsT_nodeMap_cr P
  rw [colonPath_eq_rt] at h
  obtain ⟨ks, rfl, e⟩ := hF.inv (by simp) h
  obtain ⟨lc, ts, rfl, e1, e2⟩ := List.map_eq_cons_iff.1 e.symm
  obtain ⟨l, ts2, rfl, e3, e4⟩ := List.map_eq_cons_iff.1 e2
  cases List.map_eq_nil_iff.1 e4
  obtain ⟨segs, rfl, e5⟩ := hF.inv (by simp) e3
  have e6 : lc = someColon := by
    unfold someColon at e1 ⊢
    obtain ⟨ks3, rfl, e7⟩ := hF.inv (by simp) e1
    obtain ⟨s, ts3, rfl, e8, e9⟩ := List.map_eq_cons_iff.1 e7.symm
    cases List.map_eq_nil_iff.1 e9
    cases hF.leaf_inv (by simp) e8
    rfl
  subst e6
  exact ⟨segs, rfl, by rw [e5, qsL_map_cr]⟩

theorem qsT_qselfNode_rt (P : String → Bool) (x : String) : qsT_cr P (qselfNode_rt x) = qselfNode_rt x := by
  simp only [qselfNode_eq_rt, noneNode, (qsT_nodeMap_cr P).node, List.map_cons, List.map_nil, qsT_tparam_cr, Oth5, ne_eq,
    String.reduceEq, not_false_eq_true, and_self]

/-! ### When the inverse presentation change applies -/

theorem qselfOf_self_rt (x : String) : qselfOf_rt (qselfNode_rt x) = some x := by
  simp [qselfOf_rt, qselfNode_rt, qselfPath]

theorem qselfOf_inv_rt {q : T} {x : String} (h : qselfOf_rt q = some x) : q = qselfNode_rt x := by
  unfold qselfOf_rt at h
  split at h
  · split at h
    · next hb => cases h; exact eq_of_beq hb
    · cases h
  · cases h

theorem unqsFires_form_rt (P : String → Bool) (x : String) (segs : List T) :
    unqsFires_rt P (qselfNode_rt x) (colonPath_rt segs) = if !segs.isEmpty && P x then some x else none := by
  unfold unqsFires_rt
  rw [qselfOf_self_rt]
  simp only [isColonPath_rt, pathSegs_colonPath_rt, beq_self_eq_true, Bool.true_and]

theorem unqsFires_inv_rt {P : String → Bool} {q p : T} {x : String} (h : unqsFires_rt P q p = some x) :
    q = qselfNode_rt x ∧ p = colonPath_rt (pathSegs_rt p) ∧ (pathSegs_rt p).isEmpty = false ∧ P x = true := by
  unfold unqsFires_rt at h
  split at h
  · next y hy =>
    split at h
    · next hc =>
      cases h
      simp only [Bool.and_eq_true, Bool.not_eq_true', isColonPath_rt, beq_iff_eq] at hc
      exact ⟨qselfOf_inv_rt hy, hc.1.1, hc.1.2, hc.2⟩
    · cases h
  · cases h

/-- the presentation change does not create the form `<X>::rest…` out of anything else -/
theorem unqsFires_qs_none_rt {P : String → Bool} {q p : T} (h : unqsFires_rt P q p = none) :
    unqsFires_rt P (qsT_cr P q) (qsT_cr P p) = none := by
  cases h' : unqsFires_rt P (qsT_cr P q) (qsT_cr P p) with
  | none => rfl
  | some x =>
    exfalso
    obtain ⟨eq, ep, hne, hP⟩ := unqsFires_inv_rt h'
    cases qsT_qselfNode_inv_rt eq
    obtain ⟨segs, rfl, es⟩ := qsT_colonPath_inv_rt ep
    rw [unqsFires_form_rt, hP] at h
    rw [es, qsL_map_cr, List.isEmpty_map] at hne
    simp [hne] at h

/-! ### `qsInvOK_rt` -/

theorem qsInvOK_typePath_rt (P : String → Bool) (as : List String) (q p : T) :
    qsInvOK_rt P (.node "Type::Path" as [q, p]) = (qsInvOK_rt P q && qsInvOK_rt P p && (unqsFires_rt P q p).isNone) := by
  rw [qsInvOK_rt]
theorem qsInvOK_exprPath_rt (P : String → Bool) (as : List String) (a q p : T) :
    qsInvOK_rt P (.node "Expr::Path" as [a, q, p]) =
      (qsInvOK_rt P a && qsInvOK_rt P q && qsInvOK_rt P p && (unqsFires_rt P q p).isNone &&
        ((qsFires_cr P q p).isNone || a == emptyAttrs_rt)) := by
  rw [qsInvOK_rt]

theorem qsInvOKL_all_rt (P : String → Bool) : ∀ ks : List T, qsInvOKL_rt P ks = ks.all (qsInvOK_rt P)
  | [] => by rw [qsInvOKL_rt]; rfl
  | t :: ts => by rw [qsInvOKL_rt, List.all_cons, qsInvOKL_all_rt P ts]

theorem qsInvOK_allKids_rt (P : String → Bool) : AllKids (qsInvOK_rt P) :=
  ⟨fun {k} as {ks} h => (h.arm (qsInvOK_rt.eq_8 P k as ks)).trans (qsInvOKL_all_rt P ks)⟩

/-! ### The inverse presentation change undoes the presentation change -/

/-- **`unqsT_rt P` undoes `qsT_cr P`** on a tree that contains no path already written `<X>::rest…` with `P X` and no
    attributes on an expression path `X::rest…` with `P X` -/
theorem unqs_qs_rt (P : String → Bool) (t : T) : qsInvOK_rt P t = true → unqsT_rt P (qsT_cr P t) = t := by
  induction t using T.shapeInd with
  | tparam n => intro _; rw [qsT_tparam_cr, unqsT_tparam_rt]
  | eparam n => intro _; rw [qsT_eparam_cr, unqsT_eparam_rt]
  | ign as ks => intro _; rw [qsT_ign_cr, unqsT_ign_rt]
  | eq as ks => intro _; rw [qsT_eq_cr, unqsT_eq_rt]
  | lifetime as x => intro _; rw [qsT_lifetime_cr, unqsT_lifetime_rt]
  | typePath as q p ihq ihp =>
    intro hok
    rw [qsInvOK_typePath_rt] at hok
    simp only [Bool.and_eq_true, Option.isNone_iff_eq_none] at hok
    obtain ⟨⟨hq, hp⟩, hn⟩ := hok
    have ihp := ihp hp
    rw [qsT_typePath_cr]
    cases hf : qsFires_cr P q p with
    | none =>
      simp only
      rw [unqsT_typePath_rt, unqsFires_qs_none_rt hn]
      simp only
      rw [ihq hq, ihp]
    | some x =>
      obtain ⟨rfl, rest, rfl, hne, hPx⟩ := qsFires_inv_cr hf
      simp only
      rw [qsT_plainPath_cr, restSegments_plainPath, qselfPath_fst_rt, qselfPath_snd_rt, unqsT_typePath_rt,
        unqsFires_form_rt, qsL_map_cr, List.isEmpty_map, hne, hPx]
      simp only [Bool.not_false, Bool.and_self, if_true]
      rw [unqsT_colonPath_rt, pathSegs_colonPath_rt]
      rw [qsT_plainPath_cr, unqsT_plainPath_rt, qsL_map_cr] at ihp
      rw [(plainPath_inj_cr ihp).2]
  | exprPath as a q p iha ihq ihp =>
    intro hok
    rw [qsInvOK_exprPath_rt] at hok
    simp only [Bool.and_eq_true, Option.isNone_iff_eq_none, Bool.or_eq_true, beq_iff_eq] at hok
    obtain ⟨⟨⟨⟨ha, hq⟩, hp⟩, hn⟩, hatt⟩ := hok
    have ihp := ihp hp
    rw [qsT_exprPath_cr]
    cases hf : qsFires_cr P q p with
    | none =>
      simp only
      rw [unqsT_exprPath_rt, unqsFires_qs_none_rt hn]
      simp only
      rw [iha ha, ihq hq, ihp]
    | some x =>
      have ea : a = emptyAttrs_rt := by
        rcases hatt with h | h
        · rw [hf] at h; cases h
        · exact h
      subst ea
      obtain ⟨rfl, rest, rfl, hne, hPx⟩ := qsFires_inv_cr hf
      simp only
      rw [qsT_plainPath_cr, restSegments_plainPath, qselfPath_fst_rt, qselfPath_snd_rt, unqsT_exprPath_rt,
        unqsFires_form_rt, qsL_map_cr, List.isEmpty_map, hne, hPx]
      simp only [Bool.not_false, Bool.and_self, if_true]
      rw [unqsT_colonPath_rt, pathSegs_colonPath_rt, unqsT_ign_rt]
      rw [qsT_plainPath_cr, unqsT_plainPath_rt, qsL_map_cr] at ihp
      rw [(plainPath_inj_cr ihp).2]
      rfl
  | other k as ks h ih =>
    intro hok
    rw [(qsT_nodeMap_cr P).other as h, unqsT_of_other_rt P as ((qsT_nodeMap_cr P).nodeOther h), unqsL_map_rt, List.map_map]
    exact congrArg _ ((List.map_congr_left fun t ht => ih t ht ((qsInvOK_allKids_rt P).kids as h hok t ht)).trans
      (List.map_id _))

/-! ### A rewriting of the occurrences commutes with the respelling of the declarations -/

/-- the two declaration shapes `renameDecl` rewrites -/
def tyDecl_rt (a : T) (x : String) (rest : List T) : T :=
  .node "GenericParam::Type" [] [.node "TypeParam" [] (a :: .node "Ident" [x] [] :: rest)]
def coDecl_rt (a : T) (x : String) (rest : List T) : T :=
  .node "GenericParam::Const" [] [.node "ConstParam" [] (a :: .node "Ident" [x] [] :: rest)]
def gen_rt (lt0 : T) (ps : List T) (gt0 wc : T) : T := .node "Generics" [] [lt0, .node "List" [] ps, gt0, wc]
def impl_rt (a d u g tr sf items : T) : T := .node "ItemImpl" [] [a, d, u, g, tr, sf, items]

theorem renameDecl_ty_rt (ρ : Renaming) (a : T) (x : String) (rest : List T) :
    renameDecl ρ (tyDecl_rt a x rest) = tyDecl_rt a (rn ρ.ty x) rest := by
  unfold renameDecl tyDecl_rt; rfl
theorem renameDecl_co_rt (ρ : Renaming) (a : T) (x : String) (rest : List T) :
    renameDecl ρ (coDecl_rt a x rest) = coDecl_rt a (rn ρ.co x) rest := by
  unfold renameDecl coDecl_rt; rfl

theorem renameDecl_other_rt (ρ : Renaming) {t : T} (h1 : ∀ a x rest, t ≠ tyDecl_rt a x rest)
    (h2 : ∀ a x rest, t ≠ coDecl_rt a x rest) : renameDecl ρ t = t := by
  unfold renameDecl
  split
  · next a x rest => exact absurd rfl (h1 a x rest)
  · next a x rest => exact absurd rfl (h2 a x rest)
  · rfl

theorem renameGenerics_gen_rt (ρ : Renaming) (lt0 : T) (ps : List T) (gt0 wc : T) :
    renameGenerics ρ (gen_rt lt0 ps gt0 wc) = gen_rt lt0 (ps.map (renameDecl ρ)) gt0 wc := by
  unfold renameGenerics gen_rt; rfl
theorem renameGenerics_other_rt (ρ : Renaming) {t : T} (h : ∀ lt0 ps gt0 wc, t ≠ gen_rt lt0 ps gt0 wc) :
    renameGenerics ρ t = t := by
  unfold renameGenerics
  split
  · next lt0 ps gt0 wc => exact absurd rfl (h lt0 ps gt0 wc)
  · rfl

theorem renameImplDecls_impl_rt (ρ : Renaming) (a d u g tr sf items : T) :
    renameImplDecls ρ (impl_rt a d u g tr sf items) = impl_rt a d u (renameGenerics ρ g) tr sf items := by
  unfold renameImplDecls impl_rt; rfl
theorem renameImplDecls_other_rt (ρ : Renaming) {t : T} (h : ¬ ∃ a d u g tr sf items, t = impl_rt a d u g tr sf items) :
    renameImplDecls ρ t = t := by
  unfold renameImplDecls
  split
  · next a d u g tr sf items => exact absurd ⟨a, d, u, g, tr, sf, items, rfl⟩ h
  · rfl

namespace NodeMap
variable {lt : String → String} {F : T → T} (hF : NodeMap lt F)
include hF

theorem tyDecl_rt (a : T) (x : String) (rest : List T) : F (tyDecl_rt a x rest) = DI.tyDecl_rt (F a) x (rest.map F) := by
  simp only [DI.tyDecl_rt, hF.node, List.map_cons, List.map_nil, Oth5, ne_eq, String.reduceEq,
    not_false_eq_true, and_self]
theorem coDecl_rt (a : T) (x : String) (rest : List T) : F (coDecl_rt a x rest) = DI.coDecl_rt (F a) x (rest.map F) := by
  simp only [DI.coDecl_rt, hF.node, List.map_cons, List.map_nil, Oth5, ne_eq, String.reduceEq,
    not_false_eq_true, and_self]
theorem gen_rt (lt0 : T) (ps : List T) (gt0 wc : T) : F (gen_rt lt0 ps gt0 wc) = DI.gen_rt (F lt0) (ps.map F) (F gt0) (F wc) := by
  simp only [DI.gen_rt, hF.node, List.map_cons, List.map_nil, Oth5, ne_eq, String.reduceEq, not_false_eq_true, and_self]
theorem impl_rt (a d u g tr sf items : T) :
    F (impl_rt a d u g tr sf items) = DI.impl_rt (F a) (F d) (F u) (F g) (F tr) (F sf) (F items) := by
  simp only [DI.impl_rt, hF.node, List.map_cons, List.map_nil, Oth5, ne_eq, String.reduceEq, not_false_eq_true, and_self]

theorem tyDecl_inv_rt {t a' : T} {x : String} {rest' : List T} (h : F t = DI.tyDecl_rt a' x rest') :
    ∃ a rest, t = DI.tyDecl_rt a x rest := by
  unfold DI.tyDecl_rt at h
  obtain ⟨ks, rfl, e⟩ := hF.inv (by simp) h
  obtain ⟨t1, ts, rfl, e1, e2⟩ := List.map_eq_cons_iff.1 e.symm
  cases List.map_eq_nil_iff.1 e2
  obtain ⟨ks2, rfl, e3⟩ := hF.inv (by simp) e1
  obtain ⟨a, ts2, rfl, _, e4⟩ := List.map_eq_cons_iff.1 e3.symm
  obtain ⟨i, rest, rfl, ei, _⟩ := List.map_eq_cons_iff.1 e4
  cases hF.leaf_inv (by simp) ei
  exact ⟨a, rest, rfl⟩
theorem coDecl_inv_rt {t a' : T} {x : String} {rest' : List T} (h : F t = DI.coDecl_rt a' x rest') :
    ∃ a rest, t = DI.coDecl_rt a x rest := by
  unfold DI.coDecl_rt at h
  obtain ⟨ks, rfl, e⟩ := hF.inv (by simp) h
  obtain ⟨t1, ts, rfl, e1, e2⟩ := List.map_eq_cons_iff.1 e.symm
  cases List.map_eq_nil_iff.1 e2
  obtain ⟨ks2, rfl, e3⟩ := hF.inv (by simp) e1
  obtain ⟨a, ts2, rfl, _, e4⟩ := List.map_eq_cons_iff.1 e3.symm
  obtain ⟨i, rest, rfl, ei, _⟩ := List.map_eq_cons_iff.1 e4
  cases hF.leaf_inv (by simp) ei
  exact ⟨a, rest, rfl⟩
theorem gen_inv_rt {t lt0' gt0' wc' : T} {ps' : List T} (h : F t = DI.gen_rt lt0' ps' gt0' wc') :
    ∃ lt0 ps gt0 wc, t = DI.gen_rt lt0 ps gt0 wc := by
  unfold DI.gen_rt at h
  obtain ⟨ks, rfl, e⟩ := hF.inv (by simp) h
  obtain ⟨lt0, ts, rfl, _, e2⟩ := List.map_eq_cons_iff.1 e.symm
  obtain ⟨l, ts2, rfl, el, e3⟩ := List.map_eq_cons_iff.1 e2
  obtain ⟨gt0, ts3, rfl, _, e4⟩ := List.map_eq_cons_iff.1 e3
  obtain ⟨wc, ts4, rfl, _, e5⟩ := List.map_eq_cons_iff.1 e4
  cases List.map_eq_nil_iff.1 e5
  obtain ⟨ps, rfl, _⟩ := hF.inv (by simp) el
  exact ⟨lt0, ps, gt0, wc, rfl⟩
theorem impl_inv_rt {t a' d' u' g' tr' sf' items' : T} (h : F t = DI.impl_rt a' d' u' g' tr' sf' items') :
    ∃ a d u g tr sf items, t = DI.impl_rt a d u g tr sf items := by
  unfold DI.impl_rt at h
  obtain ⟨ks, rfl, e⟩ := hF.inv (by simp) h
  obtain ⟨a, ts, rfl, _, e2⟩ := List.map_eq_cons_iff.1 e.symm
  obtain ⟨d, ts2, rfl, _, e3⟩ := List.map_eq_cons_iff.1 e2
  obtain ⟨u, ts3, rfl, _, e4⟩ := List.map_eq_cons_iff.1 e3
  obtain ⟨g, ts4, rfl, _, e5⟩ := List.map_eq_cons_iff.1 e4
  obtain ⟨tr, ts5, rfl, _, e6⟩ := List.map_eq_cons_iff.1 e5
  obtain ⟨sf, ts6, rfl, _, e7⟩ := List.map_eq_cons_iff.1 e6
  obtain ⟨items, ts7, rfl, _, e8⟩ := List.map_eq_cons_iff.1 e7
  cases List.map_eq_nil_iff.1 e8
  exact ⟨a, d, u, g, tr, sf, items, rfl⟩

theorem renameDecl (ρ : Renaming) (t : T) : F (renameDecl ρ t) = DI.renameDecl ρ (F t) := by
  by_cases h1 : ∃ a x rest, t = DI.tyDecl_rt a x rest
  · obtain ⟨a, x, rest, rfl⟩ := h1
    rw [renameDecl_ty_rt, hF.tyDecl_rt, hF.tyDecl_rt, renameDecl_ty_rt]
  by_cases h2 : ∃ a x rest, t = DI.coDecl_rt a x rest
  · obtain ⟨a, x, rest, rfl⟩ := h2
    rw [renameDecl_co_rt, hF.coDecl_rt, hF.coDecl_rt, renameDecl_co_rt]
  rw [renameDecl_other_rt ρ (fun a x rest e => h1 ⟨a, x, rest, e⟩) (fun a x rest e => h2 ⟨a, x, rest, e⟩),
    renameDecl_other_rt ρ]
  · intro a x rest e
    obtain ⟨a0, rest0, e0⟩ := hF.tyDecl_inv_rt e
    exact h1 ⟨a0, x, rest0, e0⟩
  · intro a x rest e
    obtain ⟨a0, rest0, e0⟩ := hF.coDecl_inv_rt e
    exact h2 ⟨a0, x, rest0, e0⟩

theorem renameGenerics (ρ : Renaming) (t : T) : F (renameGenerics ρ t) = DI.renameGenerics ρ (F t) := by
  by_cases h1 : ∃ lt0 ps gt0 wc, t = DI.gen_rt lt0 ps gt0 wc
  · obtain ⟨lt0, ps, gt0, wc, rfl⟩ := h1
    have e : (ps.map (DI.renameDecl ρ)).map F = (ps.map F).map (DI.renameDecl ρ) := by
      rw [List.map_map, List.map_map]
      exact List.map_congr_left fun p _ => hF.renameDecl ρ p
    rw [renameGenerics_gen_rt, hF.gen_rt, hF.gen_rt, renameGenerics_gen_rt, e]
  rw [renameGenerics_other_rt ρ (fun lt0 ps gt0 wc e => h1 ⟨lt0, ps, gt0, wc, e⟩), renameGenerics_other_rt ρ]
  intro lt0 ps gt0 wc e
  exact h1 (hF.gen_inv_rt e)

/-- **the rewriting of the occurrences commutes with the respelling of the declarations** (any tree: the declared names
    are `Ident` leaves, which the rewriting of the occurrences neither reads nor writes) -/
theorem renameImplDecls (ρ : Renaming) (t : T) : F (renameImplDecls ρ t) = DI.renameImplDecls ρ (F t) := by
  by_cases h1 : ∃ a d u g tr sf items, t = DI.impl_rt a d u g tr sf items
  · obtain ⟨a, d, u, g, tr, sf, items, rfl⟩ := h1
    rw [renameImplDecls_impl_rt, hF.impl_rt, hF.impl_rt, renameImplDecls_impl_rt, hF.renameGenerics]
  rw [renameImplDecls_other_rt ρ h1, renameImplDecls_other_rt ρ]
  rintro ⟨a, d, u, g, tr, sf, items, e⟩
  exact h1 (hF.impl_inv_rt e)

end NodeMap

theorem acT_renameImplDecls_rt (π ρ : Renaming) (t : T) :
    acT_cr π (renameImplDecls ρ t) = renameImplDecls ρ (acT_cr π t) :=
  (acT_nodeMap_cr π).renameImplDecls ρ t

/-! ### Shapes: `acOK_rt` -/

theorem acOK_typePath_rt (r : Renaming) (as : List String) (q p : T) :
    acOK_rt r (.node "Type::Path" as [q, p]) = (acOK_rt r q && acOK_rt r p &&
      (match firstSegIdent p with
       | some x => freshOr_rt r.ty x && (!((rlookup r.ty x).isSome && lonePath_cr q p) || as.isEmpty)
       | none => true)) := by
  rw [acOK_rt]; cases firstSegIdent p <;> rfl
theorem acOK_exprPath_rt (r : Renaming) (as : List String) (a q p : T) :
    acOK_rt r (.node "Expr::Path" as [a, q, p]) = (acOK_rt r a && acOK_rt r q && acOK_rt r p &&
      (match firstSegIdent p with
       | some x => freshOrEx_rt r x &&
           (!(((rlookup r.ty x).isSome || (rlookup r.co x).isSome) && lonePath_cr q p) || (as.isEmpty && a == emptyAttrs_rt))
       | none => true)) := by
  rw [acOK_rt]; cases firstSegIdent p <;> rfl

theorem acOKL_all_rt (r : Renaming) : ∀ ks : List T, acOKL_rt r ks = ks.all (acOK_rt r)
  | [] => by rw [acOKL_rt]; rfl
  | t :: ts => by rw [acOKL_rt, List.all_cons, acOKL_all_rt r ts]

theorem acOK_allKids_rt (r : Renaming) : AllKids (acOK_rt r) :=
  ⟨fun {k} as {ks} h => (h.arm (acOK_rt.eq_8 r k as ks)).trans (acOKL_all_rt r ks)⟩

/-! ### Names: composition and inverse -/

theorem notNew_iff_rt {m : List (String × String)} {x : String} : notNew_rt m x = true ↔ x ∉ m.map Prod.snd := by
  simp [notNew_rt]

/-- `μ` is defined exactly on the new names of `m`: a name that `m` renames goes to `μ (m x)`, a name that `m` leaves
    alone and that is not a new name of `m` is left alone by `μ` -/
theorem rn_comp_rt {m μ : List (String × String)} (hd : μ.map Prod.fst = m.map Prod.snd) {x : String}
    (h : freshOr_rt m x = true) : rn μ (rn m x) = rn (m.map (fun p => (p.1, rn μ p.2))) x := by
  show rn μ (rn m x) = (rlookup (m.map (fun p => (p.1, rn μ p.2))) x).getD x
  rw [rlookup_mapSnd]
  cases hl : rlookup m x with
  | some v => rw [rn_of_some hl]; rfl
  | none =>
    unfold freshOr_rt at h
    rw [hl] at h
    rw [rn_of_none hl]
    exact rn_of_none (rlookup_eq_none_iff.2 (by rw [hd]; exact notNew_iff_rt.1 (by simpa using h)))

theorem comp_ty_rt (r ρ : Renaming) : (r.comp_rt ρ).ty = r.ty.map (fun p => (p.1, rn ρ.ty p.2)) := rfl
theorem comp_co_rt (r ρ : Renaming) : (r.comp_rt ρ).co = r.co.map (fun p => (p.1, rn ρ.co p.2)) := rfl
theorem comp_lt_rt (r ρ : Renaming) : (r.comp_rt ρ).lt = r.lt.map (fun p => (p.1, rn ρ.lt p.2)) := rfl

/-! ### The declarations: composition -/

theorem declFresh_ty_rt (r : Renaming) (a : T) (x : String) (rest : List T) :
    declFresh_rt r (tyDecl_rt a x rest) = freshOr_rt r.ty x := by unfold declFresh_rt tyDecl_rt; rfl
theorem declFresh_co_rt (r : Renaming) (a : T) (x : String) (rest : List T) :
    declFresh_rt r (coDecl_rt a x rest) = freshOr_rt r.co x := by unfold declFresh_rt coDecl_rt; rfl

theorem renameDecl_comp_rt (r ρ : Renaming) (hty : ρ.ty.map Prod.fst = r.ty.map Prod.snd)
    (hco : ρ.co.map Prod.fst = r.co.map Prod.snd) (t : T) (h : declFresh_rt r t = true) :
    renameDecl ρ (renameDecl r t) = renameDecl (r.comp_rt ρ) t := by
  by_cases h1 : ∃ a x rest, t = tyDecl_rt a x rest
  · obtain ⟨a, x, rest, rfl⟩ := h1
    rw [declFresh_ty_rt] at h
    rw [renameDecl_ty_rt, renameDecl_ty_rt, renameDecl_ty_rt, rn_comp_rt hty h, comp_ty_rt]
  by_cases h2 : ∃ a x rest, t = coDecl_rt a x rest
  · obtain ⟨a, x, rest, rfl⟩ := h2
    rw [declFresh_co_rt] at h
    rw [renameDecl_co_rt, renameDecl_co_rt, renameDecl_co_rt, rn_comp_rt hco h, comp_co_rt]
  rw [renameDecl_other_rt r (fun a x rest e => h1 ⟨a, x, rest, e⟩) (fun a x rest e => h2 ⟨a, x, rest, e⟩),
    renameDecl_other_rt ρ (fun a x rest e => h1 ⟨a, x, rest, e⟩) (fun a x rest e => h2 ⟨a, x, rest, e⟩),
    renameDecl_other_rt _ (fun a x rest e => h1 ⟨a, x, rest, e⟩) (fun a x rest e => h2 ⟨a, x, rest, e⟩)]

theorem implParams_impl_gen_rt (a d u lt0 : T) (ps : List T) (gt0 wc tr sf items : T) :
    implParams (impl_rt a d u (gen_rt lt0 ps gt0 wc) tr sf items) = ps := rfl

/-- respelling the declarations by `r` and then by `ρ` is respelling them by `r ; ρ` -/
theorem renameImplDecls_comp_rt (r ρ : Renaming) (hty : ρ.ty.map Prod.fst = r.ty.map Prod.snd)
    (hco : ρ.co.map Prod.fst = r.co.map Prod.snd) (item : T) (h : declsFresh_rt r item = true) :
    renameImplDecls ρ (renameImplDecls r item) = renameImplDecls (r.comp_rt ρ) item := by
  by_cases h1 : ∃ a d u g tr sf items, item = impl_rt a d u g tr sf items
  · obtain ⟨a, d, u, g, tr, sf, items, rfl⟩ := h1
    rw [renameImplDecls_impl_rt, renameImplDecls_impl_rt, renameImplDecls_impl_rt]
    by_cases h2 : ∃ lt0 ps gt0 wc, g = gen_rt lt0 ps gt0 wc
    · obtain ⟨lt0, ps, gt0, wc, rfl⟩ := h2
      unfold declsFresh_rt at h
      rw [implParams_impl_gen_rt, List.all_eq_true] at h
      rw [renameGenerics_gen_rt, renameGenerics_gen_rt, renameGenerics_gen_rt, List.map_map]
      congr 2
      exact List.map_congr_left (fun p hp => renameDecl_comp_rt r ρ hty hco p (h p hp))
    · rw [renameGenerics_other_rt r (fun lt0 ps gt0 wc e => h2 ⟨lt0, ps, gt0, wc, e⟩),
        renameGenerics_other_rt ρ (fun lt0 ps gt0 wc e => h2 ⟨lt0, ps, gt0, wc, e⟩),
        renameGenerics_other_rt _ (fun lt0 ps gt0 wc e => h2 ⟨lt0, ps, gt0, wc, e⟩)]
  · rw [renameImplDecls_other_rt r h1, renameImplDecls_other_rt ρ h1, renameImplDecls_other_rt _ h1]

/-! ### Paths with a first segment -/

theorem mapHead_mapHead_rt (f g : String → String) (p : T) :
    mapHead g (mapHead f p) = mapHead (fun x => g (f x)) p := by
  cases h : firstSegIdent p with
  | none => rw [mapHead_none f h, mapHead_none g h, mapHead_none _ h]
  | some x => obtain ⟨a, args, rest, rfl⟩ := path_of_firstSeg h; rfl

/-- respelling does not change whether a path is the bare identifier -/
theorem lonePath_acT_rt (π : Renaming) (f : String → String) (q p : T) :
    lonePath_cr (acT_cr π q) (mapHead f (acT_cr π p)) = lonePath_cr q p := by
  unfold lonePath_cr
  rw [(acT_nodeMap_cr π).plainHead, restSegments_mapHead]
  cases hp : plainHead q p with
  | false => rfl
  | true =>
    obtain ⟨_, x, rest, rfl⟩ := plainHead_inv hp
    rw [acT_plainPath_cr, restSegments_plainPath, restSegments_plainPath, acL_map_cr, List.isEmpty_map]

/-- the bare identifier `x` in type position, respelled `z`, is the identifier `z` in decoder form -/
theorem acT_loneTy_rt (π : Renaming) {x z : String} (h : rlookup π.ty x = some z) :
    acT_cr π (.node "Type::Path" [] [noneNode, plainPath x []]) = mkTypeIdent z := by
  rw [acT_typePath_cr]
  by_cases hz : reserved_cr z = true
  · rw [convTy_lone_cr h hz, mkTypeIdent_reserved_cr hz]
  · have hc : convTy_cr π noneNode (plainPath x []) = none := by
      unfold convTy_cr
      rw [firstSegIdent_plainPath]
      simp [h, hz]
    rw [hc]
    simp only
    rw [(acT_nodeMap_cr π).noneNode_eq, acT_plainPath_cr, acL_nil_cr, mapHead_plainPath, rn_of_some h]
    unfold mkTypeIdent
    rw [if_neg (by simpa [reserved_cr] using hz)]
    rfl

/-- … in expression position -/
theorem acT_loneEx_rt (π : Renaming) {x z : String} (h : (rlookup π.ty x).or (rlookup π.co x) = some z) :
    acT_cr π (.node "Expr::Path" [] [emptyAttrs_rt, noneNode, plainPath x []]) = mkExprIdent_cr z := by
  rw [acT_exprPath_cr]
  by_cases hz : reserved_cr z = true
  · rw [convEx_lone_cr h hz, mkExprIdent_reserved_cr hz]
  · have hc : convEx_cr π noneNode (plainPath x []) = none := by
      unfold convEx_cr
      rw [firstSegIdent_plainPath]
      simp [h, hz]
    rw [hc]
    simp only
    rw [(acT_nodeMap_cr π).noneNode_eq, acT_plainPath_cr, acL_nil_cr, mapHead_plainPath]
    rw [exW_of_some h]
    unfold emptyAttrs_rt
    rw [acT_ign_cr]
    unfold mkExprIdent_cr
    rw [if_neg (by simpa [reserved_cr] using hz)]
    rfl

/-! ### Names under composition -/

/-- what the composition needs of the two renamings: the new names of `r` are reserved identifiers, `ρ` is defined
    exactly on them (per name space), and no name is new both for a type and for a const parameter -/
structure CompOK_rt (r ρ : Renaming) : Prop where
  res : r.reservedTargets_cr = true
  lt : ρ.lt.map Prod.fst = r.lt.map Prod.snd
  ty : ρ.ty.map Prod.fst = r.ty.map Prod.snd
  co : ρ.co.map Prod.fst = r.co.map Prod.snd
  disj : ∀ m ∈ r.co.map Prod.snd, m ∉ r.ty.map Prod.snd

theorem rlookup_some_of_key_rt {m : List (String × String)} {x : String} (h : x ∈ m.map Prod.fst) :
    ∃ v, rlookup m x = some v := by
  cases hl : rlookup m x with
  | some v => exact ⟨v, rfl⟩
  | none => exact absurd h (rlookup_eq_none_iff.1 hl)

theorem comp_lookup_some_rt {m μ : List (String × String)} (hd : μ.map Prod.fst = m.map Prod.snd) {x v : String}
    (hl : rlookup m x = some v) :
    ∃ z, rlookup μ v = some z ∧ rlookup (m.map (fun p => (p.1, rn μ p.2))) x = some z := by
  obtain ⟨z, hz⟩ := rlookup_some_of_key_rt (m := μ) (x := v)
    (by rw [hd]; exact List.mem_map.2 ⟨(x, v), rlookup_some_mem hl, rfl⟩)
  refine ⟨z, hz, ?_⟩
  rw [rlookup_mapSnd, hl]
  exact congrArg some (rn_of_some hz)

theorem comp_lookup_none_rt {m μ : List (String × String)} (hd : μ.map Prod.fst = m.map Prod.snd) {x : String}
    (hl : rlookup m x = none) (hf : notNew_rt m x = true) :
    rlookup μ x = none ∧ rlookup (m.map (fun p => (p.1, rn μ p.2))) x = none :=
  ⟨rlookup_eq_none_iff.2 (by rw [hd]; exact notNew_iff_rt.1 hf), by rw [rlookup_mapSnd, hl]; rfl⟩

theorem comp_ex_some_rt {r ρ : Renaming} (ok : CompOK_rt r ρ) {x m : String}
    (hl : (rlookup r.ty x).or (rlookup r.co x) = some m) :
    ∃ z, (rlookup ρ.ty m).or (rlookup ρ.co m) = some z ∧
      (rlookup (r.comp_rt ρ).ty x).or (rlookup (r.comp_rt ρ).co x) = some z := by
  cases h1 : rlookup r.ty x with
  | some m' =>
    rw [h1] at hl
    cases hl
    obtain ⟨z, hz, hπ⟩ := comp_lookup_some_rt ok.ty h1
    exact ⟨z, by rw [hz]; rfl, by rw [comp_ty_rt, hπ]; rfl⟩
  | none =>
    rw [h1, Option.none_or] at hl
    obtain ⟨z, hz, hπ⟩ := comp_lookup_some_rt ok.co hl
    have hm : rlookup ρ.ty m = none :=
      rlookup_eq_none_iff.2 (by rw [ok.ty]; exact ok.disj m (List.mem_map.2 ⟨(x, m), rlookup_some_mem hl, rfl⟩))
    refine ⟨z, by rw [hm, hz]; rfl, ?_⟩
    rw [comp_ty_rt, rlookup_mapSnd, h1, comp_co_rt, hπ]
    rfl

theorem comp_ex_none_rt {r ρ : Renaming} (ok : CompOK_rt r ρ) {x : String}
    (hl : (rlookup r.ty x).or (rlookup r.co x) = none) (hf : freshOrEx_rt r x = true) :
    (rlookup ρ.ty x).or (rlookup ρ.co x) = none ∧
      (rlookup (r.comp_rt ρ).ty x).or (rlookup (r.comp_rt ρ).co x) = none := by
  have h1 : rlookup r.ty x = none := by
    cases h : rlookup r.ty x with
    | none => rfl
    | some v => rw [h] at hl; cases hl
  have h2 : rlookup r.co x = none := by rw [h1, Option.none_or] at hl; exact hl
  unfold freshOrEx_rt at hf
  rw [h1, h2] at hf
  simp only [Option.isSome_none, Bool.false_or, Bool.and_eq_true] at hf
  obtain ⟨a1, a2⟩ := comp_lookup_none_rt ok.ty h1 hf.1
  obtain ⟨b1, b2⟩ := comp_lookup_none_rt ok.co h2 hf.2
  exact ⟨by rw [a1, b1]; rfl, by rw [comp_ty_rt, a2, comp_co_rt, b2]; rfl⟩

/-- the new spelling in expression position composes -/
theorem exW_comp_rt {r ρ : Renaming} (ok : CompOK_rt r ρ) {x : String} (hf : freshOrEx_rt r x = true) :
    exW ρ (exW r x) = exW (r.comp_rt ρ) x := by
  cases hl : (rlookup r.ty x).or (rlookup r.co x) with
  | some m =>
    obtain ⟨z, h1, h2⟩ := comp_ex_some_rt ok hl
    rw [exW_of_some hl, exW_of_some h1, exW_of_some h2]
  | none =>
    obtain ⟨h1, h2⟩ := comp_ex_none_rt ok hl hf
    rw [exW_of_none hl, exW_of_none h1, exW_of_none h2]

/-! ### The composition of two textual renamings -/

/-- the path child of a path node that stays a node: the two head rewritings compose as the renamings do -/
theorem mapHead_acT_comp_rt {r ρ : Renaming} {f fρ g : String → String} {p : T}
    (ihp : acT_cr ρ (acT_cr r p) = acT_cr (r.comp_rt ρ) p) (hn : ∀ x, firstSegIdent p = some x → fρ (f x) = g x) :
    mapHead fρ (acT_cr ρ (mapHead f (acT_cr r p))) = mapHead g (acT_cr (r.comp_rt ρ) p) := by
  rw [(acT_nodeMap_cr ρ).mapHead, ihp, mapHead_mapHead_rt,
    mapHead_congr (f := fun x => fρ (f x)) (g := g) (fun x hx => hn x (by rwa [firstSegIdent_acT_cr] at hx))]

/-- **two textual renamings compose**: renaming by `r` and then by `ρ` (defined exactly on the new names of `r`) is
    renaming by `r ; ρ`, on a tree without capture whose lone parameter paths have neither atoms nor attributes -/
theorem acT_comp_rt {r ρ : Renaming} (ok : CompOK_rt r ρ) (t : T) :
    acOK_rt r t = true → acT_cr ρ (acT_cr r t) = acT_cr (r.comp_rt ρ) t := by
  induction t using T.shapeInd with
  | tparam n =>
    intro h
    rw [acOK_rt] at h
    rw [acT_tparam_cr r, acT_tparam_cr (r.comp_rt ρ)]
    cases hl : rlookup r.ty n with
    | some m =>
      obtain ⟨z, hz, hπ⟩ := comp_lookup_some_rt ok.ty hl
      simp only
      rw [mkTypeIdent_reserved_cr (reservedTargets_ty_cr ok.res hl), acT_tparam_cr, hz, comp_ty_rt, hπ]
    | none =>
      unfold freshOr_rt at h
      rw [hl] at h
      obtain ⟨h1, h2⟩ := comp_lookup_none_rt ok.ty hl (by simpa using h)
      simp only
      rw [acT_tparam_cr, h1, comp_ty_rt, h2]
  | eparam n =>
    intro h
    rw [acOK_rt] at h
    rw [acT_eparam_cr r, acT_eparam_cr (r.comp_rt ρ)]
    cases hl : (rlookup r.ty n).or (rlookup r.co n) with
    | some m =>
      obtain ⟨z, hz, hπ⟩ := comp_ex_some_rt ok hl
      simp only
      rw [mkExprIdent_reserved_cr (reservedTargets_ex_cr ok.res hl), acT_eparam_cr, hz, hπ]
    | none =>
      obtain ⟨h1, h2⟩ := comp_ex_none_rt ok hl h
      simp only
      rw [acT_eparam_cr, h1, h2]
  | ign as ks => intro _; rw [acT_ign_cr, acT_ign_cr, acT_ign_cr]
  | eq as ks => intro _; rw [acT_eq_cr, acT_eq_cr, acT_eq_cr]
  | lifetime as x =>
    intro hok
    rw [acOK_rt] at hok
    rw [acT_lifetime_cr, acT_lifetime_cr, acT_lifetime_cr, comp_lt_rt, rn_comp_rt ok.lt hok]
  | typePath as q p ihq ihp =>
    intro hok
    rw [acOK_typePath_rt] at hok
    simp only [Bool.and_eq_true] at hok
    obtain ⟨⟨hq, hp⟩, hh⟩ := hok
    -- no lone path becomes a leaf on either side: the three renamings act on the children
    have general : convTy_cr r q p = none → convTy_cr ρ (acT_cr r q) (mapHead (rn r.ty) (acT_cr r p)) = none →
        convTy_cr (r.comp_rt ρ) q p = none →
        (∀ x, firstSegIdent p = some x → rn ρ.ty (rn r.ty x) = rn (r.comp_rt ρ).ty x) →
        acT_cr ρ (acT_cr r (.node "Type::Path" as [q, p])) = acT_cr (r.comp_rt ρ) (.node "Type::Path" as [q, p]) := by
      intro c1 c2 c3 hn
      rw [acT_typePath_cr r, c1]
      simp only
      rw [acT_typePath_cr ρ, c2]
      simp only
      rw [acT_typePath_cr (r.comp_rt ρ), c3]
      simp only
      rw [ihq hq, mapHead_acT_comp_rt (ihp hp) hn]
    have hn : ∀ y, firstSegIdent p = some y → rn ρ.ty (rn r.ty y) = rn (r.comp_rt ρ).ty y := by
      intro y hy
      rw [hy] at hh
      simp only [Bool.and_eq_true] at hh
      rw [comp_ty_rt]
      exact rn_comp_rt ok.ty hh.1
    by_cases hl : lonePath_cr q p = true
    · obtain ⟨rfl, x, rfl⟩ := lonePath_inv_cr hl
      rw [firstSegIdent_plainPath] at hh
      simp only [Bool.and_eq_true] at hh
      obtain ⟨hfr, hat⟩ := hh
      cases hlk : rlookup r.ty x with
      | some m =>
        have has : as = [] := by
          rw [hlk, hl] at hat
          simpa using hat
        subst has
        obtain ⟨z, hz, hπ⟩ := comp_lookup_some_rt ok.ty hlk
        rw [acT_loneTy_rt r hlk, mkTypeIdent_reserved_cr (reservedTargets_ty_cr ok.res hlk), acT_tparam_cr, hz]
        simp only
        rw [acT_loneTy_rt (r.comp_rt ρ) (by rw [comp_ty_rt]; exact hπ)]
      | none =>
        unfold freshOr_rt at hfr
        rw [hlk] at hfr
        obtain ⟨h1, h2⟩ := comp_lookup_none_rt ok.ty hlk (by simpa using hfr)
        refine general (convTy_unrenamed_cr r fun y hy => by cases hy; exact hlk)
          (convTy_unrenamed_cr ρ fun y hy => ?_) (convTy_unrenamed_cr _ fun y hy => by cases hy; rw [comp_ty_rt]; exact h2) hn
        rw [firstSegIdent_mapHead, firstSegIdent_acT_cr, firstSegIdent_plainPath, Option.map_some, rn_of_none hlk] at hy
        cases hy
        exact h1
    · have hl' : lonePath_cr q p = false := by simpa using hl
      exact general (convTy_notLone_cr r hl') (convTy_notLone_cr ρ (by rw [lonePath_acT_rt]; exact hl'))
        (convTy_notLone_cr _ hl') hn
  | exprPath as a q p iha ihq ihp =>
    intro hok
    rw [acOK_exprPath_rt] at hok
    simp only [Bool.and_eq_true] at hok
    obtain ⟨⟨⟨ha, hq⟩, hp⟩, hh⟩ := hok
    have general : convEx_cr r q p = none → convEx_cr ρ (acT_cr r q) (mapHead (exW r) (acT_cr r p)) = none →
        convEx_cr (r.comp_rt ρ) q p = none →
        (∀ x, firstSegIdent p = some x → exW ρ (exW r x) = exW (r.comp_rt ρ) x) →
        acT_cr ρ (acT_cr r (.node "Expr::Path" as [a, q, p])) = acT_cr (r.comp_rt ρ) (.node "Expr::Path" as [a, q, p]) := by
      intro c1 c2 c3 hn
      rw [acT_exprPath_cr r, c1]
      simp only
      rw [acT_exprPath_cr ρ, c2]
      simp only
      rw [acT_exprPath_cr (r.comp_rt ρ), c3]
      simp only
      rw [iha ha, ihq hq, mapHead_acT_comp_rt (ihp hp) hn]
    have hn : ∀ y, firstSegIdent p = some y → exW ρ (exW r y) = exW (r.comp_rt ρ) y := by
      intro y hy
      rw [hy] at hh
      simp only [Bool.and_eq_true] at hh
      exact exW_comp_rt ok hh.1
    by_cases hl : lonePath_cr q p = true
    · obtain ⟨rfl, x, rfl⟩ := lonePath_inv_cr hl
      rw [firstSegIdent_plainPath] at hh
      simp only [Bool.and_eq_true] at hh
      obtain ⟨hfr, hat⟩ := hh
      cases hlk : (rlookup r.ty x).or (rlookup r.co x) with
      | some m =>
        have has : as = [] ∧ a = emptyAttrs_rt := by
          rw [← Option.isSome_or, hlk, hl] at hat
          simpa using hat
        obtain ⟨rfl, rfl⟩ := has
        obtain ⟨z, hz, hπ⟩ := comp_ex_some_rt ok hlk
        rw [acT_loneEx_rt r hlk, mkExprIdent_reserved_cr (reservedTargets_ex_cr ok.res hlk), acT_eparam_cr, hz]
        simp only
        rw [acT_loneEx_rt (r.comp_rt ρ) hπ]
      | none =>
        obtain ⟨h1, h2⟩ := comp_ex_none_rt ok hlk hfr
        refine general (convEx_unrenamed_cr r fun y hy => by cases hy; exact hlk)
          (convEx_unrenamed_cr ρ fun y hy => ?_) (convEx_unrenamed_cr _ fun y hy => by cases hy; exact h2) hn
        rw [firstSegIdent_mapHead, firstSegIdent_acT_cr, firstSegIdent_plainPath, Option.map_some, exW_of_none hlk] at hy
        cases hy
        exact h1
    · have hl' : lonePath_cr q p = false := by simpa using hl
      exact general (convEx_notLone_cr r hl') (convEx_notLone_cr ρ (by rw [lonePath_acT_rt]; exact hl'))
        (convEx_notLone_cr _ hl') hn
  | other k as ks h ih =>
    intro hok
    rw [(acT_nodeMap_cr r).other as h, (acT_nodeMap_cr ρ).other as ((acT_nodeMap_cr r).nodeOther h),
      (acT_nodeMap_cr _).other as h, List.map_map]
    exact congrArg _ (List.map_congr_left fun t ht => ih t ht ((acOK_allKids_rt r).kids as h hok t ht))

/-! ### Identity renamings -/

theorem isId_parts_rt {π : Renaming} (h : π.isId = true) : idMap π.lt = true ∧ idMap π.ty = true ∧ idMap π.co = true := by
  simp only [Renaming.isId, Bool.and_eq_true] at h
  exact ⟨h.1.1, h.1.2, h.2⟩

theorem exL_idMap_rt {π : Renaming} (hid : π.isId = true) {x m : String}
    (hl : (rlookup π.ty x).or (rlookup π.co x) = some m) : m = x := by
  obtain ⟨_, hty, hco⟩ := isId_parts_rt hid
  rcases Option.or_eq_some_iff.1 hl with h | ⟨_, h⟩
  · exact rlookup_idMap hty h
  · exact rlookup_idMap hco h

theorem exW_idMap_rt {π : Renaming} (hid : π.isId = true) (x : String) : exW π x = x := by
  cases hl : (rlookup π.ty x).or (rlookup π.co x) with
  | some m => rw [exW_of_some hl, exL_idMap_rt hid hl]
  | none => exact exW_of_none hl

/-- an identity renaming changes nothing on a tree in decoder normal form (a reserved leaf stays a leaf, a lone ordinary
    path stays a path) -/
theorem acT_id_rt (π : Renaming) (hid : π.isId = true) (t : T) : decNF_cr t = true → acT_cr π t = t := by
  obtain ⟨hlt, hty, hco⟩ := isId_parts_rt hid
  induction t using T.shapeInd with
  | tparam n =>
    intro h
    rw [decNF_cr] at h
    rw [acT_tparam_cr]
    cases hl : rlookup π.ty n with
    | some m =>
      simp only
      cases rlookup_idMap hty hl
      exact mkTypeIdent_reserved_cr h
    | none => rfl
  | eparam n =>
    intro h
    rw [decNF_cr] at h
    rw [acT_eparam_cr]
    cases hl : (rlookup π.ty n).or (rlookup π.co n) with
    | some m =>
      simp only
      cases exL_idMap_rt hid hl
      exact mkExprIdent_reserved_cr h
    | none => rfl
  | ign as ks => intro _; rw [acT_ign_cr]
  | eq as ks => intro _; rw [acT_eq_cr]
  | lifetime as x => intro _; rw [acT_lifetime_cr, rn_idMap hlt]
  | typePath as q p ihq ihp =>
    intro hok
    rw [decNF_typePath_cr] at hok
    simp only [Bool.and_eq_true] at hok
    rw [acT_typePath_cr, convTy_none_of_decNF_cr (fun x m hl => by rw [rlookup_idMap hty hl]) hok.2]
    simp only
    rw [ihq hok.1.1, ihp hok.1.2, mapHead_id (fun y _ => rn_idMap hty y)]
  | exprPath as a q p iha ihq ihp =>
    intro hok
    rw [decNF_exprPath_cr] at hok
    simp only [Bool.and_eq_true] at hok
    rw [acT_exprPath_cr, convEx_none_of_decNF_cr (fun x m hl => by rw [exL_idMap_rt hid hl]) hok.2]
    simp only
    rw [iha hok.1.1.1, ihq hok.1.1.2, ihp hok.1.2, mapHead_id (fun y _ => exW_idMap_rt hid y)]
  | other k as ks h ih =>
    intro hok
    rw [(acT_nodeMap_cr π).other as h]
    exact congrArg _ ((List.map_congr_left fun t ht => ih t ht (decNF_allKids_cr.kids as h hok t ht)).trans (List.map_id _))

/-! ### The inverse renaming -/

theorem swapPairs_fst_rt (m : List (String × String)) : (swapPairs_rt m).map Prod.fst = m.map Prod.snd := by
  simp [swapPairs_rt, List.map_map, Function.comp_def]

theorem rn_swap_rt {m : List (String × String)} (hn : (m.map Prod.snd).Nodup) {x v : String} (h : (x, v) ∈ m) :
    rn (swapPairs_rt m) v = x := by
  obtain ⟨x', hx'⟩ := rlookup_some_of_key_rt (m := swapPairs_rt m) (x := v)
    (by rw [swapPairs_fst_rt]; exact List.mem_map.2 ⟨(x, v), h, rfl⟩)
  have hm := rlookup_some_mem hx'
  unfold swapPairs_rt at hm
  obtain ⟨⟨y, w⟩, hp, e⟩ := List.mem_map.1 hm
  simp only [Prod.mk.injEq] at e
  obtain ⟨rfl, rfl⟩ := e
  rw [rn_of_some hx']
  exact (Prod.mk.inj (nodup_map_inj hn hp h rfl)).1

theorem idMap_comp_swap_rt {m : List (String × String)} (hn : (m.map Prod.snd).Nodup) :
    idMap (m.map (fun p => (p.1, rn (swapPairs_rt m) p.2))) = true := by
  simp only [idMap, List.all_map, List.all_eq_true, Function.comp_apply, beq_iff_eq]
  intro p hp
  exact (rn_swap_rt hn (x := p.1) (v := p.2) hp).symm

/-- what is needed of `r` for `r⁻¹` to undo it: the new names are reserved identifiers, pairwise distinct per name space
    (lifetimes / types and consts) -/
structure InvOK_rt (r : Renaming) : Prop where
  res : r.reservedTargets_cr = true
  lt : (r.lt.map Prod.snd).Nodup
  tyco : ((r.ty ++ r.co).map Prod.snd).Nodup

theorem InvOK_rt.parts {r : Renaming} (h : InvOK_rt r) :
    (r.ty.map Prod.snd).Nodup ∧ (r.co.map Prod.snd).Nodup ∧ ∀ m ∈ r.co.map Prod.snd, m ∉ r.ty.map Prod.snd := by
  have := h.tyco
  rw [List.map_append, List.nodup_append] at this
  exact ⟨this.1, this.2.1, fun m hm hm' => this.2.2 m hm' m hm rfl⟩

theorem comp_inv_isId_rt {r : Renaming} (h : InvOK_rt r) : (r.comp_rt r.inv_rt).isId = true := by
  obtain ⟨hty, hco, _⟩ := h.parts
  simp only [Renaming.isId, Bool.and_eq_true]
  exact ⟨⟨idMap_comp_swap_rt h.lt, idMap_comp_swap_rt hty⟩, idMap_comp_swap_rt hco⟩

/-- `ρ⁻¹` is defined exactly on the new names of `r` when `ρ` and `r` hand out the same names -/
theorem compOK_inv_rt {r ρ : Renaming} (h : InvOK_rt r) (elt : ρ.lt.map Prod.snd = r.lt.map Prod.snd)
    (ety : ρ.ty.map Prod.snd = r.ty.map Prod.snd) (eco : ρ.co.map Prod.snd = r.co.map Prod.snd) :
    CompOK_rt r ρ.inv_rt :=
  ⟨h.res, by rw [← elt]; exact swapPairs_fst_rt _, by rw [← ety]; exact swapPairs_fst_rt _,
    by rw [← eco]; exact swapPairs_fst_rt _, h.parts.2.2⟩

/-- a renaming read off an indexer state is invertible -/
theorem invOK_of_idxInv_rt (s : IxState) (h : IdxInv s) : InvOK_rt s.renaming := by
  have hn : ((s.renaming.lt ++ s.renaming.ty ++ s.renaming.co).map Prod.snd).Nodup := by
    rw [renaming_new_names s]
    exact List.Pairwise.map genIndexedIdent (fun a b hab e => hab (genIndexedIdent_inj e)) h.1
  rw [List.append_assoc, List.map_append, List.nodup_append] at hn
  exact ⟨renaming_reservedTargets_cr _, hn.1, hn.2.1⟩

theorem renaming_invOK_rt (item : T) : InvOK_rt (indexImpl item).renaming :=
  invOK_of_idxInv_rt _ (indexImpl_idxInv item)

/-- renaming a tree by `r` and then by `r⁻¹` gives the tree back -/
theorem acT_inv_rt {r : Renaming} (hr : InvOK_rt r) (t : T) (h1 : acOK_rt r t = true) (h3 : decNF_cr t = true) :
    acT_cr r.inv_rt (acT_cr r t) = t := by
  rw [acT_comp_rt (compOK_inv_rt hr rfl rfl rfl) t h1, acT_id_rt _ (comp_inv_isId_rt hr) _ h3]

/-! ### The block level -/

/-- renaming the block by `r` and then by `ρ` is renaming it by `r ; ρ` -/
theorem alphaRenameC_comp_rt {r ρ : Renaming} (ok : CompOK_rt r ρ) (item : T) (h1 : acOK_rt r item = true)
    (h2 : declsFresh_rt r item = true) :
    alphaRenameC_cr ρ (alphaRenameC_cr r item) = alphaRenameC_cr (r.comp_rt ρ) item := by
  unfold alphaRenameC_cr
  rw [← acT_renameImplDecls_rt r ρ, renameImplDecls_comp_rt r ρ ok.ty ok.co item h2,
    acT_comp_rt ok _ (by rw [(acOK_allKids_rt r).renameImplDecls]; exact h1)]

/-- renaming the block by `r` and then by `r⁻¹` gives the block back -/
theorem alphaRenameC_inv_rt {r : Renaming} (hr : InvOK_rt r) (item : T) (h1 : acOK_rt r item = true)
    (h2 : declsFresh_rt r item = true) (h3 : decNF_cr item = true) :
    alphaRenameC_cr r.inv_rt (alphaRenameC_cr r item) = item := by
  rw [alphaRenameC_comp_rt (compOK_inv_rt hr rfl rfl rfl) item h1 h2]
  unfold alphaRenameC_cr
  rw [renameImplDecls_id _ (comp_inv_isId_rt hr), acT_id_rt _ (comp_inv_isId_rt hr) _ h3]

/-! ### `canonWF` gives the no-capture conditions -/

theorem loneOK_typePath_rt (r : Renaming) (as : List String) (q p : T) :
    loneOK_rt r (.node "Type::Path" as [q, p]) = (loneOK_rt r q && loneOK_rt r p &&
      (match firstSegIdent p with
       | some x => !((rlookup r.ty x).isSome && lonePath_cr q p) || as.isEmpty
       | none => true)) := by
  rw [loneOK_rt]; cases firstSegIdent p <;> rfl
theorem loneOK_exprPath_rt (r : Renaming) (as : List String) (a q p : T) :
    loneOK_rt r (.node "Expr::Path" as [a, q, p]) = (loneOK_rt r a && loneOK_rt r q && loneOK_rt r p &&
      (match firstSegIdent p with
       | some x => !(((rlookup r.ty x).isSome || (rlookup r.co x).isSome) && lonePath_cr q p) || (as.isEmpty && a == emptyAttrs_rt)
       | none => true)) := by
  rw [loneOK_rt]; cases firstSegIdent p <;> rfl

theorem loneOKL_all_rt (r : Renaming) : ∀ ks : List T, loneOKL_rt r ks = ks.all (loneOK_rt r)
  | [] => by rw [loneOKL_rt]; rfl
  | t :: ts => by rw [loneOKL_rt, List.all_cons, loneOKL_all_rt r ts]

theorem loneOK_allKids_rt (r : Renaming) : AllKids (loneOK_rt r) :=
  ⟨fun {k} as {ks} h => (h.arm (loneOK_rt.eq_8 r k as ks)).trans (loneOKL_all_rt r ks)⟩

theorem freshOr_of_ok_rt {c : CCtx} (st : Stat c) (k : PK) (hn : ((c.m k).map Prod.fst).Nodup) {x : String}
    (hok : x ∈ c.D k ∨ x ∉ (c.D k).map (c.ρ k)) : freshOr_rt (c.m k) x = true := by
  unfold freshOr_rt
  cases hl : rlookup (c.m k) x with
  | some v => rfl
  | none => exact notNew_iff_rt.2 (fresh_of_ok st hn hok hl)

theorem freshOrEx_of_ok_rt {c : CCtx} (st : Stat c) (hn : ∀ k, ((c.m k).map Prod.fst).Nodup) {x : String}
    (hok : okEx c x = true) : freshOrEx_rt c.r x = true := by
  unfold freshOrEx_rt
  cases h1 : rlookup c.r.ty x with
  | some v => rfl
  | none =>
    cases h2 : rlookup c.r.co x with
    | some v => rfl
    | none =>
      exact Bool.and_eq_true_iff.2 ⟨notNew_iff_rt.2 (fresh_of_okEx (k := .ty) st rfl (hn .ty) hok h1 h2),
        notNew_iff_rt.2 (fresh_of_okEx (k := .co) st rfl (hn .co) hok h1 h2)⟩

/-- **`acOK_rt` follows from the tree clause `rsOK` of `canonWF` and `loneOK_rt`** -/
theorem acOK_of_rsOK_rt (c : CCtx) (st : Stat c) (hn : ∀ k, ((c.m k).map Prod.fst).Nodup) (t : T) :
    rsOK c t = true → loneOK_rt c.r t = true → acOK_rt c.r t = true := by
  induction t using T.shapeInd with
  | tparam n =>
    intro h _
    rw [rsOK] at h
    rw [acOK_rt]
    exact freshOr_of_ok_rt st .ty (hn .ty) (okTy_iff.1 h)
  | eparam n =>
    intro h _
    rw [rsOK] at h
    rw [acOK_rt]
    exact freshOrEx_of_ok_rt st hn h
  | ign as ks => intro _ _; rw [acOK_rt]
  | eq as ks => intro _ _; rw [acOK_rt]
  | lifetime as x =>
    intro hok _
    rw [rsOK] at hok
    rw [acOK_rt]
    exact freshOr_of_ok_rt st .lt (hn .lt) (okLt_iff.1 hok)
  | typePath as q p ihq ihp =>
    intro hok hlo
    obtain ⟨hq, hp, hx⟩ := rsOK_typePath_inv hok
    rw [loneOK_typePath_rt] at hlo
    simp only [Bool.and_eq_true] at hlo
    obtain ⟨⟨lq, lp⟩, lh⟩ := hlo
    rw [acOK_typePath_rt, ihq hq lq, ihp hp lp]
    simp only [Bool.true_and]
    cases hf : firstSegIdent p with
    | none => rfl
    | some x =>
      rw [hf] at lh
      have h1 : freshOr_rt c.r.ty x = true := freshOr_of_ok_rt st .ty (hn .ty) (okTy_iff.1 (hx x hf).1)
      simp only at lh ⊢
      rw [h1, Bool.true_and]
      exact lh
  | exprPath as a q p iha ihq ihp =>
    intro hok hlo
    obtain ⟨ha, hq, hp, hx⟩ := rsOK_exprPath_inv hok
    rw [loneOK_exprPath_rt] at hlo
    simp only [Bool.and_eq_true] at hlo
    obtain ⟨⟨⟨la, lq⟩, lp⟩, lh⟩ := hlo
    rw [acOK_exprPath_rt, iha ha la, ihq hq lq, ihp hp lp]
    simp only [Bool.true_and]
    cases hf : firstSegIdent p with
    | none => rfl
    | some x =>
      rw [hf] at lh
      have h1 : freshOrEx_rt c.r x = true := freshOrEx_of_ok_rt st hn (hx x hf).1
      simp only at lh ⊢
      rw [h1, Bool.true_and]
      exact lh
  | other k as ks h ih =>
    intro hok hlo
    rw [(acOK_allKids_rt c.r).other as h, List.all_eq_true]
    exact fun t ht => ih t ht ((rsOK_allKids c).kids as h hok t ht) ((loneOK_allKids_rt c.r).kids as h hlo t ht)

theorem declFresh_other_rt (r : Renaming) {t : T} (h1 : ∀ a x rest, t ≠ tyDecl_rt a x rest)
    (h2 : ∀ a x rest, t ≠ coDecl_rt a x rest) : declFresh_rt r t = true := by
  unfold declFresh_rt
  split
  · next a x rest => exact absurd rfl (h1 a x rest)
  · next a x rest => exact absurd rfl (h2 a x rest)
  · rfl

theorem kindSel_tyDecl_rt (a : T) (x : String) (rest : List T) :
    kindSel "GenericParam::Type" (tyDecl_rt a x rest) = some x := by
  simp [kindSel, tyDecl_rt, paramIdent]
theorem kindSel_coDecl_rt (a : T) (x : String) (rest : List T) :
    kindSel "GenericParam::Const" (coDecl_rt a x rest) = some x := by
  simp [kindSel, coDecl_rt, paramIdent]

/-- **`canonWF` gives the no-capture conditions of the composition**: `acOK_rt` (given its shape part `loneOK_rt`) and
    `declsFresh_rt` for the computed renaming -/
theorem acOK_of_canonWF_rt (item : T) (h : canonWF item = true) :
    (loneOK_rt (indexImpl item).renaming item = true → acOK_rt (indexImpl item).renaming item = true) ∧
    declsFresh_rt (indexImpl item).renaming item = true := by
  obtain ⟨_, hd, hf, hok⟩ := canonWF_parts h
  have st := canon_stat item hd hf
  have hn := keys_nodup_of_distinct item hd
  refine ⟨fun hl => acOK_of_rsOK_rt (canonCtx item) st hn item hok hl, ?_⟩
  unfold declsFresh_rt
  rw [List.all_eq_true]
  intro p hp
  by_cases h1 : ∃ a x rest, p = tyDecl_rt a x rest
  · obtain ⟨a, x, rest, rfl⟩ := h1
    rw [declFresh_ty_rt]
    have hx : x ∈ (canonCtx item).D .ty := by
      show x ∈ kindNames _ "GenericParam::Type"
      rw [kindNames_eq]
      exact List.mem_filterMap.2 ⟨_, hp, kindSel_tyDecl_rt a x rest⟩
    exact freshOr_of_ok_rt st .ty (hn .ty) (Or.inl hx)
  by_cases h2 : ∃ a x rest, p = coDecl_rt a x rest
  · obtain ⟨a, x, rest, rfl⟩ := h2
    rw [declFresh_co_rt]
    have hx : x ∈ (canonCtx item).D .co := by
      show x ∈ kindNames _ "GenericParam::Const"
      rw [kindNames_eq]
      exact List.mem_filterMap.2 ⟨_, hp, kindSel_coDecl_rt a x rest⟩
    exact freshOr_of_ok_rt st .co (hn .co) (Or.inl hx)
  exact declFresh_other_rt _ (fun a x rest e => h1 ⟨a, x, rest, e⟩) (fun a x rest e => h2 ⟨a, x, rest, e⟩)

theorem roundTripOK_parts_rt {item : T} (h : roundTripOK_rt item = true) :
    canonWF item = true ∧ decNF_cr item = true ∧ acOK_rt (indexImpl item).renaming item = true ∧
    declsFresh_rt (indexImpl item).renaming item = true ∧
    qsInvOK_rt (indexImpl item).renaming.tyNames_cr.contains (alphaRenameC_cr (indexImpl item).renaming item) = true := by
  simp only [roundTripOK_rt, Bool.and_eq_true] at h
  obtain ⟨h1, h2⟩ := acOK_of_canonWF_rt item h.1.1.1
  exact ⟨h.1.1.1, h.1.1.2, h1 h.1.2, h2, h.2⟩

/-- undoing the presentation change on the canonical block gives the textual renaming of the block -/
theorem unqself_canon_rt (item : T) (h : roundTripOK_rt item = true) :
    unqself_rt (indexImpl item).renaming (canon item) = alphaRenameC_cr (indexImpl item).renaming item := by
  obtain ⟨hwf, _, _, _, hqs⟩ := roundTripOK_parts_rt h
  rw [canon_is_renaming_cr item hwf]
  exact unqs_qs_rt _ _ hqs

/-- **the round trip**: the block is recovered from its canonical form and the computed renaming -/
theorem round_trip_rt (item : T) (h : roundTripOK_rt item = true) :
    alphaRenameC_cr (indexImpl item).renaming.inv_rt (unqself_rt (indexImpl item).renaming (canon item)) = item := by
  obtain ⟨_, hnf, hac, hdf, _⟩ := roundTripOK_parts_rt h
  rw [unqself_canon_rt item h]
  exact alphaRenameC_inv_rt (renaming_invOK_rt item) item hac hdf hnf

/-! ### Equal canonical blocks -/

/-- the canonical block carries the names handed out, in the order of the numbering -/
theorem canon_names_rt (item : T) (h : canonWF item = true) :
    (indexImpl (canon item)).renaming.lt.map Prod.snd = (indexImpl item).renaming.lt.map Prod.snd ∧
    (indexImpl (canon item)).renaming.ty.map Prod.snd = (indexImpl item).renaming.ty.map Prod.snd ∧
    (indexImpl (canon item)).renaming.co.map Prod.snd = (indexImpl item).renaming.co.map Prod.snd := by
  rw [canonWF_indexImpl_comm item h]
  simp [IxState.renaming, mapS, List.map_map, Function.comp_def]

/-- **equal canonical blocks come from blocks that are textual renamings of each other**, by the computed renaming
    `r ; r'⁻¹` -/
theorem same_canon_only_if_renaming_rt (item item' : T) (h : roundTripOK_rt item = true) (h' : roundTripOK_rt item' = true)
    (e : canon item = canon item') : alphaRenameC_cr (renamingBetween_rt item item') item = item' := by
  obtain ⟨hwf, _, hac, hdf, _⟩ := roundTripOK_parts_rt h
  obtain ⟨hwf', _, _, _, _⟩ := roundTripOK_parts_rt h'
  obtain ⟨n1, n2, n3⟩ := canon_names_rt item hwf
  obtain ⟨n1', n2', n3'⟩ := canon_names_rt item' hwf'
  rw [e] at n1 n2 n3
  have elt := n1'.symm.trans n1
  have ety := n2'.symm.trans n2
  have eco := n3'.symm.trans n3
  have rt' := round_trip_rt item' h'
  have eu : unqself_rt (indexImpl item').renaming = unqself_rt (indexImpl item).renaming := by
    unfold unqself_rt Renaming.tyNames_cr
    rw [ety]
  rw [← e, eu, unqself_canon_rt item h] at rt'
  rw [alphaRenameC_comp_rt (compOK_inv_rt (renaming_invOK_rt item) elt ety eco) item hac hdf] at rt'
  exact rt'

/-! ### Equal resolved trees (the form the grouping uses for trait path and self type) -/

/-- **two trees resolved to the same tree by two renamings that hand out the same names are textual renamings of each
    other** (tree level: applies to the trait paths and the self types of two blocks with the same canonical header) -/
theorem same_resolved_only_if_renaming_rt {r r' : Renaming} (hr : InvOK_rt r) (hr' : InvOK_rt r')
    (elt : r'.lt.map Prod.snd = r.lt.map Prod.snd) (ety : r'.ty.map Prod.snd = r.ty.map Prod.snd)
    (eco : r'.co.map Prod.snd = r.co.map Prod.snd) (t t' : T)
    (h1 : renOK_cr r.tyNames_cr.contains r t = true) (h1' : renOK_cr r'.tyNames_cr.contains r' t' = true)
    (h2 : qsInvOK_rt r.tyNames_cr.contains (acT_cr r t) = true)
    (h2' : qsInvOK_rt r'.tyNames_cr.contains (acT_cr r' t') = true)
    (h3 : acOK_rt r t = true) (h3' : acOK_rt r' t' = true) (h4' : decNF_cr t' = true)
    (e : rsT r t = rsT r' t') : acT_cr (r.comp_rt r'.inv_rt) t = t' := by
  have en : r'.tyNames_cr = r.tyNames_cr := ety
  rw [rsT_is_renaming_cr _ r hr.res t h1, rsT_is_renaming_cr _ r' hr'.res t' h1', en] at e
  rw [en] at h2'
  have e2 := congrArg (unqsT_rt r.tyNames_cr.contains) e
  rw [unqs_qs_rt _ _ h2, unqs_qs_rt _ _ h2'] at e2
  rw [← acT_comp_rt (compOK_inv_rt hr elt ety eco) t h3, e2]
  exact acT_inv_rt hr' t' h3' h4'

end DI

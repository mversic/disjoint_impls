/-
  C16 — the helper trait's parameter list and every use of the helper trait agree position by position and kind by kind
  (trait mode).  Proof-only definitions (`…_ha`) and lemmas; the headline theorems are in `Props/C16.lean`.

  Model functions read here: `helperGenerics`, `helperTraitOfTrait`, `helperImpl`, `helperImpls`, `helperRef`
  (`Expand.lean`).  What the real code does:
  * helper_trait.rs:86-105 `combine_generic_args`: parameters of the helper trait = lifetimes of the definition, then the
    key parameters `_ŠČ<start+i>: ?Sized`, then the definition's other parameters;
  * main_trait.rs:184-209 `combine_generic_args`: arguments of the main impl's helper reference = lifetime arguments of
    the block's trait path, then one projection per key, then the other arguments;
  * disjoint.rs:53-80: arguments of a helper impl's trait path = the member's row, CHAINED IN FRONT OF the block's own
    arguments, lifetimes included: the `syn` tree has type arguments before lifetime arguments.  No code of the macro
    re-orders them; what rustc sees is nevertheless lifetimes-first, because `syn`'s printer of
    `AngleBracketedGenericArguments` prints the lifetime arguments first "regardless of their order in args"
    (syn-2.0.x src/path.rs, `print_angle_bracketed_generic_arguments`).  `printedArgs_inh` (Lemmas/ExpandInherent.lean) is
    that printer on argument lists; the alignment of a helper impl holds for the PRINTED list and fails for the tree
    (`C16_helper_impl_tree_order_counterexample`).
-/
import DisjointImpls.Lemmas.ExpandItems
namespace DI

open XOK

/-! ### kinds of parameters and arguments, defaults -/

/-- the three kinds of generic parameters / arguments -/
inductive GKind_ha where
  | lifetime | type | const
  deriving DecidableEq, Repr

def paramKind_ha : T → Option GKind_ha
  | .node "GenericParam::Lifetime" _ _ => some .lifetime
  | .node "GenericParam::Type" _ _ => some .type
  | .node "GenericParam::Const" _ _ => some .const
  | _ => none

def argKind_ha : T → Option GKind_ha
  | .node "GenericArgument::Lifetime" _ _ => some .lifetime
  | .node "GenericArgument::Type" _ _ => some .type
  | .node "GenericArgument::Const" _ _ => some .const
  | _ => none

/-- the default of a type parameter (`U = u32`) or of a const parameter (`const N: usize = 3`); a lifetime parameter
    has none -/
def paramDefault_ha : T → Option T
  | .node "GenericParam::Type" [] [.node "TypeParam" [] [_, _, _, _, _, .node "Some" [] [d]]] => some d
  | .node "GenericParam::Const" [] [.node "ConstParam" [] [_, _, _, _, .node "Some" [] [d]]] => some d
  | _ => none

def hasDefault_ha (p : T) : Bool := (paramDefault_ha p).isSome

/-- THE SIDE CONDITION (executable): the argument list `as` matches the parameter list `ps` kind by kind and position by
    position — a lifetime argument for a lifetime parameter, a type argument for a type parameter, a const argument for a
    const parameter; there are no more arguments than parameters; arguments may be missing only at the end and only for
    parameters that have a default (so never for a lifetime parameter). -/
def kindsMatch_ha : List T → List T → Bool
  | ps, [] => ps.all hasDefault_ha
  | [], _ :: _ => false
  | p :: ps, a :: as => (paramKind_ha p).isSome && (paramKind_ha p == argKind_ha a) && kindsMatch_ha ps as

theorem isLifetimeParam_kind_ha (p : T) : isLifetimeParam p = (paramKind_ha p == some .lifetime) := by
  unfold isLifetimeParam paramKind_ha
  split <;> split <;> simp_all

theorem isLifetimeArg_kind_ha (a : T) : isLifetimeArg a = (argKind_ha a == some .lifetime) := by
  unfold isLifetimeArg argKind_ha
  split <;> split <;> simp_all

theorem hasDefault_not_lifetime_ha {p : T} (h : hasDefault_ha p = true) : isLifetimeParam p = false := by
  unfold hasDefault_ha paramDefault_ha at h
  unfold isLifetimeParam
  split at h <;> simp_all

theorem kindsMatch_nil_ha (ps : List T) : kindsMatch_ha ps [] = ps.all hasDefault_ha := by
  cases ps <;> simp [kindsMatch_ha]

theorem kindsMatch_cons_ha (p a : T) (ps as : List T) :
    kindsMatch_ha (p :: ps) (a :: as) =
      ((paramKind_ha p).isSome && (paramKind_ha p == argKind_ha a) && kindsMatch_ha ps as) := by
  simp [kindsMatch_ha]

/-- a matching pair is a pair of lifetimes or a pair of non-lifetimes -/
theorem kind_eq_lifetime_ha {p a : T} (h : (paramKind_ha p == argKind_ha a) = true) :
    isLifetimeArg a = isLifetimeParam p := by
  rw [isLifetimeParam_kind_ha, isLifetimeArg_kind_ha, eq_of_beq h]

/-- plain reading of `kindsMatch_ha`: no more arguments than parameters, equal (and known) kinds at every supplied
    position, a default for every parameter beyond the last argument -/
theorem kindsMatch_spec_ha : ∀ (ps as : List T), kindsMatch_ha ps as = true →
    as.length ≤ ps.length ∧
    (∀ (i : Nat) (h1 : i < ps.length) (h2 : i < as.length),
        (paramKind_ha ps[i]).isSome = true ∧ paramKind_ha ps[i] = argKind_ha as[i]) ∧
    (∀ p ∈ ps.drop as.length, hasDefault_ha p = true)
  | ps, [], h => by
      rw [kindsMatch_nil_ha] at h
      refine ⟨Nat.zero_le _, fun i _ h2 => absurd h2 (Nat.not_lt_zero _), ?_⟩
      simpa using h
  | [], _ :: _, h => by simp [kindsMatch_ha] at h
  | p :: ps, a :: as, h => by
      rw [kindsMatch_cons_ha] at h
      simp only [Bool.and_eq_true] at h
      obtain ⟨⟨h1, h2⟩, h3⟩ := h
      obtain ⟨i1, i2, i3⟩ := kindsMatch_spec_ha ps as h3
      refine ⟨by simpa using i1, ?_, by simpa using i3⟩
      intro i hi1 hi2
      cases i with
      | zero => exact ⟨h1, eq_of_beq h2⟩
      | succ j => simpa using i2 j (by simpa using hi1) (by simpa using hi2)

/-- and conversely -/
theorem kindsMatch_of_spec_ha : ∀ (ps as : List T), as.length ≤ ps.length →
    (∀ (i : Nat) (h1 : i < ps.length) (h2 : i < as.length),
        (paramKind_ha ps[i]).isSome = true ∧ paramKind_ha ps[i] = argKind_ha as[i]) →
    (∀ p ∈ ps.drop as.length, hasDefault_ha p = true) → kindsMatch_ha ps as = true
  | ps, [], _, _, h3 => by
      rw [kindsMatch_nil_ha]; simpa using h3
  | [], _ :: _, h1, _, _ => by simp at h1
  | p :: ps, a :: as, h1, h2, h3 => by
      rw [kindsMatch_cons_ha]
      simp only [Bool.and_eq_true]
      have h0 := h2 0 (by simp) (by simp)
      refine ⟨⟨h0.1, by simpa using h0.2⟩, kindsMatch_of_spec_ha ps as (by simpa using h1) ?_ (by simpa using h3)⟩
      intro i hi1 hi2
      have := h2 (i + 1) (by simpa using hi1) (by simpa using hi2)
      simp only [List.getElem_cons_succ] at this
      exact this

/-! ### hoisting the lifetimes on both sides keeps every (parameter, argument) pair together -/

theorem filter_lifetime_of_defaults_ha : ∀ (ps : List T), ps.all hasDefault_ha = true →
    ps.filter isLifetimeParam = [] ∧ ps.filter (fun p => !isLifetimeParam p) = ps
  | [], _ => by simp
  | p :: ps, h => by
      simp only [List.all_cons, Bool.and_eq_true] at h
      obtain ⟨i1, i2⟩ := filter_lifetime_of_defaults_ha ps h.2
      have := hasDefault_not_lifetime_ha h.1
      simp [this, i1, i2]

/-- THE STABLE-PARTITION LEMMA. If `as` matches `ps`, then filtering the lifetimes out of both lists (what
    `combine_generic_args` does to the parameters, and what `combine_generic_args` of main_trait.rs / `syn`'s printer do
    to the arguments) pairs every argument with the SAME parameter as before; both halves match again and there are
    exactly as many lifetime arguments as lifetime parameters. -/
theorem kindsMatch_filter_ha : ∀ (ps as : List T), kindsMatch_ha ps as = true →
    kindsMatch_ha (ps.filter isLifetimeParam) (as.filter isLifetimeArg) = true ∧
    (ps.filter isLifetimeParam).length = (as.filter isLifetimeArg).length ∧
    kindsMatch_ha (ps.filter (fun p => !isLifetimeParam p)) (as.filter (fun a => !isLifetimeArg a)) = true ∧
    List.zip (ps.filter isLifetimeParam) (as.filter isLifetimeArg) =
      (List.zip ps as).filter (fun pa => isLifetimeParam pa.1) ∧
    List.zip (ps.filter (fun p => !isLifetimeParam p)) (as.filter (fun a => !isLifetimeArg a)) =
      (List.zip ps as).filter (fun pa => !isLifetimeParam pa.1) ∧
    (ps.filter (fun p => !isLifetimeParam p)).drop (as.filter (fun a => !isLifetimeArg a)).length = ps.drop as.length
  | ps, [], h => by
      rw [kindsMatch_nil_ha] at h
      obtain ⟨i1, i2⟩ := filter_lifetime_of_defaults_ha ps h
      simp [i1, i2, kindsMatch_nil_ha, h]
  | [], _ :: _, h => by simp [kindsMatch_ha] at h
  | p :: ps, a :: as, h => by
      rw [kindsMatch_cons_ha] at h
      simp only [Bool.and_eq_true] at h
      obtain ⟨⟨h1, h2⟩, h3⟩ := h
      obtain ⟨i1, i2, i3, i4, i5, i6⟩ := kindsMatch_filter_ha ps as h3
      have hk := kind_eq_lifetime_ha h2
      cases hp : isLifetimeParam p with
      | true =>
        rw [hp] at hk
        simp only [List.filter_cons, hp, hk, if_true, Bool.not_true, Bool.false_eq_true, if_false, List.zip_cons_cons,
          List.length_cons]
        refine ⟨?_, by omega, i3, by rw [i4], i5, by simpa using i6⟩
        rw [kindsMatch_cons_ha, h1, h2, i1]; rfl
      | false =>
        rw [hp] at hk
        simp only [List.filter_cons, hp, hk, if_true, Bool.not_false, Bool.false_eq_true, if_false, List.zip_cons_cons]
        refine ⟨i1, i2, ?_, i4, by rw [i5], by simpa using i6⟩
        rw [kindsMatch_cons_ha, h1, h2, i3]; rfl

theorem kindsMatch_append_ha : ∀ (A C B D : List T), A.length = C.length → kindsMatch_ha A C = true →
    kindsMatch_ha B D = true → kindsMatch_ha (A ++ B) (C ++ D) = true
  | [], [], _, _, _, _, h => by simpa using h
  | [], _ :: _, _, _, hl, _, _ => by simp at hl
  | _ :: _, [], _, _, hl, _, _ => by simp at hl
  | p :: A, a :: C, B, D, hl, h1, h2 => by
      rw [kindsMatch_cons_ha] at h1
      simp only [Bool.and_eq_true] at h1
      simp only [List.cons_append]
      rw [kindsMatch_cons_ha, h1.1.1, h1.1.2, kindsMatch_append_ha A C B D (by simpa using hl) h1.2 h2]; rfl

/-- lists of equal length whose parameters and arguments all have one kind -/
theorem kindsMatch_uniform_ha (k : GKind_ha) : ∀ (K R : List T), K.length = R.length →
    (∀ p ∈ K, paramKind_ha p = some k) → (∀ a ∈ R, argKind_ha a = some k) → kindsMatch_ha K R = true
  | [], [], _, _, _ => by simp [kindsMatch_ha]
  | [], _ :: _, hl, _, _ => by simp at hl
  | _ :: _, [], hl, _, _ => by simp at hl
  | p :: K, a :: R, hl, h1, h2 => by
      rw [kindsMatch_cons_ha, h1 p (by simp), h2 a (by simp),
        kindsMatch_uniform_ha k K R (by simpa using hl) (fun q hq => h1 q (by simp [hq])) (fun q hq => h2 q (by simp [hq]))]
      simp

/-! ### assembling `lifetimes ++ keys ++ others` on both sides -/

/-- THE ASSEMBLY LEMMA. `ps` the definition's parameters, `ua` the user's arguments matching them; `K` key parameters and
    `R` key arguments (a row of payloads, or the projections), equally many, all of kind "type". Then the list
    `lifetimes(ua) ++ R ++ others(ua)` matches `lifetimes(ps) ++ K ++ others(ps)`; position by position the pairs are the
    user's (parameter, argument) pairs with a lifetime parameter, then the key pairs `(K[i], R[i])`, then the user's other
    pairs; the `i`-th key pair sits at position `#lifetimes + i` on both sides; and the parameters left without an argument
    are exactly the definition's parameters the user left without an argument. -/
theorem align_assembly_ha (ps ua K R : List T) (hk : kindsMatch_ha ps ua = true) (hKR : K.length = R.length)
    (hK : ∀ p ∈ K, paramKind_ha p = some .type) (hR : ∀ a ∈ R, argKind_ha a = some .type) :
    kindsMatch_ha (ps.filter isLifetimeParam ++ K ++ ps.filter (fun p => !isLifetimeParam p))
      (ua.filter isLifetimeArg ++ R ++ ua.filter (fun a => !isLifetimeArg a)) = true ∧
    List.zip (ps.filter isLifetimeParam ++ K ++ ps.filter (fun p => !isLifetimeParam p))
        (ua.filter isLifetimeArg ++ R ++ ua.filter (fun a => !isLifetimeArg a)) =
      (List.zip ps ua).filter (fun pa => isLifetimeParam pa.1) ++ List.zip K R ++
      (List.zip ps ua).filter (fun pa => !isLifetimeParam pa.1) ∧
    (ps.filter isLifetimeParam ++ K ++ ps.filter (fun p => !isLifetimeParam p)).drop
        (ua.filter isLifetimeArg ++ R ++ ua.filter (fun a => !isLifetimeArg a)).length = ps.drop ua.length ∧
    (∀ i, i < K.length →
      (ps.filter isLifetimeParam ++ K ++ ps.filter (fun p => !isLifetimeParam p))[(ps.filter isLifetimeParam).length + i]? = K[i]? ∧
      (ua.filter isLifetimeArg ++ R ++ ua.filter (fun a => !isLifetimeArg a))[(ps.filter isLifetimeParam).length + i]? = R[i]?) := by
  obtain ⟨i1, i2, i3, i4, i5, i6⟩ := kindsMatch_filter_ha ps ua hk
  refine ⟨?_, ?_, ?_, ?_⟩
  · rw [List.append_assoc, List.append_assoc]
    exact kindsMatch_append_ha _ _ _ _ i2 i1
      (kindsMatch_append_ha _ _ _ _ hKR (kindsMatch_uniform_ha .type K R hKR hK hR) i3)
  · rw [List.zip_append (by simp [i2, hKR]), List.zip_append i2, i4, i5]
  · have hlen : (ua.filter isLifetimeArg ++ R ++ ua.filter (fun a => !isLifetimeArg a)).length =
        (ps.filter isLifetimeParam ++ K).length + (ua.filter (fun a => !isLifetimeArg a)).length := by
      simp only [List.length_append, i2, hKR]
    rw [hlen, List.drop_append, List.drop_of_length_le (by omega)]
    simp only [List.nil_append, Nat.add_sub_cancel_left]
    exact i6
  · intro i hi
    constructor
    · rw [List.append_assoc, List.getElem?_append_right (by omega)]
      simp [List.getElem?_append_left hi]
    · rw [i2, List.append_assoc, List.getElem?_append_right (by omega)]
      simp [List.getElem?_append_left (hKR ▸ hi)]

/-! ### the key parameters of the helper trait -/

theorem keyParams_length_ha (start nkeys : Nat) : (inhKeyParams_inh start nkeys).length = nkeys := by
  simp [inhKeyParams_inh]

theorem keyParams_get_ha (start nkeys i : Nat) (h : i < nkeys) :
    (inhKeyParams_inh start nkeys)[i]? = some (keyParam (genIndexedIdent (start + i))) := by
  simp [inhKeyParams_inh, h]

theorem keyParam_facts_ha (x : String) :
    paramKind_ha (keyParam x) = some .type ∧ paramDefault_ha (keyParam x) = none ∧ paramIdent (keyParam x) = some x ∧
    isLifetimeParam (keyParam x) = false ∧ hasDefault_ha (keyParam x) = false := by
  simp [keyParam, paramKind_ha, paramDefault_ha, paramIdent, isLifetimeParam, hasDefault_ha, tIdent, tNone]

theorem keyParams_mem_ha {start nkeys : Nat} {p : T} (h : p ∈ inhKeyParams_inh start nkeys) :
    ∃ i, i < nkeys ∧ p = keyParam (genIndexedIdent (start + i)) := by
  obtain ⟨i, hi, rfl⟩ := List.mem_map.1 h
  exact ⟨i, List.mem_range.1 hi, rfl⟩

theorem keyParams_kind_ha {start nkeys : Nat} {p : T} (h : p ∈ inhKeyParams_inh start nkeys) :
    paramKind_ha p = some .type := by
  obtain ⟨i, _, rfl⟩ := keyParams_mem_ha h
  exact (keyParam_facts_ha _).1

/-- the key parameters are pairwise differently named -/
theorem keyParams_nodup_ha (start nkeys : Nat) : ((inhKeyParams_inh start nkeys).map paramIdent).Nodup := by
  have : (inhKeyParams_inh start nkeys).map paramIdent =
      (List.range nkeys).map (fun i => some (genIndexedIdent (start + i))) := by
    simp [inhKeyParams_inh, List.map_map, Function.comp_def, (keyParam_facts_ha _).2.2.1]
  rw [this]
  exact List.Pairwise.map _ (fun a b hab e => hab (by
    have := genIndexedIdent_inj (Option.some.inj e); omega)) List.nodup_range

/-- THE EXACT FRESHNESS CONDITION (executable): no type or const parameter of the definition is spelled like one of the
    `nkeys` key parameters `_ŠČ<len ps>` … `_ŠČ<len ps + nkeys - 1>` (a lifetime may be: lifetimes are another name space) -/
def keyNamesFresh_ha (ps : List T) (nkeys : Nat) : Bool :=
  (List.range nkeys).all (fun i =>
    !((ps.filter (fun p => !isLifetimeParam p)).map paramIdent).contains (some (genIndexedIdent (ps.length + i))))

theorem keyNamesFresh_iff_ha (ps : List T) (nkeys : Nat) :
    keyNamesFresh_ha ps nkeys = true ↔
      ∀ k ∈ inhKeyParams_inh ps.length nkeys, ∀ p ∈ ps.filter (fun p => !isLifetimeParam p), paramIdent k ≠ paramIdent p := by
  unfold keyNamesFresh_ha
  simp only [List.all_eq_true, List.mem_range, Bool.not_eq_true', List.contains_eq_mem, decide_eq_false_iff_not,
    List.mem_map, not_exists, not_and]
  constructor
  · intro h k hk p hp e
    obtain ⟨i, hi, rfl⟩ := keyParams_mem_ha hk
    rw [(keyParam_facts_ha _).2.2.1] at e
    exact h i hi p hp e.symm
  · intro h i hi p hp e
    have hk : keyParam (genIndexedIdent (ps.length + i)) ∈ inhKeyParams_inh ps.length nkeys :=
      List.mem_map.2 ⟨i, List.mem_range.2 hi, rfl⟩
    exact h _ hk p hp (by rw [(keyParam_facts_ha _).2.2.1, e])

/-! ### the helper trait's parameter list -/

theorem helperParams_filters_ha (ps : List T) (nkeys : Nat) :
    (helperParams_it ps nkeys).filter isLifetimeParam = ps.filter isLifetimeParam ∧
    (helperParams_it ps nkeys).filter (fun p => !isLifetimeParam p) =
      inhKeyParams_inh ps.length nkeys ++ ps.filter (fun p => !isLifetimeParam p) :=
  keyedParams_filter_inh ps ps.length nkeys

/-- defaults are trailing among the type/const parameters -/
def defaultsTrailing_ha (ps : List T) : Bool :=
  ((ps.filter (fun p => !isLifetimeParam p)).dropWhile (fun p => !hasDefault_ha p)).all hasDefault_ha

theorem dropWhile_keys_ha (O : List T) : ∀ (K : List T), (∀ p ∈ K, hasDefault_ha p = false) →
    (K ++ O).dropWhile (fun p => !hasDefault_ha p) = O.dropWhile (fun p => !hasDefault_ha p)
  | [], _ => rfl
  | k :: K, h => by
      have hk := h k (by simp)
      simp only [List.cons_append, List.dropWhile_cons, hk, Bool.not_false, if_true]
      exact dropWhile_keys_ha O K (fun p hp => h p (by simp [hp]))

theorem defaultsTrailing_helper_ha (ps : List T) (nkeys : Nat) :
    defaultsTrailing_ha (helperParams_it ps nkeys) = defaultsTrailing_ha ps := by
  unfold defaultsTrailing_ha
  rw [(helperParams_filters_ha ps nkeys).2, dropWhile_keys_ha]
  intro p hp
  obtain ⟨i, _, rfl⟩ := keyParams_mem_ha hp
  exact (keyParam_facts_ha _).2.2.2.2

theorem filterMap_default_lifetimes_ha : ∀ (ps : List T),
    ps.filterMap paramDefault_ha = (ps.filter (fun p => !isLifetimeParam p)).filterMap paramDefault_ha
  | [] => rfl
  | p :: ps => by
      cases hp : isLifetimeParam p with
      | true =>
        have : paramDefault_ha p = none := by
          cases hd : paramDefault_ha p with
          | none => rfl
          | some d =>
            have := hasDefault_not_lifetime_ha (p := p) (by simp [hasDefault_ha, hd])
            rw [hp] at this; cases this
        simp [hp, this, filterMap_default_lifetimes_ha ps]
      | false =>
        simp [List.filterMap_cons, hp, filterMap_default_lifetimes_ha ps]

/-- the defaults of the helper trait are the defaults of the definition, in the same order -/
theorem helperParams_defaults_ha (ps : List T) (nkeys : Nat) :
    (helperParams_it ps nkeys).filterMap paramDefault_ha = ps.filterMap paramDefault_ha := by
  rw [filterMap_default_lifetimes_ha (helperParams_it ps nkeys), (helperParams_filters_ha ps nkeys).2,
    List.filterMap_append, ← filterMap_default_lifetimes_ha ps]
  have : (inhKeyParams_inh ps.length nkeys).filterMap paramDefault_ha = [] := by
    apply List.filterMap_eq_nil_iff.2
    intro p hp
    obtain ⟨i, _, rfl⟩ := keyParams_mem_ha hp
    exact (keyParam_facts_ha _).2.1
  rw [this]; rfl

/-- `align_assembly_ha` with the generated key parameters in the middle: the helper trait's parameters against a use that
    puts `nkeys` type arguments `R` after the user's lifetimes -/
theorem align_helperParams_ha (ps ua R : List T) (nkeys : Nat) (hk : kindsMatch_ha ps ua = true) (hR : R.length = nkeys)
    (hRk : ∀ a ∈ R, argKind_ha a = some .type) :
    kindsMatch_ha (helperParams_it ps nkeys) (ua.filter isLifetimeArg ++ R ++ ua.filter (fun a => !isLifetimeArg a)) = true ∧
    List.zip (helperParams_it ps nkeys) (ua.filter isLifetimeArg ++ R ++ ua.filter (fun a => !isLifetimeArg a)) =
      (List.zip ps ua).filter (fun pa => isLifetimeParam pa.1) ++ List.zip (inhKeyParams_inh ps.length nkeys) R ++
      (List.zip ps ua).filter (fun pa => !isLifetimeParam pa.1) ∧
    (helperParams_it ps nkeys).drop (ua.filter isLifetimeArg ++ R ++ ua.filter (fun a => !isLifetimeArg a)).length =
      ps.drop ua.length ∧
    (∀ i, i < nkeys →
      (helperParams_it ps nkeys)[(ps.filter isLifetimeParam).length + i]? = some (keyParam (genIndexedIdent (ps.length + i))) ∧
      (ua.filter isLifetimeArg ++ R ++ ua.filter (fun a => !isLifetimeArg a))[(ps.filter isLifetimeParam).length + i]? =
        R[i]?) := by
  obtain ⟨a1, a2, a3, a4⟩ := align_assembly_ha ps ua (inhKeyParams_inh ps.length nkeys) R hk
    (by rw [keyParams_length_ha, hR]) (fun p hp => keyParams_kind_ha hp) hRk
  refine ⟨a1, a2, a3, fun i hi => ?_⟩
  have := a4 i (by rw [keyParams_length_ha]; exact hi)
  rw [keyParams_get_ha _ _ _ hi] at this
  exact this

/-! ### the two uses of the helper trait -/

theorem rowArgs_kind_ha (idents : List (BKey × String)) (row : List (Option T)) :
    ∀ a ∈ rowArgs idents row, argKind_ha a = some .type := by
  intro a ha
  obtain ⟨ir, _, rfl⟩ := List.mem_map.1 ha
  cases ir.2 <;> simp [asGenericArg, gaType, argKind_ha]

/-- the `i`-th entry of a printed row comes from the `i`-th key and the `i`-th column of the member's row: the payload as
    written, or (wildcard) the projection of the `i`-th key -/
theorem rowArgs_get_ha (idents : List (BKey × String)) (row : List (Option T)) (i : Nat) (h1 : i < idents.length)
    (h2 : i < row.length) :
    (rowArgs idents row)[i]? = some (match row[i] with
      | some p => gaType p
      | none => gaType (projection idents[i].1.1 idents[i].1.2 idents[i].2)) := by
  have hz : (List.zip idents row)[i]? = some (idents[i], row[i]) :=
    List.getElem?_zip_eq_some.2 ⟨List.getElem?_eq_getElem h1, List.getElem?_eq_getElem h2⟩
  simp only [rowArgs, List.getElem?_map, hz, Option.map_some, asGenericArg]
  cases row[i] <;> rfl

/-- what `syn` prints for the arguments of a helper impl: the user's lifetimes, the row, the user's other arguments -/
theorem printed_row_ha (idents : List (BKey × String)) (row : List (Option T)) (ua : List T) :
    printedArgs_inh (rowArgs idents row ++ ua) =
      ua.filter isLifetimeArg ++ rowArgs idents row ++ ua.filter (fun a => !isLifetimeArg a) :=
  (printedArgs_around_inh _ ua (rowArgs_nonLifetime_inh idents row)).1

theorem projs_kind_ha (idents : List (BKey × String)) :
    ∀ a ∈ idents.map (fun kx => gaType (projection kx.1.1 kx.1.2 kx.2)), argKind_ha a = some .type := by
  intro a ha
  obtain ⟨kx, _, rfl⟩ := List.mem_map.1 ha
  simp [gaType, argKind_ha]

/-- the arguments of the main impl's helper reference -/
theorem helperRef_args_ha (name : String) (idents : List (BKey × String)) (ua : List T) :
    XOK.segArgs (XOK.lastSeg (helperRef name idents ua)) =
      ua.filter isLifetimeArg ++ idents.map (fun kx => gaType (projection kx.1.1 kx.1.2 kx.2)) ++
      ua.filter (fun a => !isLifetimeArg a) :=
  (helperRef_read name idents ua).2

/-- the reference is already in printed order -/
theorem printed_ref_ha (idents : List (BKey × String)) (ua : List T) :
    printedArgs_inh (ua.filter isLifetimeArg ++ idents.map (fun kx => gaType (projection kx.1.1 kx.1.2 kx.2)) ++
      ua.filter (fun a => !isLifetimeArg a)) =
    ua.filter isLifetimeArg ++ idents.map (fun kx => gaType (projection kx.1.1 kx.1.2 kx.2)) ++
      ua.filter (fun a => !isLifetimeArg a) :=
  (printedArgs_around_inh _ ua (isLifetimeArg_map_gaType_inh _ idents)).2

/-! ### one helper impl, the main reference, the whole family -/

/-- a helper impl against the parameter list `helperParams_it ps nkeys` -/
theorem helperImpl_aligned_ha {idx : Nat} {idents : List (BKey × String)} {row : List (Option T)} {member h : T} (ps : List T)
    (hh : helperImpl idx none idents row member = some h) (hrow : row.length = idents.length) :
    ∃ mp hp, implTraitPath member = some mp ∧ traitPathOf h = some hp ∧
      XOK.segArgs (XOK.lastSeg hp) = rowArgs idents row ++ traitArgsOf_it mp ∧
      printedArgs_inh (XOK.segArgs (XOK.lastSeg hp)) =
        (traitArgsOf_it mp).filter isLifetimeArg ++ rowArgs idents row ++ (traitArgsOf_it mp).filter (fun a => !isLifetimeArg a) ∧
      (kindsMatch_ha ps (traitArgsOf_it mp) = true →
        kindsMatch_ha (helperParams_it ps idents.length) (printedArgs_inh (XOK.segArgs (XOK.lastSeg hp))) = true ∧
        List.zip (helperParams_it ps idents.length) (printedArgs_inh (XOK.segArgs (XOK.lastSeg hp))) =
          (List.zip ps (traitArgsOf_it mp)).filter (fun pa => isLifetimeParam pa.1) ++
          List.zip (inhKeyParams_inh ps.length idents.length) (rowArgs idents row) ++
          (List.zip ps (traitArgsOf_it mp)).filter (fun pa => !isLifetimeParam pa.1) ∧
        (helperParams_it ps idents.length).drop (printedArgs_inh (XOK.segArgs (XOK.lastSeg hp))).length =
          ps.drop (traitArgsOf_it mp).length ∧
        (∀ i, i < idents.length →
          (helperParams_it ps idents.length)[(ps.filter isLifetimeParam).length + i]? =
            some (keyParam (genIndexedIdent (ps.length + i))) ∧
          (printedArgs_inh (XOK.segArgs (XOK.lastSeg hp)))[(ps.filter isLifetimeParam).length + i]? =
            (rowArgs idents row)[i]?)) := by
  obtain ⟨mp, hp, l, old, h1, h2, hl, ha, _, h3⟩ := helperImpl_trait_args hh
  rw [← traitArgsOf_of_segArgList_it hl ha] at h3
  refine ⟨mp, hp, h1, h2, h3, by rw [h3, printed_row_ha], ?_⟩
  intro hk
  rw [h3, printed_row_ha]
  exact align_helperParams_ha ps (traitArgsOf_it mp) (rowArgs idents row) idents.length hk (rowArgs_length idents row hrow)
    (rowArgs_kind_ha idents row)

/-- the main impl's helper reference against the parameter list `helperParams_it ps nkeys` -/
theorem helperRef_aligned_ha (name : String) (idents : List (BKey × String)) (ps ua : List T)
    (hk : kindsMatch_ha ps ua = true) :
    kindsMatch_ha (helperParams_it ps idents.length) (XOK.segArgs (XOK.lastSeg (helperRef name idents ua))) = true ∧
    List.zip (helperParams_it ps idents.length) (XOK.segArgs (XOK.lastSeg (helperRef name idents ua))) =
      (List.zip ps ua).filter (fun pa => isLifetimeParam pa.1) ++
      List.zip (inhKeyParams_inh ps.length idents.length) (idents.map (fun kx => gaType (projection kx.1.1 kx.1.2 kx.2))) ++
      (List.zip ps ua).filter (fun pa => !isLifetimeParam pa.1) ∧
    (helperParams_it ps idents.length).drop (XOK.segArgs (XOK.lastSeg (helperRef name idents ua))).length =
      ps.drop ua.length ∧
    (∀ (i : Nat) (hi : i < idents.length),
      (helperParams_it ps idents.length)[(ps.filter isLifetimeParam).length + i]? =
        some (keyParam (genIndexedIdent (ps.length + i))) ∧
      (XOK.segArgs (XOK.lastSeg (helperRef name idents ua)))[(ps.filter isLifetimeParam).length + i]? =
        some (gaType (projection idents[i].1.1 idents[i].1.2 idents[i].2))) := by
  rw [helperRef_args_ha]
  obtain ⟨a1, a2, a3, a4⟩ := align_helperParams_ha ps ua (idents.map (fun kx => gaType (projection kx.1.1 kx.1.2 kx.2)))
    idents.length hk (List.length_map _) (projs_kind_ha idents)
  refine ⟨a1, a2, a3, fun i hi => ⟨(a4 i hi).1, ?_⟩⟩
  rw [(a4 i hi).2]
  simp [hi]

/-- THE SIDE CONDITION ON A FAMILY (executable): every member's trait arguments match the definition's parameters -/
def familyKindsMatch_ha (tr : T) (g : T × ABG × List Blk) : Bool :=
  g.2.2.all (fun b => match implTraitPath b.item with
    | some mp => kindsMatch_ha (traitParamsOf_it tr) (traitArgsOf_it mp)
    | none => false)

theorem helperTrait_params_ha {tr ht : T} {idx nkeys : Nat} (hht : helperTraitOfTrait tr idx nkeys = some ht)
    (hgs : genericsShaped_it (kid tr 6) = true) :
    traitParams_inh ht = helperParams_it (traitParamsOf_it tr) nkeys ∧
    kid (kid ht 6) 3 = kid (kid tr 6) 3 := by
  obtain ⟨a, v, u, au, r, x, gg, c, sup, items, rfl, rfl⟩ := helperTraitOfTrait_inv_it hht
  have hgs' : genericsShaped_it gg = true := by simpa [kid, kids] using hgs
  obtain ⟨e1, _, _, e4, _⟩ := helperGenerics_shaped_it nkeys hgs'
  refine ⟨?_, ?_⟩
  · simp only [traitParams_inh, traitParamsOf_it, kid, kids, List.getD_cons_succ, List.getD_cons_zero]
    exact e1
  · simpa [kid, kids] using e4

theorem family_aligned_ha {tr : T} {idx : Nat} {g : T × ABG × List Blk} {ht : T} {hs : List T} {m : T}
    (hht : helperTraitOfTrait tr idx g.2.1.idents.length = some ht)
    (hhs : helperImpls idx g = some hs) (hm : mainImplOfTrait tr idx g = .ok m)
    (hgs : genericsShaped_it (kid tr 6) = true) (hk : familyKindsMatch_ha tr g = true) :
    traitParams_inh ht = helperParams_it (traitParamsOf_it tr) g.2.1.idents.length ∧
    (∀ h ∈ hs, ∃ hp, traitPathOf h = some hp ∧
      kindsMatch_ha (traitParams_inh ht) (printedArgs_inh (XOK.segArgs (XOK.lastSeg hp))) = true) ∧
    (∃ href, mainHref_inh m = some href ∧
      printedArgs_inh (XOK.segArgs (XOK.lastSeg href)) = XOK.segArgs (XOK.lastSeg href) ∧
      kindsMatch_ha (traitParams_inh ht) (XOK.segArgs (XOK.lastSeg href)) = true) := by
  have hps := (helperTrait_params_ha hht hgs).1
  obtain ⟨first, rest, tp, st, unsafety, lt, gt, wc, x0, params, items, tname, targs, finals, hg, hp, hs', hres, hlast, hf, rfl⟩ :=
    mainImplOfTrait_items_inv_it hm
  simp only [familyKindsMatch_ha, List.all_eq_true] at hk
  refine ⟨hps, ?_, ?_⟩
  · have htr : inherentFamily_inh g = false := by simp [inherentFamily_inh, hg, hp]
    obtain ⟨hl, hget⟩ := helperImpls_trait_get_it hhs htr
    intro h hmem
    obtain ⟨i, hi, rfl⟩ := List.getElem_of_mem hmem
    have h1 : i < g.2.2.length := by omega
    have h2 : i < g.2.1.payloads.length := by omega
    have hrow := payloads_row_length _ _ (List.getElem_mem h2)
    obtain ⟨mp, hpath, e1, e2, _, _, e5⟩ := helperImpl_aligned_ha (traitParamsOf_it tr) (hget i h1 h2 hi) hrow
    have hki := hk _ (List.getElem_mem h1)
    rw [e1] at hki
    exact ⟨hpath, e2, by rw [hps]; exact (e5 hki).1⟩
  · refine ⟨_, mainHref_main_it _ _ _ _ _ _ _ _ _ _ _ _, ?_, ?_⟩
    · unfold mainHrefOf_it
      rw [helperRef_args_ha, printed_ref_ha]
    · have hk1 := hk first (by rw [hg]; simp)
      rw [hp] at hk1
      rw [hps]
      exact (helperRef_aligned_ha _ g.2.1.idents _ _ hk1).1

/-- the generator's own zip agrees with `kindsMatch_ha` up to arity: if `zipTraitArgs` succeeds (it is called, and has to
    succeed, whenever the block's trait path has angle-bracketed arguments), there are no more arguments than parameters and every parameter beyond the last argument has a
    default, then the arguments match the parameters -/
theorem kindsMatch_of_zip_ha : ∀ (ps as : List T) (am : ArgMap), zipTraitArgs ps as = some am → as.length ≤ ps.length →
    (ps.drop as.length).all hasDefault_ha = true → kindsMatch_ha ps as = true
  | ps, [], _, _, _, h3 => by rw [kindsMatch_nil_ha]; simpa using h3
  | [], _ :: _, _, _, h2, _ => by simp at h2
  | p :: ps, a :: as, am, h1, h2, h3 => by
      obtain ⟨m', _, hz, _, hk⟩ := zipTraitArgs_cons_inv_it h1
      rw [kindsMatch_cons_ha, kindsMatch_of_zip_ha ps as m' hz (by simpa using h2) (by simpa using h3)]
      rcases hk with ⟨_, _, _, rfl, rfl, _⟩ | ⟨_, _, _, rfl, rfl, _⟩ | ⟨_, _, _, rfl, rfl, _⟩ <;>
        simp [paramKind_ha, argKind_ha]

end DI

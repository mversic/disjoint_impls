/-
  C11, "rows hold each member's own bindings": the invariant of the grouping search that row `i` of every dispatch
  key of a family is the folded binding row of member `i` for one of its own bound keys, re-expressed over the
  family's parameters with the substitution the search used for that member.

  Contents: `sameKey` (the equivalence relation generated by the IndexMap look-up `keyEq`), what `tbEq = .t` means
  without any well-formedness, the structure of the entries of an `intersection`, and the invariant `RowsOwn` itself
  (an instance of `SearchInv'`, whose `join` field knows the substitution).
-/
import DisjointImpls.Lemmas.GroupLemmas
namespace DI

/-! ### `tbEq` without well-formedness; `sameKey` -/

/-- `TraitBound::eq` answers "equal" exactly when both paths have the same (defined) dispatch key — no
    well-formedness of the paths is needed (`C12_eq_iff_key_defined`; `(keyOf p).isSome = cmpPath p`, `keyOf_isSome`) -/
theorem tbEq_t_iff (p q : T) : tbEq p q = .t ↔ (keyOf p = keyOf q ∧ (keyOf p).isSome = true) := by
  constructor
  · intro h
    have hp := keyOf_isSome_of_tbEq h
    obtain ⟨k1, hk1⟩ := Option.isSome_iff_exists.1 hp
    obtain ⟨k2, hk2⟩ := Option.isSome_iff_exists.1 (keyOf_isSome_of_tbEq (tbEq_symm p q ▸ h))
    rw [tbEq_of_keys hk1 hk2] at h
    refine ⟨?_, hp⟩
    rw [hk1, hk2]
    by_cases e : k1 = k2
    · rw [e]
    · rw [if_neg e] at h; cases h
  · rintro ⟨he, hs⟩
    obtain ⟨k, hk⟩ := Option.isSome_iff_exists.1 hs
    rw [tbEq_of_keys hk (he ▸ hk), if_pos rfl]

/-- same bounded type and same dispatch key (`keyOf`, C12): the equivalence relation that the IndexMap look-up
    `keyEq` generates. On keys whose trait path has a dispatch key at all it IS `keyEq` (`keyEq_iff_sameKey`). -/
def sameKey (a b : BKey) : Bool := decide (a.1 = b.1 ∧ keyOf a.2 = keyOf b.2)

theorem sameKey_refl (a : BKey) : sameKey a a = true := by simp [sameKey]

theorem sameKey_symm {a b : BKey} (h : sameKey a b = true) : sameKey b a = true := by
  simp only [sameKey, decide_eq_true_eq] at h ⊢
  exact ⟨h.1.symm, h.2.symm⟩

theorem sameKey_trans {a b c : BKey} (h1 : sameKey a b = true) (h2 : sameKey b c = true) : sameKey a c = true := by
  simp only [sameKey, decide_eq_true_eq] at h1 h2 ⊢
  exact ⟨h1.1.trans h2.1, h1.2.trans h2.2⟩

theorem keyEq_iff_sameKey (a b : BKey) : keyEq a b = true ↔ (sameKey a b = true ∧ (keyOf a.2).isSome = true) := by
  simp only [keyEq, Bool.and_eq_true, beq_iff_eq, sameKey, decide_eq_true_eq, tbEq_t_iff]
  constructor
  · rintro ⟨h1, h2, h3⟩; exact ⟨⟨h1, h2⟩, h3⟩
  · rintro ⟨⟨h1, h2⟩, h3⟩; exact ⟨h1, h2, h3⟩

theorem sameKey_of_keyEq {a b : BKey} (h : keyEq a b = true) : sameKey a b = true :=
  ((keyEq_iff_sameKey a b).1 h).1

/-- on well-formed trait paths `sameKey` is the look-up equality `keyEq` -/
theorem keyEq_of_sameKey_wf {a b : BKey} (h : sameKey a b = true) (hw : wfPath a.2 = true) : keyEq a b = true :=
  (keyEq_iff_sameKey a b).2 ⟨h, by rw [keyOf_eq hw]; rfl⟩

/-! ### the entries of an `intersection` -/

theorem intersection_entry {g : ABG} {other : Blk} {σ : Subst} {inter : ABG} (h : inter ∈ g.intersection other σ) :
    ∀ kr ∈ inter.bounds, ∃ e1 ∈ otherFold other, ∃ e2 ∈ otherFold other,
      ∃ sk1 ∈ substituteBound σ e1.1.1 e1.1.2, ∃ sk2 ∈ substituteBound σ e2.1.1 e2.1.2, ∃ rows1 rows2,
        findKey g.bounds sk1 = some rows1 ∧ findKey g.bounds sk2 = some rows2 ∧
        kr.1 = sk1 ∧ kr.2 = rows2 ++ [e2.2] ∧ sameKey sk1 sk2 = true :=
  intersection_entry_rel sameKey_refl (fun _ _ => sameKey_of_keyEq) h

/-! ### Rows hold each member's own bindings -/

/-- the re-expressions of member `i`'s own key `k'` over the parameters of the family `gid`: the first member
    founded the family with `ABG.new`, which stores its keys as they are; a later member `b` joined through
    `intersection` with the substitution `memberSubst env gid (header of b)` -/
def reexpr (env : Env) (gid : T) (i : Nat) (b : Blk) (k' : BKey) : List BKey :=
  if i = 0 then [k'] else
    match memberSubst env gid (groupIdOf b.item) with
    | some σ => substituteBound σ k'.1 k'.2
    | none => []

/-- the members are not empty; the first member has the family's header and every later one a header for which the
    search had a substitution; every key of the family has one row per member, and row `i` is member `i`'s own
    folded row for one of its own keys `k'`, one of whose re-expressions is (`sameKey`) the family's key -/
def RowsOwn (env : Env) (e : T × ABG × List Blk) : Prop :=
  e.2.2 ≠ [] ∧
  (∀ i b, e.2.2[i]? = some b →
    if i = 0 then groupIdOf b.item = e.1 else (memberSubst env e.1 (groupIdOf b.item)).isSome = true) ∧
  ∀ kr ∈ e.2.1.bounds, kr.2.length = e.2.2.length ∧
    (∀ i b r, e.2.2[i]? = some b → kr.2[i]? = some r →
      ∃ k', (k', r) ∈ otherFold b ∧ ∃ sk ∈ reexpr env e.1 i b k', sameKey sk kr.1 = true) ∧
    -- the stored key itself is a re-expression of an own key of some member (the last one that joined)
    ∃ i b k' r, e.2.2[i]? = some b ∧ (k', r) ∈ otherFold b ∧ kr.1 ∈ reexpr env e.1 i b k'

theorem rowsOwn_inv (env : Env) (hw : BucketsWF env.buckets) :
    SearchInv' env (RowsOwn env) (fun id b => groupIdOf b.item = id) where
  fresh id b hb0 := by
    refine ⟨by simp, fun i b' hb' => ?_, fun kr hkr => ?_⟩
    · rcases i with _ | i
      · simp only [List.getElem?_cons_zero, Option.some.injEq] at hb'
        subst hb'; simpa using hb0
      · simp at hb'
    rw [new_eq_otherFold] at hkr
    obtain ⟨e, he, rfl⟩ := List.mem_map.1 hkr
    refine ⟨rfl, fun i b' r hb hr => ?_, ⟨0, b, e.1, e.2, rfl, he, by simp [reexpr]⟩⟩
    have hi : i = 0 := by
      rcases i with _ | i
      · rfl
      · simp at hb
    subst hi
    simp only [List.getElem?_cons_zero, Option.some.injEq] at hb hr
    subst hb; subst hr
    exact ⟨e.1, he, e.1, by simp [reexpr], sameKey_refl _⟩
  join gid abg ms currId curr σ inter hg hb hσ hinter := by
    obtain ⟨hne, hms, hg⟩ := hg
    have hpos : ms.length ≠ 0 := by
      intro h0; exact hne (List.length_eq_zero_iff.1 h0)
    refine ⟨by simp, fun i b hbi => ?_, fun kr hkr => ?_⟩
    · rcases Nat.lt_or_ge i ms.length with hi | hi
      · rw [List.getElem?_append_left hi] at hbi
        exact hms i b hbi
      · have hi' : i = ms.length := by
          rcases Nat.lt_or_ge i (ms.length + 1) with h1 | h1
          · omega
          · rw [List.getElem?_eq_none (by simp; omega)] at hbi; cases hbi
        subst hi'
        rw [List.getElem?_append_right (Nat.le_refl _)] at hbi
        simp only [Nat.sub_self, List.getElem?_cons_zero, Option.some.injEq] at hbi
        subst hbi
        rw [if_neg hpos, hb, hσ]; rfl
    obtain ⟨e1, he1, e2, he2, sk1, hsk1, sk2, hsk2, rows1, rows2, _, hf2, hk1, hk2, h12⟩ :=
      intersection_entry hinter kr hkr
    obtain ⟨kold, hkold, hkeq⟩ := findKey_some_keyEq hf2
    obtain ⟨hlen, hrows, _⟩ := hg (kold, rows2) hkold
    simp only at hlen hrows ⊢
    refine ⟨by rw [hk2]; simp [hlen], fun i b r hbi hri => ?_,
      ⟨ms.length, curr, e1.1, e1.2, by simp, he1, by
        simp only [reexpr, if_neg hpos, hb, hσ]; rw [hk1]; exact hsk1⟩⟩
    rw [hk2] at hri
    rcases Nat.lt_or_ge i ms.length with hi | hi
    · -- an older member: its row and its key are those of the group before
      rw [List.getElem?_append_left hi] at hbi
      rw [List.getElem?_append_left (by rw [hlen]; exact hi)] at hri
      obtain ⟨k', hk', sk, hsk, hs⟩ := hrows i b r hbi hri
      refine ⟨k', hk', sk, hsk, ?_⟩
      rw [hk1]
      exact sameKey_trans hs (sameKey_trans (sameKey_of_keyEq hkeq) (sameKey_symm h12))
    · -- the joining member
      have hi' : i = ms.length := by
        rcases Nat.lt_or_ge i (ms.length + 1) with h1 | h1
        · omega
        · rw [List.getElem?_eq_none (by simp; omega)] at hbi; cases hbi
      subst hi'
      rw [List.getElem?_append_right (Nat.le_refl _)] at hbi
      rw [List.getElem?_append_right (by rw [hlen]; exact Nat.le_refl _)] at hri
      simp only [Nat.sub_self, hlen, List.getElem?_cons_zero, Option.some.injEq] at hbi hri
      subst hbi; subst hri
      refine ⟨e2.1, he2, sk2, ?_, by rw [hk1]; exact sameKey_symm h12⟩
      simp only [reexpr, if_neg hpos, hb, hσ]
      exact hsk2
  impls id b hb := by
    obtain ⟨bk, hbk, hid, hmem⟩ := impls_mem hb
    rw [← hid]; exact hw bk hbk b hmem

/-- the invariant survives pruning, hence holds for every family of an accepted grouping -/
theorem parseGroups_rowsOwn {rawItems : List T} {groups : Groups} (h : parseGroups rawItems = .ok groups)
    {e : T × ABG × List Blk} (he : e ∈ groups) : RowsOwn (parseEnv rawItems) e := by
  obtain ⟨e0, ⟨h1, h2, h3⟩, rfl, _, _⟩ :=
    parseGroups_group'' h he (rowsOwn_inv (parseEnv rawItems) (mkBuckets_wf _))
  refine ⟨h1, h2, fun kr hkr => ?_⟩
  simp only [ABG.prune, List.mem_filter] at hkr
  exact h3 kr hkr.1

/-! ### Rows: what a folded row binds comes from one of the block's bounds -/

/-- whatever a row extended with the bindings `es` binds was bound before or is one of `es` -/
theorem rowLookup_extend_mem : ∀ (es : List (String × T)) (r : Row) (a : String) (p : T),
    rowLookup (Row.extend r es) a = some p → (a, p) ∈ es ∨ rowLookup r a = some p
  | [], r, a, p, h => Or.inr h
  | e :: es, r, a, p, h => by
      unfold Row.extend at h
      rw [List.foldl_cons] at h
      rcases rowLookup_extend_mem es _ a p h with h1 | h1
      · exact Or.inl (List.mem_cons_of_mem _ h1)
      · rw [rowLookup_insert] at h1
        split at h1
        · next hax =>
          cases h1
          left
          rw [← eq_of_beq hax]
          exact List.mem_cons_self
        · exact Or.inr h1

/-- the keys of the fold are keys of the block's bounds, and every binding of a folded row is a binding of one of
    the block's bounds with a `sameKey` key -/
theorem otherFold_spec (b : Blk) : ∀ e ∈ otherFold b,
    (∃ rb ∈ b.raw, e.1 = (rb.bounded, rb.tr)) ∧
    ∀ a p, rowLookup e.2 a = some p → ∃ rb ∈ b.raw, (a, p) ∈ rb.binds ∧ sameKey (rb.bounded, rb.tr) e.1 = true := by
  refine fun e he => ⟨otherFold_keys_raw b he, ?_⟩
  revert e
  unfold otherFold
  refine foldl_prefix_inv _ (fun (pre : List RawBound) (acc : List (BKey × Row)) => ∀ e ∈ acc,
      ∀ a p, rowLookup e.2 a = some p → ∃ rb ∈ pre, (a, p) ∈ rb.binds ∧ sameKey (rb.bounded, rb.tr) e.1 = true)
    b.raw [] [] ?_ (fun _ he => (List.not_mem_nil he).elim)
  intro rb _ pre acc hacc
  -- what held of an entry before the step still holds of it
  have lift : ∀ e ∈ acc, ∀ a p, rowLookup e.2 a = some p →
      ∃ rb' ∈ pre ++ [rb], (a, p) ∈ rb'.binds ∧ sameKey (rb'.bounded, rb'.tr) e.1 = true := by
    intro e he a p hap
    obtain ⟨rb1, hrb1, hb1, hs1⟩ := hacc e he a p hap
    exact ⟨rb1, List.mem_append_left _ hrb1, hb1, hs1⟩
  have hrb : rb ∈ pre ++ [rb] := List.mem_append_right _ (List.mem_singleton_self rb)
  intro e he
  dsimp only at he
  split at he
  · next r hf =>
    obtain ⟨k0, hk0, hkeq⟩ := findKey_some_keyEq hf
    unfold insertKey at he
    rw [if_pos (List.any_eq_true.2 ⟨(k0, r), hk0, hkeq⟩)] at he
    obtain ⟨e0, he0, rfl⟩ := List.mem_map.1 he
    split
    · next hke =>
      intro a p hap
      rcases rowLookup_extend_mem _ _ a p hap with h1 | h1
      · exact ⟨rb, hrb, h1, sameKey_symm (sameKey_of_keyEq hke)⟩
      · obtain ⟨rb1, hrb1, hb1, hs1⟩ := lift _ hk0 a p h1
        exact ⟨rb1, hrb1, hb1,
          sameKey_trans hs1 (sameKey_trans (sameKey_of_keyEq hkeq) (sameKey_symm (sameKey_of_keyEq hke)))⟩
    · exact lift e0 he0
  · rcases List.mem_append.1 he with he | he
    · exact lift e he
    · rw [List.mem_singleton.1 he]
      intro a p hap
      rcases rowLookup_extend_mem _ _ a p hap with h1 | h1
      · exact ⟨rb, hrb, h1, sameKey_refl _⟩
      · cases h1

/-! ### Buckets hold input blocks -/

/-- the bounds of the block are those `findBounds` extracts from its item (as for every `mkBlk it`) -/
def Blk.canonical (b : Blk) : Prop := b.raw = findBounds ((implGenerics b.item).getD (.node "?" [] []))

theorem mkBlk_canonical (it : T) : (mkBlk it).canonical := rfl

theorem mkBlock_clauses {b : Blk} (h : b.canonical) :
    (mkBlock b.item).clauses = (b.raw.filter (fun rb => !rb.maybe)).map (fun rb => ⟨rb.bounded, normTr rb.tr, rb.binds⟩) := by
  unfold Blk.canonical at h
  unfold mkBlock
  simp only
  rw [← h]

/-- every member of every family of an accepted grouping is `mkBlk` of an input item -/
theorem parseGroups_member_input {rawItems : List T} {groups : Groups} (h : parseGroups rawItems = .ok groups)
    {e : T × ABG × List Blk} (he : e ∈ groups) : ∀ b ∈ e.2.2, b ∈ rawItems.map mkBlk := by
  intro b hb
  obtain ⟨e0, h0, rfl, _, _⟩ := parseGroups_group' h he (membersFromBuckets_inv (parseEnv rawItems))
  obtain ⟨bk, hbk, hmem⟩ := h0 b hb
  exact mkBuckets_forall (fun _ x => x ∈ rawItems.map mkBlk) (rawItems.map mkBlk) (fun x hx => hx) bk hbk b hmem

theorem mem_map_mkBlk_canonical {rawItems : List T} {b : Blk} (h : b ∈ rawItems.map mkBlk) : b.canonical := by
  obtain ⟨it, _, rfl⟩ := List.mem_map.1 h
  exact mkBlk_canonical it

/-! ### Payloads: a wildcard exactly where the member's own row has no binding -/

theorem payloads_getElem {g : ABG} {i j : Nat} {ps : List (Option T)} {kx : BKey × String}
    (hp : g.payloads[i]? = some ps) (hx : g.idents[j]? = some kx) :
    ps[j]? = some (match findKey g.bounds kx.1 with
      | some rows => (match rows[i]? with
          | some r => rowLookup r kx.2
          | none => none)
      | none => none) := by
  unfold ABG.payloads at hp
  split at hp
  · simp at hp
  · next first rest hb =>
    rw [List.getElem?_map] at hp
    cases hr : (List.range first.2.length)[i]? with
    | none => rw [hr] at hp; cases hp
    | some i' =>
      rw [hr] at hp
      have hi : i' = i := by
        have := List.getElem?_eq_some_iff.1 hr
        obtain ⟨_, h2⟩ := this
        exact (by simpa using h2 : i = i').symm
      subst hi
      simp only [Option.map_some, Option.some.injEq] at hp
      rw [← hp, List.getElem?_map, hx]
      rfl

theorem idents_mem {g : ABG} {kx : BKey × String} (h : kx ∈ g.idents) : ∃ rows, (kx.1, rows) ∈ g.bounds := by
  unfold ABG.idents at h
  simp only [List.mem_flatMap, List.mem_map] at h
  obtain ⟨e, he, x, _, rfl⟩ := h
  exact ⟨e.2, he⟩

/-- in a family with the invariant, the payload of member `i` for the key/associated-type pair `(k, a)` is what
    the member's own folded row `r` (for one of its own keys re-expressed to `k`) binds `a` to — a wildcard exactly
    when that row has no binding for `a`. (The look-up of `k` itself can only fail for a key without a dispatch
    key, i.e. a trait path that `TraitBound::eq` cannot compare.) -/
theorem rowsOwn_payload {env : Env} {e : T × ABG × List Blk} (hown : RowsOwn env e) {i j : Nat}
    {ps : List (Option T)} {k : BKey} {a : String} {b : Blk}
    (hp : e.2.1.payloads[i]? = some ps) (hx : e.2.1.idents[j]? = some (k, a)) (hb : e.2.2[i]? = some b) :
    ∃ entry, ps[j]? = some entry ∧
      (((keyOf k.2).isSome = false ∧ entry = none) ∨
       ∃ k' r, (k', r) ∈ otherFold b ∧ (∃ sk ∈ reexpr env e.1 i b k', sameKey sk k = true) ∧
         entry = rowLookup r a) := by
  refine ⟨_, payloads_getElem hp hx, ?_⟩
  simp only
  cases hf : findKey e.2.1.bounds k with
  | none =>
    left
    refine ⟨?_, rfl⟩
    obtain ⟨rows, hrows⟩ := idents_mem (List.mem_of_getElem? hx)
    cases hk : (keyOf k.2).isSome with
    | false => rfl
    | true =>
      have hkk : keyEq k k = true := (keyEq_iff_sameKey k k).2 ⟨sameKey_refl k, hk⟩
      have := findKey_eq_none_iff.1 hf _ hrows
      rw [hkk] at this; cases this
  | some rows =>
    right
    obtain ⟨k'', hk'', hkeq⟩ := findKey_some_keyEq hf
    obtain ⟨hlen, hrows, _⟩ := hown.2.2 (k'', rows) hk''
    simp only at hlen hrows
    have hi : i < rows.length := hlen ▸ (List.getElem?_eq_some_iff.1 hb).1
    have hr : rows[i]? = some rows[i] := List.getElem?_eq_getElem hi
    obtain ⟨k', hk', sk, hsk, hs⟩ := hrows i b rows[i] hb hr
    refine ⟨k', rows[i], hk', ⟨sk, hsk, sameKey_trans hs (sameKey_of_keyEq hkeq)⟩, ?_⟩
    simp only [hr]

/-! ### Every key of an accepted family has a dispatch key -/

theorem keyOf_isSome_of_assocBinds {p : T} (h : assocBinds p ≠ []) : (keyOf p).isSome = true := by
  have h' : lastSegArgs p ≠ [] := fun e => h (by unfold assocBinds; rw [e]; rfl)
  unfold lastSegArgs at h'
  unfold keyOf
  cases hr : (pathSegments p).reverse with
  | nil => rw [hr] at h'; exact absurd rfl h'
  | cons l i =>
    rw [hr] at h'
    dsimp only at h' ⊢
    cases hs : segArgs l with
    | bad => rw [hs] at h'; exact absurd rfl h'
    | _ => rfl

/-- the bounds `findBounds` extracts carry the bindings of their trait path -/
theorem boundsOf_binds (bounded : T) (bs : List T) : ∀ rb ∈ boundsOf bounded bs, rb.binds = assocBinds rb.tr := by
  intro rb hrb
  unfold boundsOf at hrb
  simp only [List.mem_filterMap] at hrb
  obtain ⟨x, _, hx⟩ := hrb
  split at hx
  · cases hx; rfl
  · cases hx

theorem findBounds_binds (g : T) : ∀ rb ∈ findBounds g, rb.binds = assocBinds rb.tr := by
  intro rb hrb
  unfold findBounds at hrb
  simp only [List.mem_append, List.mem_flatMap] at hrb
  rcases hrb with ⟨xp, _, h⟩ | ⟨w, _, h⟩
  · split at h
    · exact boundsOf_binds _ _ rb h
    · cases h
  · split at h
    · exact boundsOf_binds _ _ rb h
    · cases h

/-- a key of the fold with a non-empty row has a dispatch key (its bindings come from angle-bracketed arguments) -/
theorem otherFold_nonempty_keyOf {b : Blk} (hcan : b.canonical) {k : BKey} {r : Row} (h : (k, r) ∈ otherFold b)
    (hr : r ≠ []) : (keyOf k.2).isSome = true := by
  obtain ⟨_, hbinds⟩ := otherFold_spec b (k, r) h
  cases r with
  | nil => exact absurd rfl hr
  | cons ap rest =>
    obtain ⟨a, p⟩ := ap
    obtain ⟨rb, hrb, hap, hs⟩ := hbinds a p (by simp [rowLookup])
    have hk : keyOf rb.tr = keyOf k.2 := by
      simp only [sameKey, decide_eq_true_eq] at hs; exact hs.2
    rw [← hk]
    apply keyOf_isSome_of_assocBinds
    unfold Blk.canonical at hcan
    rw [hcan] at hrb
    rw [← findBounds_binds _ rb hrb]
    intro he; rw [he] at hap; cases hap

/-- a key either has a dispatch key or is a key of the founding member, alone in its family so far -/
def KeysSome (e : T × ABG × List Blk) : Prop :=
  ∀ kr ∈ e.2.1.bounds, (keyOf kr.1.2).isSome = true ∨ ∃ b r, e.2.2 = [b] ∧ (kr.1, r) ∈ otherFold b ∧ kr.2 = [r]

theorem keysSome_inv (env : Env) : SearchInv env KeysSome (fun _ _ => True) where
  fresh id b _ := by
    intro kr hkr
    rw [new_eq_otherFold] at hkr
    obtain ⟨x, hx, rfl⟩ := List.mem_map.1 hkr
    exact Or.inr ⟨b, x.2, rfl, hx, rfl⟩
  join gid abg ms currId curr σ inter _ _ _ hinter := by
    intro kr hkr
    obtain ⟨_, _, _, _, sk1, _, _, _, rows1, _, hf1, _, hk1, _, _⟩ := intersection_entry hinter kr hkr
    obtain ⟨kold, _, hkeq⟩ := findKey_some_keyEq hf1
    obtain ⟨hs, hsome⟩ := (keyEq_iff_sameKey kold sk1).1 hkeq
    left
    rw [hk1]
    have : keyOf kold.2 = keyOf sk1.2 := by
      simp only [sameKey, decide_eq_true_eq] at hs; exact hs.2
    rw [← this]; exact hsome
  impls _ _ _ := trivial

/-- every dispatch key of every family of an accepted grouping has a dispatch key in the sense of C12 (`keyOf`):
    `TraitBound::eq` can compare it, and the look-up `keyEq` is reflexive on it -/
theorem parseGroups_keys_some {rawItems : List T} {groups : Groups} (h : parseGroups rawItems = .ok groups)
    {e : T × ABG × List Blk} (he : e ∈ groups) : ∀ kr ∈ e.2.1.bounds, (keyOf kr.1.2).isSome = true := by
  intro kr hkr
  have hin := parseGroups_member_input h he
  obtain ⟨e0, h0, rfl, _, _⟩ := parseGroups_group' h he (keysSome_inv (parseEnv rawItems))
  simp only [ABG.prune, List.mem_filter, List.any_eq_true, Bool.not_eq_true', List.isEmpty_eq_false_iff] at hkr
  obtain ⟨hkr0, r, hr, hrne⟩ := hkr
  rcases h0 kr hkr0 with h1 | ⟨b, r', hms, hfold, hrows⟩
  · exact h1
  · rw [hrows, List.mem_singleton] at hr
    subst hr
    have hb : b ∈ e0.2.2 := by rw [hms]; simp
    exact otherFold_nonempty_keyOf (mem_map_mkBlk_canonical (hin b hb)) hfold hrne

end DI

/-
  From the grouping the model computes (`parseGroups`, Group.lean) to the hypotheses of the refinement theorems
  (`memberOK`, `thetaCoversB`, Sem.lean / Lemmas/Refine.lean), for ARBITRARY accepted invocations — including nested
  headers (`impl<T: D<G = A>> Kita for T` + `impl<T> Kita for Vec<T> where Vec<T>: D<G = B>`).

  The bridge is again `RowsOwn` (Lemmas/RowsOwn.lean): the payload of member `i` under a key `k` of the family is what
  the member's own folded row binds for one of its own keys `k'`, one of whose re-expressions `sk` under the member's
  substitution is (`sameKey`) `k`. For a nested member the substitution is not the identity; what is needed then is
  * the substitution `mkMember` computes (`sup gid hdr`) IS the one the search used (`memberSubst`): `memberTheta_eq_nst`;
  * re-expression followed by instantiation is the identity (`C10_bound_roundtrip`, under `untouched` — the D4 condition);
  * `normTr` commutes with `inst` on the re-expressed trait path (`normTr_inst_nst`, under `instCommOK_nst`).
  For invocations without nested headers, `flat_memberOK` and `flat_thetaCovers` are corollaries of the nested theorems
  and `flat_coverage` comes from the same `coverage_of_placed` as `nested_coverage`, at the end of the file.
-/
import DisjointImpls.Lemmas.EndToEnd
import DisjointImpls.Lemmas.MatchSound
import DisjointImpls.Lemmas.RevSubLemmas
namespace DI

/-! ### `inst` on the nodes of a trait path -/

theorem inst_mkPath_nst (θ : Subst) (lc : T) (segs : List T) :
    inst θ (mkPath lc segs) = mkPath (inst θ lc) (instL θ segs) := by
  unfold mkPath
  rw [inst_other θ (isGA_of_ne (by simp))]
  simp only [instL]
  rw [inst_other θ (isGA_of_ne (by simp))]

theorem inst_angleSeg_nst (θ : Subst) (id c2 : T) (args : List T) :
    inst θ (angleSeg id c2 args) = angleSeg (inst θ id) (inst θ c2) (instL θ args) := by
  unfold angleSeg
  rw [inst_other θ (isGA_of_ne (by simp))]
  simp only [instL]
  rw [inst_other θ (isGA_of_ne (by simp))]
  simp only [instL]
  rw [inst_other θ (isGA_of_ne (by simp))]

/-! ### `normTr` commutes with `inst` -/

def isNode_nst : T → Bool
  | .node _ _ _ => true
  | _ => false

/-- executable side condition under which `normTr` commutes with every instantiation: the path is well-formed
    (`wfPath`), EVERY segment has no or angle-bracketed arguments of the shape `syn` produces
    (`PathArguments::None` / `PathArguments::AngleBracketed [_, List args]`), and no generic argument of the last segment
    is a bare parameter occurrence (in a `syn` tree every generic argument is a `GenericArgument::…` node; a bare
    parameter could be instantiated to an associated-type binding, which `normTr` removes) -/
def instCommOK_nst (p : T) : Bool :=
  wfPath p && (pathSegments p).all (fun s => goodArgs (segArgs s)) && (lastArgs p).all isNode_nst

theorem inst_noneSeg_nst (θ : Subst) (x : T) :
    inst θ (.node "PathSegment" [] [x, .node "PathArguments::None" [] []]) =
      .node "PathSegment" [] [inst θ x, .node "PathArguments::None" [] []] := by
  rw [inst_other θ (isGA_of_ne (by simp))]
  simp only [instL]
  rw [inst_other θ (k := "PathArguments::None") (as := []) (ks := []) (isGA_of_ne (by simp))]
  simp only [instL]

theorem inst_normSeg_nst (θ : Subst) {s : T} (h : goodArgs (segArgs s) = true) :
    normSeg (inst θ s) = inst θ (normSeg s) := by
  unfold segArgs at h
  split at h
  · next x =>
    rw [inst_noneSeg_nst, normSeg_none, normSeg_none, inst_noneSeg_nst]
  · next x c2 args =>
    show normSeg (inst θ (angleSeg x c2 args)) = inst θ (normSeg (angleSeg x c2 args))
    rw [inst_angleSeg_nst]
    cases args with
    | nil =>
      simp only [instL]
      rw [normSeg_angle_nil, normSeg_angle_nil, inst_noneSeg_nst]
    | cons a as =>
      simp only [instL]
      rw [normSeg_angle_cons, normSeg_angle_cons, inst_angleSeg_nst]
      simp only [instL]
      rw [inst_other θ (k := "Ign") (as := []) (ks := []) (isGA_of_ne (by simp))]
      simp only [instL]
  · cases h
  · cases h

theorem map_normSeg_instL_nst (θ : Subst) (segs : List T) (h : ∀ s ∈ segs, goodArgs (segArgs s) = true) :
    (instL θ segs).map normSeg = instL θ (segs.map normSeg) := by
  simp only [instL_eq_map_nst, List.map_map]
  exact List.map_congr_left fun s hs => inst_normSeg_nst θ (h s hs)

theorem isAssocType_node_nst (k : String) (as : List String) (ks : List T) :
    isAssocType (.node k as ks) = (k == "GenericArgument::AssocType") := by
  unfold isAssocType
  split
  · next h => cases h; rfl
  · next hne =>
    symm
    rw [beq_eq_false_iff_ne]
    intro hk
    exact hne as ks (by rw [hk])

theorem isAssocType_inst_nst (θ : Subst) {a : T} (h : isNode_nst a = true) : isAssocType (inst θ a) = isAssocType a := by
  cases a with
  | tparam n => cases h
  | eparam n => cases h
  | node k as ks =>
    obtain ⟨k', as', ks', he, hk⟩ := inst_node_kind θ k as ks
    rw [he, isAssocType_node_nst, isAssocType_node_nst]
    rcases hk with rfl | ⟨rfl, rfl⟩
    · rfl
    · simp

theorem nonAssoc_instL_nst (θ : Subst) (args : List T) (h : args.all isNode_nst = true) :
    nonAssoc (instL θ args) = instL θ (nonAssoc args) := by
  simp only [nonAssoc, instL_eq_map_nst, List.filter_map]
  exact congrArg _ (List.filter_congr fun a ha => by
    simp only [Function.comp, isAssocType_inst_nst θ (List.all_eq_true.1 h a ha)])

/-- `normTr` commutes with instantiation on trait paths that pass `instCommOK_nst` -/
theorem normTr_inst_nst (θ : Subst) {p : T} (h : instCommOK_nst p = true) : normTr (inst θ p) = inst θ (normTr p) := by
  unfold instCommOK_nst at h
  simp only [Bool.and_eq_true, List.all_eq_true] at h
  obtain ⟨⟨hp, hsegs⟩, hargs⟩ := h
  obtain ⟨l, hl, hg, hp'⟩ := wfPath_mkPath hp
  generalize lcOf p = lc, initSegs p = i at hp'
  subst hp'
  rw [pathSegments_mkPath] at hsegs
  rw [inst_mkPath_nst, instL_append]
  simp only [instL]
  cases hs : segArgs l with
  | none =>
    obtain ⟨x, rfl⟩ := segArgs_none_inv hs
    rw [inst_noneSeg_nst, normTr_of_strip (stripBindings_of_not_angle hl (by simp [hs])),
      normTr_of_strip (stripBindings_of_not_angle (lastSeg_mkPath _ _ _) (by simp [segArgs])), inst_mkPath_nst,
      ← map_normSeg_instL_nst θ _ hsegs, instL_append]
    simp only [instL, inst_noneSeg_nst]
  | angle args =>
    obtain ⟨id, c2, rfl⟩ := segArgs_angle_inv hs
    have hargs' : args.all isNode_nst = true := by
      simpa [lastArgs, hl, hs] using hargs
    have hgood : ∀ s ∈ i ++ [angleSeg id c2 (nonAssoc args)], goodArgs (segArgs s) = true := by
      intro s hs'
      rcases List.mem_append.1 hs' with h1 | h1
      · exact hsegs s (List.mem_append_left _ h1)
      · rw [List.mem_singleton.1 h1, segArgs_angleSeg]; rfl
    rw [inst_angleSeg_nst, normTr_of_strip (stripBindings_angle _ _ _ _ _), normTr_of_strip (stripBindings_angle _ _ _ _ _),
      inst_mkPath_nst, ← map_normSeg_instL_nst θ _ hgood, instL_append, nonAssoc_instL_nst θ args hargs']
    simp only [instL, inst_angleSeg_nst]
  | paren y =>
    -- excluded by the all-segments condition of `instCommOK_nst` (not by `wfPath`, which accepts `Fn(A) -> B`)
    have := hsegs l (by simp)
    rw [hs] at this; cases this
  | bad => rw [hs] at hg; cases hg

/-! ### The substitution `mkMember` computes is the one the search used -/

/-- the substitution of the member as `Bounds.mkMember` / `memberOfGroup` compute it: the answer of the matcher on the
    family's header against the member's header (`[]` when the matcher says no) -/
def memberTheta_nst (gid : T) (b : Blk) : Subst := (memberOfGroup gid b []).θ

theorem memberOfGroup_theta_nst (gid : T) (b : Blk) (ps : List (Option T)) :
    memberOfGroup gid b ps = ⟨mkBlock b.item, memberTheta_nst gid b, ps⟩ := rfl

/-- in the environment of `parseGroups`, the substitution with which the search lets a block join a family is the answer
    of the matcher on the two headers -/
theorem memberSubst_sup_nst {items : List T} {gid hdr : T} {σ : Subst}
    (h : memberSubst (parseEnv items) gid hdr = some σ) : ∃ l, sup gid hdr = .yes σ l := by
  unfold memberSubst at h
  split at h
  · next e he =>
    cases h
    have h1 := List.find?_some he
    have h2 := List.mem_of_find?_eq_some he
    have : (hdr, e.2) ∈ (parseEnv items).subsets.get gid := by
      rw [← eq_of_beq h1]; exact h2
    exact (makeSets_subsets this).2
  · split at h
    · next hc =>
      have hc' := eq_of_beq hc
      subst hc'
      split at h
      · next σ' l hs => cases h; exact ⟨l, hs⟩
      · cases h
    · cases h

/-- … hence it is the substitution of the member in the abstraction, and it has distinct keys (C09, `C09_functional`) -/
theorem memberTheta_eq_nst {items : List T} {gid : T} {b : Blk} {σ : Subst}
    (h : memberSubst (parseEnv items) gid (groupIdOf b.item) = some σ) :
    memberTheta_nst gid b = σ ∧ (σ.map Prod.fst).Nodup := by
  obtain ⟨l, hl⟩ := memberSubst_sup_nst h
  refine ⟨?_, (supS_light _ (stripTop _) σ l hl).1⟩
  have hh : (mkBlock b.item).hdr = groupIdOf b.item := rfl
  unfold memberTheta_nst memberOfGroup
  simp only [hh, hl]

/-! ### The executable side condition -/

/-- executable side condition of the end-to-end theorem on member `i` (block `b`) of the group `e`, with
    `θ = memberTheta_nst e.1 b` the member's substitution (the matcher's answer on the two headers):
    * the member's header is EXACTLY the instance of the family's header under `θ` (`C09_sound_wf` gives this only modulo
      `erase`, i.e. up to presentation; the exact equality is checked);
    * the founding member (`i = 0`) has an identity substitution (`selfIdentity` of the flat theorem);
    * for every own key `k'` of the member (key of `otherFold b`) and every re-expression `sk` of it
      (`reexpr env e.1 i b k'`) that is — `sameKey` — a key `kr` of the family:
      - `θ` is the identity, or both components of `k'` are `untouched θ` (the D4 condition: every parameter of `k'` that
        reverse substitution leaves in place is fixed by `θ`) and `normTr` commutes with `inst` on the re-expressed
        trait path (`instCommOK_nst sk.2`);
      - the trait paths of `sk`, of `k'` are `wfPath`, `sk` agrees with the family's key on the leading `::`;
      - every trait bound of the block with the same dispatch key as `k'` is `wfPath`, agrees with `k'` on the leading
        `::` and is not a relaxed `?Trait` bound. -/
def nestedMemberOK (env : Env) (e : T × ABG × List Blk) (i : Nat) (b : Blk) : Bool :=
  let θ := memberTheta_nst e.1 b
  (inst θ e.1 == groupIdOf b.item) &&
  (i != 0 || allIdentity θ) &&
  (otherFold b).all (fun k'r => (reexpr env e.1 i b k'r.1).all (fun sk => e.2.1.bounds.all (fun kr =>
     !sameKey sk kr.1 ||
       ((allIdentity θ || (untouched θ k'r.1.1 && untouched θ k'r.1.2 && instCommOK_nst sk.2)) &&
        wfPath sk.2 && wfPath k'r.1.2 && lcOf sk.2 == lcOf kr.1.2 &&
        b.raw.all (fun rb => !sameKey (rb.bounded, rb.tr) k'r.1 ||
          (wfPath rb.tr && lcOf rb.tr == lcOf k'r.1.2 && !rb.maybe))))))

/-- executable side condition of the end-to-end theorem on one group: every dispatch key has a well-formed trait path
    and every member passes `nestedMemberOK` -/
def nestedGroupOK (env : Env) (e : T × ABG × List Blk) : Bool :=
  e.2.1.bounds.all (fun kr => wfPath kr.1.2) &&
  (List.range e.2.2.length).all (fun i => match e.2.2[i]? with
    | some b => nestedMemberOK env e i b
    | none => true)

theorem nestedGroupOK_spec_nst {env : Env} {e : T × ABG × List Blk} (h : nestedGroupOK env e = true) :
    (∀ kr ∈ e.2.1.bounds, wfPath kr.1.2 = true) ∧
    ∀ {i : Nat} {b : Blk}, e.2.2[i]? = some b → nestedMemberOK env e i b = true := by
  unfold nestedGroupOK at h
  simp only [Bool.and_eq_true, List.all_eq_true, List.mem_range] at h
  refine ⟨h.1, fun {i b} hb => ?_⟩
  have := h.2 i (List.getElem?_eq_some_iff.1 hb).1
  rw [hb] at this
  exact this

/-- what `nestedMemberOK` says about one (own key, re-expression, family key) triple -/
theorem nestedMemberOK_spec_nst {env : Env} {e : T × ABG × List Blk} {i : Nat} {b : Blk}
    (h : nestedMemberOK env e i b = true) :
    inst (memberTheta_nst e.1 b) e.1 = groupIdOf b.item ∧ (i = 0 → allIdentity (memberTheta_nst e.1 b) = true) ∧
    ∀ k'r ∈ otherFold b, ∀ sk ∈ reexpr env e.1 i b k'r.1, ∀ kr ∈ e.2.1.bounds, sameKey sk kr.1 = true →
      (allIdentity (memberTheta_nst e.1 b) = true ∨
        (untouched (memberTheta_nst e.1 b) k'r.1.1 = true ∧ untouched (memberTheta_nst e.1 b) k'r.1.2 = true ∧
          instCommOK_nst sk.2 = true)) ∧
      wfPath sk.2 = true ∧ wfPath k'r.1.2 = true ∧ lcOf sk.2 = lcOf kr.1.2 ∧
      ∀ rb ∈ b.raw, sameKey (rb.bounded, rb.tr) k'r.1 = true →
        wfPath rb.tr = true ∧ lcOf rb.tr = lcOf k'r.1.2 ∧ rb.maybe = false := by
  unfold nestedMemberOK at h
  simp only [Bool.and_eq_true, List.all_eq_true, beq_iff_eq] at h
  obtain ⟨⟨h1, h2⟩, h3⟩ := h
  refine ⟨h1, fun hi => ?_, fun k'r hk' sk hsk kr hkr hs => ?_⟩
  · subst hi; simpa using h2
  · have := h3 k'r hk' sk hsk kr hkr
    rw [hs] at this
    simp only [Bool.not_true, Bool.false_or, Bool.and_eq_true, Bool.or_eq_true, beq_iff_eq, List.all_eq_true] at this
    obtain ⟨⟨⟨⟨a1, a2⟩, a3⟩, a4⟩, a5⟩ := this
    refine ⟨?_, a2, a3, a4, fun rb hrb hsr => ?_⟩
    · rcases a1 with a1 | a1
      · exact Or.inl a1
      · exact Or.inr ⟨a1.1.1, a1.1.2, a1.2⟩
    · have := a5 rb hrb
      rw [hsr] at this
      simp only [Bool.not_true, Bool.false_eq_true, false_or, Bool.not_eq_true'] at this
      exact ⟨this.1.1, this.1.2, this.2⟩

/-! ### The family's keys instantiate to the member's own keys -/

/-- THE KEYS OF A FAMILY, SEEN THROUGH A MEMBER'S SUBSTITUTION, ARE THE MEMBER'S OWN KEYS: in a group that passes
    `nestedGroupOK`, if a re-expression `sk` of an own key `k'` of member `i` is (`sameKey`) the family's key `k`, then
    instantiating `k` with the member's substitution gives `k'` back — the bounded type exactly, the trait path up to
    `normTr` (bindings, `Tr<>` vs `Tr`, turbofish) -/
theorem nested_key_instance {items : List T} {groups : Groups} (h : parseGroups items = .ok groups)
    {e : T × ABG × List Blk} (he : e ∈ groups) (hok : nestedGroupOK (parseEnv items) e = true)
    {i : Nat} {b : Blk} (hb : e.2.2[i]? = some b) {k : BKey} {rows : List Row} (hrows : (k, rows) ∈ e.2.1.bounds)
    {k' : BKey} {r : Row} (hk' : (k', r) ∈ otherFold b) {sk : BKey} (hsk : sk ∈ reexpr (parseEnv items) e.1 i b k')
    (hsame : sameKey sk k = true) :
    inst (memberTheta_nst e.1 b) k.1 = k'.1 ∧ inst (memberTheta_nst e.1 b) (normTr k.2) = normTr k'.2 := by
  have hown := parseGroups_rowsOwn h he
  obtain ⟨hkeyswf, hmem⟩ := nestedGroupOK_spec_nst hok
  obtain ⟨_, hfirst, htrip⟩ := nestedMemberOK_spec_nst (hmem hb)
  have hwk : wfPath k.2 = true := hkeyswf (k, rows) hrows
  obtain ⟨hcaseθ, hwsk, hwk', hlcsk, _⟩ := htrip (k', r) hk' sk hsk (k, rows) hrows hsame
  simp only at hcaseθ hwk' hlcsk
  generalize hθ : memberTheta_nst e.1 b = θ at hfirst hcaseθ
  -- re-expression followed by instantiation is the identity, and `normTr` commutes with it
  have hA : inst θ sk.1 = k'.1 ∧ inst θ sk.2 = k'.2 ∧ normTr (inst θ sk.2) = inst θ (normTr sk.2) := by
    -- a later member's substitution is the one the search re-expressed its keys with
    have hlater : i ≠ 0 → (θ.map Prod.fst).Nodup ∧ sk ∈ substituteBound θ k'.1 k'.2 := by
      intro hi
      have := hown.2.1 i b hb
      rw [if_neg hi] at this
      obtain ⟨σ, hσ⟩ := Option.isSome_iff_exists.1 this
      obtain ⟨hθσ, hnd⟩ := memberTheta_eq_nst hσ
      rw [hθ] at hθσ
      subst hθσ
      exact ⟨hnd, by simpa [reexpr, hi, hσ] using hsk⟩
    by_cases hid : allIdentity θ = true
    · have : sk = k' := by
        by_cases hi : i = 0
        · subst hi
          simpa [reexpr] using hsk
        · simpa [substituteBound_identity θ hid] using (hlater hi).2
      subst this
      simp only [inst_identity hid, and_self]
    · obtain ⟨hu1, hu2, hcomm⟩ := hcaseθ.resolve_left hid
      obtain ⟨hnd, hsk'⟩ := hlater fun hi => hid (hfirst hi)
      obtain ⟨hx, hy⟩ := mem_substituteBound.1 hsk'
      exact ⟨roundtrip_all hnd k'.1 hu1 _ hx, roundtrip_all hnd k'.2 hu2 _ hy, normTr_inst_nst θ hcomm⟩
  obtain ⟨hA1, hA2, hA3⟩ := hA
  have hsk2 : sk.1 = k.1 ∧ keyOf sk.2 = keyOf k.2 := by
    simpa [sameKey] using hsame
  refine ⟨by rw [← hsk2.1]; exact hA1, ?_⟩
  rw [← normTr_eq_of_sameKey hwsk hwk hsk2.2 hlcsk, ← hA3, hA2]

/-! ### `memberOK` for every member of every family -/

/-- END TO END, `memberOK`: in an accepted grouping (nested headers or not), every member of the abstraction of a group
    that passes `nestedGroupOK` satisfies the hypothesis `memberOK` of the refinement -/
theorem nested_memberOK {items : List T} {groups : Groups} (h : parseGroups items = .ok groups)
    (sp : List String) {e : T × ABG × List Blk} (he : e ∈ groups) (hok : nestedGroupOK (parseEnv items) e = true) :
    ∀ m ∈ (familyOfGroup sp e).members, memberOK (familyOfGroup sp e) m = true := by
  intro m hm
  have hown := parseGroups_rowsOwn h he
  obtain ⟨i, b, ps, hb, hp, rfl⟩ := familyOfGroup_member hm
  obtain ⟨hkeyswf, hmem⟩ := nestedGroupOK_spec_nst hok
  obtain ⟨hhdr, _, htrip⟩ := nestedMemberOK_spec_nst (hmem hb)
  have hbmem : b ∈ e.2.2 := List.mem_of_getElem? hb
  have hcan : b.canonical := mem_map_mkBlk_canonical (parseGroups_member_input h he b hbmem)
  rw [memberOfGroup_theta_nst]
  generalize hθ : memberTheta_nst e.1 b = θ at hhdr htrip
  unfold memberOK
  simp only [Bool.and_eq_true, beq_iff_eq, List.all_eq_true]
  refine ⟨⟨?_, ?_⟩, ?_⟩
  · exact hhdr
  · show ps.length = (e.2.1.idents.map _).length
    rw [List.length_map]
    exact payloads_length_e2e (List.mem_of_getElem? hp)
  · -- every payload is backed by a clause of the block
    intro kr hkr
    obtain ⟨j, hj⟩ := List.mem_iff_getElem?.1 hkr
    rw [List.getElem?_zip_eq_some] at hj
    obtain ⟨hkj, hpj⟩ := hj
    simp only [familyOfGroup, List.getElem?_map, Option.map_eq_some_iff] at hkj
    obtain ⟨⟨k, a⟩, hx, hkr1⟩ := hkj
    obtain ⟨entry, hent, hcase⟩ := rowsOwn_payload hown hp hx hb
    rw [hpj] at hent
    have hent' : kr.2 = entry := Option.some.inj hent
    obtain ⟨rows, hrows⟩ := idents_mem (List.mem_of_getElem? hx)
    have hwk : wfPath k.2 = true := hkeyswf (k, rows) hrows
    rcases hcase with ⟨hnone, _⟩ | ⟨k', r, hk', ⟨sk, hsk, hsame⟩, hentry⟩
    · rw [keyOf_eq hwk] at hnone; cases hnone
    · obtain ⟨_, _, hwk', _, hraw⟩ := htrip (k', r) hk' sk hsk (k, rows) hrows hsame
      simp only at hwk' hraw
      obtain ⟨hI1, hI2⟩ := nested_key_instance h he hok hb hrows hk' hsk hsame
      rw [hθ] at hI1 hI2
      -- a bound of the block with the dispatch key of `k'`, carrying the binding if there is one
      have hrb : ∃ rb ∈ b.raw, sameKey (rb.bounded, rb.tr) k' = true ∧ ∀ p, entry = some p → (a, p) ∈ rb.binds := by
        obtain ⟨⟨rb0, hrb0, hk0⟩, hbinds⟩ := otherFold_spec b (k', r) hk'
        cases hentry' : entry with
        | none => exact ⟨rb0, hrb0, by rw [← hk0]; exact sameKey_refl _, fun p hp => by cases hp⟩
        | some p =>
          obtain ⟨rb, hrb, hap, hs1⟩ := hbinds a p (by rw [← hentry, hentry'])
          exact ⟨rb, hrb, hs1, fun p' hp' => by cases hp'; exact hap⟩
      obtain ⟨rb, hrb, hrk, hbind⟩ := hrb
      obtain ⟨hwrb, hlc, hmaybe⟩ := hraw rb hrb hrk
      have hkk : rb.bounded = k'.1 ∧ keyOf rb.tr = keyOf k'.2 := by
        simpa [sameKey] using hrk
      unfold clauseFor
      rw [List.any_eq_true]
      refine ⟨⟨rb.bounded, normTr rb.tr, rb.binds⟩, ?_, ?_⟩
      · show _ ∈ (mkBlock b.item).clauses
        rw [mkBlock_clauses hcan]
        exact List.mem_map.2 ⟨rb, List.mem_filter.2 ⟨hrb, by simp [hmaybe]⟩, rfl⟩
      · simp only [Bool.and_eq_true, beq_iff_eq]
        rw [← hkr1]
        refine ⟨⟨?_, ?_⟩, ?_⟩
        · show rb.bounded = inst θ k.1
          rw [hkk.1, hI1]
        · show normTr rb.tr = inst θ (normTr k.2)
          rw [normTr_eq_of_sameKey hwrb hwk' hkk.2 hlc, hI2]
        · rw [hent']
          cases hentry' : entry with
          | none => rfl
          | some p =>
            simp only [List.contains_iff_mem]
            exact hbind p hentry'

/-! ### `flatGroupOK` is a special case -/

/-- for an invocation without nested headers, `flatGroupOK` implies `nestedGroupOK`: every member's substitution is
    the identity -/
theorem nestedGroupOK_of_flat {items : List T} {groups : Groups} (h : parseGroups items = .ok groups)
    (hns : ∀ id, (parseEnv items).subsets.get id = []) {e : T × ABG × List Blk} (he : e ∈ groups)
    (hok : flatGroupOK e = true) : nestedGroupOK (parseEnv items) e = true := by
  have hown := parseGroups_rowsOwn h he
  obtain ⟨hself, hkeys⟩ := flatGroupOK_spec hok
  obtain ⟨σ, l, hs, hσ⟩ := selfIdentity_spec hself
  unfold nestedGroupOK
  simp only [Bool.and_eq_true, List.all_eq_true, List.mem_range]
  refine ⟨fun kr hkr => (hkeys kr hkr).1, fun i hi => ?_⟩
  have hb : e.2.2[i]? = some e.2.2[i] := List.getElem?_eq_getElem hi
  rw [hb]
  simp only
  generalize e.2.2[i] = b at hb
  have hbmem : b ∈ e.2.2 := List.mem_of_getElem? hb
  have hgid : groupIdOf b.item = e.1 := rowsOwn_flat_header hns hown hb
  have hθ : memberTheta_nst e.1 b = σ := by
    unfold memberTheta_nst
    rw [memberOfGroup_flat hgid hs]
  unfold nestedMemberOK
  simp only [hθ, hσ, Bool.or_true, Bool.true_or, Bool.true_and, Bool.and_eq_true, List.all_eq_true, beq_iff_eq,
    inst_identity hσ, Bool.and_true]
  refine ⟨hgid.symm, fun k'r hk' sk hsk kr hkr => ?_⟩
  rw [reexpr_flat hns hgid hs hσ, List.mem_singleton] at hsk
  subst hsk
  cases hsame : sameKey k'r.1 kr.1 with
  | false => rfl
  | true =>
    obtain ⟨hwk, hmembers⟩ := hkeys kr hkr
    obtain ⟨⟨rb0, hrb0, hk0⟩, _⟩ := otherFold_spec b k'r hk'
    have h0 := hmembers b hbmem rb0 hrb0 (by rw [← hk0]; exact hsame)
    have hk02 : k'r.1.2 = rb0.tr := by rw [hk0]
    simp only [Bool.not_true, Bool.false_or, Bool.and_eq_true, beq_iff_eq, List.all_eq_true]
    refine ⟨⟨⟨by rw [hk02]; exact h0.1, by rw [hk02]; exact h0.1⟩, by rw [hk02]; exact h0.2.1⟩, fun rb hrb => ?_⟩
    cases hsr : sameKey (rb.bounded, rb.tr) k'r.1 with
    | false => rfl
    | true =>
      have h1 := hmembers b hbmem rb hrb (sameKey_trans hsr hsame)
      simp only [Bool.not_true, Bool.false_or, Bool.and_eq_true, beq_iff_eq, Bool.not_eq_true']
      exact ⟨⟨h1.1, by rw [hk02]; exact h1.2.1.trans h0.2.1.symm⟩, h1.2.2⟩

/-! ### `thetaCoversB` for nested members -/

/-- executable side condition for `thetaCoversB` of all members (nested or not): the header is well-formed for the
    matcher (`wf`, C09); every parameter occurrence of the header and of the keys is one the matcher sees in the header
    (`params`); every member's substitution is the answer of the matcher on the two headers, found WITHOUT any lenient
    arm (then `C09_binds_all_wf` applies: it binds every visible parameter), and respects the kinds of the parameter
    occurrences of the header and the keys (`kindOK`, checked) -/
def nestedCoversB (F : Family) : Bool :=
  wf F.hdr && (allParams F.hdr).all (fun n => (params F.hdr).contains n) &&
  F.keys.all (fun k => (allParams k.bounded).all (fun n => (params F.hdr).contains n) &&
    (allParams k.tr).all (fun n => (params F.hdr).contains n)) &&
  F.members.all (fun m => (match sup F.hdr m.blk.hdr with
      | .yes σ l => !l && σ == m.θ
      | _ => false) &&
    kindOK m.θ F.hdr && F.keys.all (fun k => kindOK m.θ k.bounded && kindOK m.θ k.tr))

/-- END TO END, `thetaCoversB`: every member of a family that passes `nestedCoversB` passes `thetaCoversB` -/
theorem nested_thetaCovers {F : Family} (hcov : nestedCoversB F = true) :
    ∀ m ∈ F.members, thetaCoversB F m = true := by
  intro m hm
  unfold nestedCoversB at hcov
  simp only [Bool.and_eq_true, List.all_eq_true, List.contains_iff_mem] at hcov
  obtain ⟨⟨⟨hwf, hp0⟩, hkeys⟩, hmem⟩ := hcov
  obtain ⟨⟨hsup, hk0⟩, hkk⟩ := hmem m hm
  have hbinds : ∀ n ∈ params F.hdr, (lookup m.θ n).isSome = true := by
    split at hsup
    · next σ l hs =>
      simp only [Bool.and_eq_true, Bool.not_eq_true', beq_iff_eq] at hsup
      obtain ⟨hl, hσ⟩ := hsup
      subst hl; subst hσ
      exact (supS_good F.hdr (stripTop m.blk.hdr) m.θ hwf hs).1
    · cases hsup
  unfold thetaCoversB boundAll
  simp only [Bool.and_eq_true, List.all_eq_true]
  refine ⟨⟨hk0, fun n hn => hbinds n (hp0 n hn)⟩, fun k hk => ?_⟩
  obtain ⟨h3, h4⟩ := hkeys k hk
  obtain ⟨h1, h2⟩ := hkk k hk
  exact ⟨⟨⟨h1, h2⟩, fun n hn => hbinds n (h3 n hn)⟩, fun n hn => hbinds n (h4 n hn)⟩

/-- `hdrCoversB` of the flat theorem is the special case in which every member has the family's own header -/
theorem nestedCoversB_of_flat {F : Family} (hcov : hdrCoversB F = true)
    (hθ : ∀ m ∈ F.members, m.blk.hdr = F.hdr ∧ m.θ = (match sup F.hdr m.blk.hdr with | .yes σ _ => σ | _ => [])) :
    nestedCoversB F = true := by
  unfold hdrCoversB at hcov
  simp only [Bool.and_eq_true, List.all_eq_true] at hcov
  obtain ⟨⟨⟨⟨hclean, hwf⟩, hk0⟩, hp0⟩, hkeys⟩ := hcov
  obtain ⟨σ, hs, hσ⟩ := selfClean_spec hclean
  unfold nestedCoversB
  simp only [Bool.and_eq_true, List.all_eq_true]
  refine ⟨⟨⟨hwf, hp0⟩, fun k hk => ⟨(hkeys k hk).1.2, (hkeys k hk).2⟩⟩, fun m hm => ?_⟩
  obtain ⟨h1, h2⟩ := hθ m hm
  rw [h1, hs] at h2
  simp only at h2
  rw [h1, hs, h2]
  simp only [Bool.not_false, beq_self_eq_true, Bool.and_self, true_and, kindOK_identity hσ]
  exact ⟨hk0, fun k hk => ⟨(hkeys k hk).1.1.1, (hkeys k hk).1.1.2⟩⟩

/-! ### Coverage -/

/-- END TO END, coverage, for ARBITRARY accepted invocations whose recorded header relation is acyclic (`acyclicB`: every
    block is then placed exactly once, `parseGroups_partition_acyclic`) and whose groups pass the executable checks: in
    every world in which the dispatch traits define their associated types (`WorldTotal`) and the `Sized` requirements
    are compatible (`SizedCompat`), the grouping the model computes implements the trait for a query exactly when one of
    the input blocks applies to it. (The direction ⇒ needs none of the side conditions.) -/
theorem nested_coverage {items : List T} {groups : Groups} (h : parseGroups items = .ok groups)
    (ha : acyclicB items = true) (sp : List String)
    (hok : ∀ e ∈ groups, nestedGroupOK (parseEnv items) e = true ∧ nestedCoversB (familyOfGroup sp e) = true)
    (W : World) (hw : ∀ e ∈ groups, WorldTotal W (familyOfGroup sp e))
    (hsz : ∀ e ∈ groups, ∀ m ∈ (familyOfGroup sp e).members, SizedCompat W (familyOfGroup sp e) m) (q : T) :
    (∃ e ∈ groups, ∃ m ∈ (familyOfGroup sp e).members, genSel W (familyOfGroup sp e) m q) ↔
    (∃ it ∈ items, applies W (mkBlock (canon it)) q) :=
  coverage_of_placed h sp (parseGroups_partition_acyclic h ha)
    (fun e he m hm => ⟨nested_memberOK h sp he (hok e he).1 m hm, nested_thetaCovers (hok e he).2 m hm⟩) W hw hsz q

/-! ### Without nested headers `hdrCoversB` is enough -/

/-- for an un-nested invocation, `hdrCoversB` of the abstraction of a group implies `nestedCoversB` -/
theorem nestedCoversB_of_flat_group {items : List T} {groups : Groups} (h : parseGroups items = .ok groups)
    (hns : ∀ id, (parseEnv items).subsets.get id = []) (sp : List String) {e : T × ABG × List Blk} (he : e ∈ groups)
    (hcov : hdrCoversB (familyOfGroup sp e) = true) : nestedCoversB (familyOfGroup sp e) = true := by
  apply nestedCoversB_of_flat hcov
  intro m hm
  obtain ⟨i, b, ps, hb, _, rfl⟩ := familyOfGroup_member hm
  have hgid : groupIdOf b.item = e.1 := rowsOwn_flat_header hns (parseGroups_rowsOwn h he) hb
  exact ⟨hgid, rfl⟩

/-! ### The end-to-end theorems for invocations without nested headers -/

/-- FLAT END-TO-END, `memberOK`: in an accepted grouping of an invocation without nested headers, every member of
    the abstraction of a group that passes `flatGroupOK` satisfies the hypothesis `memberOK` of the refinement -/
theorem flat_memberOK {items : List T} {groups : Groups} (h : parseGroups items = .ok groups)
    (hns : ∀ id, (parseEnv items).subsets.get id = []) (sp : List String) {e : T × ABG × List Blk}
    (he : e ∈ groups) (hok : flatGroupOK e = true) :
    ∀ m ∈ (familyOfGroup sp e).members, memberOK (familyOfGroup sp e) m = true :=
  nested_memberOK h sp he (nestedGroupOK_of_flat h hns he hok)

/-- FLAT END-TO-END, `thetaCoversB`: every member also satisfies the hypothesis `thetaCoversB` of the refinement, when
    the header and the keys pass `hdrCoversB` -/
theorem flat_thetaCovers {items : List T} {groups : Groups} (h : parseGroups items = .ok groups)
    (hns : ∀ id, (parseEnv items).subsets.get id = []) (sp : List String) {e : T × ABG × List Blk}
    (he : e ∈ groups) (hcov : hdrCoversB (familyOfGroup sp e) = true) :
    ∀ m ∈ (familyOfGroup sp e).members, thetaCoversB (familyOfGroup sp e) m = true :=
  nested_thetaCovers (nestedCoversB_of_flat_group h hns sp he hcov)

/-- FLAT END-TO-END, coverage: an invocation without nested headers places every block (`parseGroups_partition_partial`),
    and its groups that pass the executable checks satisfy the hypotheses of the refinement -/
theorem flat_coverage {items : List T} {groups : Groups} (h : parseGroups items = .ok groups)
    (hns : ∀ id, (parseEnv items).subsets.get id = []) (sp : List String)
    (hok : ∀ e ∈ groups, flatGroupOK e = true ∧ hdrCoversB (familyOfGroup sp e) = true)
    (W : World) (hw : ∀ e ∈ groups, WorldTotal W (familyOfGroup sp e))
    (hsz : ∀ e ∈ groups, ∀ m ∈ (familyOfGroup sp e).members, SizedCompat W (familyOfGroup sp e) m) (q : T) :
    (∃ e ∈ groups, ∃ m ∈ (familyOfGroup sp e).members, genSel W (familyOfGroup sp e) m q) ↔
    (∃ it ∈ items, applies W (mkBlock (canon it)) q) :=
  coverage_of_placed h sp (parseGroups_partition_partial h hns)
    (fun e he m hm => ⟨flat_memberOK h hns sp he (hok e he).1 m hm, flat_thetaCovers h hns sp he (hok e he).2 m hm⟩)
    W hw hsz q

end DI

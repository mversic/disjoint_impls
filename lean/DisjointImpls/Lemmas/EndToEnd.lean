/-
  From the grouping the model computes (`parseGroups`, Group.lean) to the refinement theorems (Sem.lean /
  Lemmas/Refine.lean): the abstraction of a group, the executable side conditions for invocations without nested
  headers (`flatGroupOK`, `hdrCoversB`, `flatInputOK`), and coverage from placement (`coverage_of_placed`).

  `familyOfGroup` abstracts a model group `(header, ABG, members)` into a `Family` the way `Bounds.mkFamily` abstracts
  the wire representation. The bridge is the invariant `RowsOwn` (Lemmas/RowsOwn.lean): every payload of a member is
  what the member's own folded row binds. The hypotheses of the refinement (`memberOK`, `thetaCoversB`) are derived in
  Lemmas/EndToEndNested.lean for arbitrary accepted invocations; the un-nested case is the instance in which every
  member's substitution is the identity (`nestedGroupOK_of_flat`).
-/
import DisjointImpls.Lemmas.RowsOwn
import DisjointImpls.Lemmas.FlatOrder
import DisjointImpls.Lemmas.Refine
namespace DI

/-! ### Identity substitutions -/

theorem lookup_allIdentity {σ : Subst} (h : allIdentity σ = true) (n : String) :
    lookup σ n = none ∨ lookup σ n = some .identity := by
  induction σ with
  | nil => exact Or.inl rfl
  | cons p σ ih =>
    obtain ⟨m, v⟩ := p
    simp only [allIdentity, List.all_cons, Bool.and_eq_true, beq_iff_eq] at h
    simp only [lookup]
    split
    · right; rw [h.1]
    · exact ih (by simpa [allIdentity] using h.2)

theorem inst_identity {σ : Subst} (h : allIdentity σ = true) : ∀ t : T, inst σ t = t := by
  have hne : ∀ n (v : Val), v ≠ .identity → lookup σ n ≠ some v := fun n v hv e =>
    (lookup_allIdentity h n).elim (fun h1 => by rw [h1] at e; cases e)
      (fun h1 => by rw [h1] at e; exact hv (Option.some.inj e).symm)
  apply T.ind
  · intro n; exact inst_tparam_other fun t => hne n _ (by simp)
  · intro n; exact inst_eparam_other fun t => hne n _ (by simp)
  · intro k as ks ih
    rw [inst_node_hom σ fun n _ e => hne n _ (by simp), instL_eq_self ih]

theorem instL_identity {σ : Subst} (h : allIdentity σ = true) : ∀ ts : List T, instL σ ts = ts :=
  fun _ => instL_eq_self fun t _ => inst_identity h t

mutual
/-- an identity substitution respects the kinds of exactly the trees the empty substitution does (those without a
    `GenericArgument::Type [eparam]` node) -/
theorem kindOK_identity {σ : Subst} (h : allIdentity σ = true) : ∀ t : T, kindOK σ t = kindOK [] t
  | .tparam n => by
      rw [kindOK, kindOK, nonEx, nonEx]
      rcases lookup_allIdentity h n with h1 | h1 <;> simp [h1, lookup]
  | .eparam n => by
      rw [kindOK, kindOK]
      rcases lookup_allIdentity h n with h1 | h1 <;> simp [h1, lookup]
  | .node k as ks => by
      unfold kindOK
      split
      · rfl
      · rfl
      · exact kindOKL_identity h ks
theorem kindOKL_identity {σ : Subst} (h : allIdentity σ = true) : ∀ ts : List T, kindOKL σ ts = kindOKL [] ts
  | [] => by rw [kindOKL, kindOKL]
  | t :: ts => by rw [kindOKL, kindOKL, kindOK_identity h t, kindOKL_identity h ts]
end

/-! ### `normTr` on well-formed trait paths -/

def normSeg (s : T) : T := match s with
  | .node "PathSegment" [] [id, .node "PathArguments::AngleBracketed" [] [_, .node "List" [] []]] =>
      .node "PathSegment" [] [id, .node "PathArguments::None" [] []]
  | .node "PathSegment" [] [id, .node "PathArguments::AngleBracketed" [] [_, args]] =>
      .node "PathSegment" [] [id, .node "PathArguments::AngleBracketed" [] [.node "Ign" [] [], args]]
  | s => s

theorem normSeg_none (x : T) :
    normSeg (.node "PathSegment" [] [x, .node "PathArguments::None" [] []]) =
      .node "PathSegment" [] [x, .node "PathArguments::None" [] []] := by
  rw [normSeg] <;> simp

theorem normSeg_angle_nil (x c2 : T) :
    normSeg (angleSeg x c2 []) = .node "PathSegment" [] [x, .node "PathArguments::None" [] []] := by
  rw [angleSeg, normSeg]

theorem normSeg_angle_cons (x c2 a : T) (as : List T) :
    normSeg (angleSeg x c2 (a :: as)) = angleSeg x (.node "Ign" [] []) (a :: as) := by
  rw [angleSeg, normSeg]
  · rfl
  · simp

theorem normSeg_paren (x : T) (as : List String) (ks : List T) :
    normSeg (.node "PathSegment" [] [x, .node "PathArguments::Parenthesized" as ks]) =
      .node "PathSegment" [] [x, .node "PathArguments::Parenthesized" as ks] := by
  rw [normSeg] <;> simp

theorem normTr_of_strip {p lc : T} {segs : List T} (h : stripBindings p = mkPath lc segs) :
    normTr p = mkPath lc (segs.map normSeg) := by
  unfold normTr
  rw [h]
  rfl

/-- the last segment of a normalised trait path, from the identifier and the non-binding arguments -/
def lastNorm (n : String) (args : List T) : T :=
  match args with
  | [] => .node "PathSegment" [] [.node "Ident" [n] [], .node "PathArguments::None" [] []]
  | _ => .node "PathSegment" [] [.node "Ident" [n] [],
      .node "PathArguments::AngleBracketed" [] [.node "Ign" [] [], .node "List" [] args]]

/-- … or, for a parenthesized argument list (`Fn(A) -> B`), from the identifier and the argument node (kept as it is) -/
def lastNormK (n : String) (args : List T) (paren : Option T) : T :=
  match paren with
  | some x => .node "PathSegment" [] [.node "Ident" [n] [], x]
  | none => lastNorm n args

theorem segIdent_some_inv {s : T} {n : String} (h : segIdent s = some n) :
    ∃ x, s = .node "PathSegment" [] [.node "Ident" [n] [], x] := by
  unfold segIdent at h
  split at h
  · cases h; exact ⟨_, rfl⟩
  · cases h

/-- the normalised trait path of a well-formed path is a function of its leading colon and its dispatch key -/
theorem normTr_wf {p : T} (hp : wfPath p = true) :
    ∃ n, lastIdent p = some n ∧
      normTr p = mkPath (lcOf p) ((initSegs p).map normSeg ++
        [lastNormK n (nonAssoc (lastArgs p)) (lastParen p)]) := by
  obtain ⟨l, hl, hg, hp'⟩ := wfPath_mkPath hp
  have hid : (segIdent l).isSome = true := by
    unfold wfPath at hp
    simp only [Bool.and_eq_true, List.all_eq_true] at hp
    exact hp.2 l (List.mem_of_getLast? hl)
  obtain ⟨n, hn⟩ := Option.isSome_iff_exists.1 hid
  obtain ⟨x, rfl⟩ := segIdent_some_inv hn
  refine ⟨n, by simp [lastIdent, hl, hn], ?_⟩
  generalize lcOf p = lc, initSegs p = i at hp' ⊢
  simp only [lastArgs, lastParen, hl]
  cases hs : segArgs (.node "PathSegment" [] [.node "Ident" [n] [], x]) with
  | none =>
    obtain ⟨_, he⟩ := segArgs_none_inv hs
    have hx : x = .node "PathArguments::None" [] [] := by
      injection he with _ _ he; injection he with _ he; injection he with he _
    subst hx
    rw [normTr_of_strip ((stripBindings_of_not_angle hl (by simp [hs])).trans hp'), List.map_append,
      List.map_singleton, normSeg_none]
    rfl
  | angle args =>
    obtain ⟨id, c2, he⟩ := segArgs_angle_inv hs
    rw [he] at hp'
    have hid : id = .node "Ident" [n] [] := by
      unfold angleSeg at he
      injection he with _ _ he; injection he with he _; exact he.symm
    subst hid
    rw [normTr_of_strip ((congrArg stripBindings hp').trans (stripBindings_angle lc i _ c2 args)), List.map_append,
      List.map_singleton]
    dsimp only
    cases nonAssoc args with
    | nil => rw [normSeg_angle_nil]; rfl
    | cons a as => rw [normSeg_angle_cons]; rfl
  | paren y =>
    obtain ⟨id, as, ks, he, hy⟩ := segArgs_paren_inv hs
    have hx : x = .node "PathArguments::Parenthesized" as ks := by
      injection he with _ _ he; injection he with _ he; injection he with he _
    subst hx
    rw [normTr_of_strip ((stripBindings_of_not_angle hl (by simp [hs])).trans hp'), hy, List.map_append,
      List.map_singleton, normSeg_paren]
    rfl
  | bad => rw [hs] at hg; cases hg

theorem normTr_eq_of_sameKey {p q : T} (hp : wfPath p = true) (hq : wfPath q = true)
    (hk : keyOf p = keyOf q) (hlc : lcOf p = lcOf q) : normTr p = normTr q := by
  obtain ⟨n, hn, e1⟩ := normTr_wf hp
  obtain ⟨m, hm, e2⟩ := normTr_wf hq
  rw [keyOf_eq hp, keyOf_eq hq, Option.some.injEq] at hk
  simp only [keyOf', TraitKey.mk.injEq] at hk
  have : n = m := by
    have := hk.2.1; rw [hn, hm] at this; exact Option.some.inj this
  subst this
  rw [e1, e2, hlc, hk.1, hk.2.2.1, hk.2.2.2]

/-! ### The abstraction of a model group -/

/-- the member of a family as `Bounds.mkMember` builds it, from the model block and its row of payloads -/
def memberOfGroup (gid : T) (b : Blk) (row : List (Option T)) : Member :=
  let blk := mkBlock b.item
  let θ := match sup gid blk.hdr with
    | .yes σ _ => σ
    | _ => []
  ⟨blk, θ, row⟩

theorem memberOfGroup_eq_mkMember (gid : T) (b : Blk) (row : T) :
    memberOfGroup gid b (decodeRow row) = mkMember gid row b.item := rfl

/-- the abstraction of a model group `(header, keys with rows, members)` into a `Family` (compare `Bounds.mkFamily`,
    which does the same from the wire representation): header, one key per (bound key, associated type) pair of
    `ABG.idents` with the trait path normalised, one member per block with its row of `ABG.payloads` -/
def familyOfGroup (sizedParams : List String) (e : T × ABG × List Blk) : Family :=
  { hdr := e.1
    keys := e.2.1.idents.map (fun kx => ⟨kx.1.1, normTr kx.1.2, kx.2⟩)
    sizedParams := sizedParams
    members := (List.zip e.2.2 e.2.1.payloads).map (fun bp => memberOfGroup e.1 bp.1 bp.2) }

/-! #### … is `Bounds.mkFamily` on the wire encoding of the group -/

/-- the wire encoding of the keys: `List [Tuple [Bounded [b], TraitBound [p], Ident [a]] …]` -/
def encKeys (idents : List (BKey × String)) : T :=
  .node "List" [] (idents.map (fun kx =>
    .node "Tuple" [] [.node "Bounded" [] [kx.1.1], .node "TraitBound" [] [kx.1.2], .node "Ident" [kx.2] []]))

/-- the wire encoding of one row of payloads: `List [Some [p] | None …]` -/
def encRow (ps : List (Option T)) : T :=
  .node "List" [] (ps.map (fun o => match o with
    | some p => .node "Some" [] [p]
    | none => .node "None" [] []))

def encRows (pss : List (List (Option T))) : T := .node "List" [] (pss.map encRow)

theorem decodeRow_encRow (ps : List (Option T)) : decodeRow (encRow ps) = ps := by
  unfold decodeRow encRow
  simp only [List.map_map]
  conv => rhs; rw [← List.map_id ps]
  apply List.map_congr_left
  intro o _
  cases o <;> rfl

/-- the abstraction of a model group is what `Bounds.mkFamily` (used by the driver's `family` command on the
    implementation's real grouping) computes from the wire encoding of the same group; the `Sized` parameters are
    those of the main impl handed to `mkFamily` -/
theorem familyOfGroup_eq_mkFamily (e : T × ABG × List Blk) (mainImpl : T) :
    mkFamily e.1 (encKeys e.2.1.idents) (encRows e.2.1.payloads) mainImpl (e.2.2.map (·.item)) =
      familyOfGroup (match mainImpl with
        | .node "Some" [] [item] => mkBlock item
        | _ => ⟨.node "?" [] [], [], []⟩).sizedParams e := by
  unfold mkFamily familyOfGroup encKeys encRows
  simp only [List.filterMap_map]
  congr 1
  · induction e.2.1.idents with
    | nil => rfl
    | cons kx rest ih => simp only [List.filterMap_cons, Function.comp, decodeKey, List.map_cons, ih]
  · generalize e.2.1.payloads = pss
    induction e.2.2 generalizing pss with
    | nil => simp
    | cons b ms ih =>
      cases pss with
      | nil => simp
      | cons ps pss =>
        simp only [List.map_cons, List.zip_cons_cons, List.cons.injEq]
        exact ⟨by rw [← memberOfGroup_eq_mkMember, decodeRow_encRow], ih pss⟩

/-- the header matches itself with identity bindings only and without any lenient arm -/
def selfClean (gid : T) : Bool := match sup gid gid with | .yes σ l => allIdentity σ && !l | _ => false

theorem selfClean_spec {gid : T} (h : selfClean gid = true) : ∃ σ, sup gid gid = .yes σ false ∧ allIdentity σ = true := by
  unfold selfClean at h
  split at h
  · next σ l hs =>
    simp only [Bool.and_eq_true, Bool.not_eq_true'] at h
    rw [h.2] at hs
    exact ⟨σ, hs, h.1⟩
  · cases h



/-- executable side condition of the flat end-to-end theorem on one group: the header matches itself with identity
    bindings only (`selfIdentity`, as in C03); every
    dispatch key has a well-formed trait path; and every trait bound of every member that has the same dispatch key
    as a key of the family is well-formed, agrees with it on the leading `::` (which `normTr` keeps and `TraitBound::eq`
    ignores) and is not a relaxed (`?Trait`) bound (those are no clauses of the block) -/
def flatGroupOK (e : T × ABG × List Blk) : Bool :=
  selfIdentity e.1 &&
  e.2.1.bounds.all (fun kr => wfPath kr.1.2 && e.2.2.all (fun b => b.raw.all (fun rb =>
    !sameKey (rb.bounded, rb.tr) kr.1 || (wfPath rb.tr && lcOf rb.tr == lcOf kr.1.2 && !rb.maybe))))

/-- executable side condition for `thetaCoversB`: the header matches itself without any lenient arm (`selfClean`) and
    is well-formed for the matcher (`wf`, C09), every
    parameter occurrence of the header and of the keys is one the matcher sees in the header (`params`), and no
    expression parameter sits in a type-argument position -/
def hdrCoversB (F : Family) : Bool :=
  selfClean F.hdr && wf F.hdr && kindOK [] F.hdr && (allParams F.hdr).all (fun n => (params F.hdr).contains n) &&
  F.keys.all (fun k => kindOK [] k.bounded && kindOK [] k.tr &&
    (allParams k.bounded).all (fun n => (params F.hdr).contains n) &&
    (allParams k.tr).all (fun n => (params F.hdr).contains n))

theorem memberOfGroup_flat {gid : T} {b : Blk} {ps : List (Option T)} {σ : Subst} {l : Bool}
    (hgid : groupIdOf b.item = gid) (hs : sup gid gid = .yes σ l) :
    memberOfGroup gid b ps = ⟨mkBlock b.item, σ, ps⟩ := by
  have hh : (mkBlock b.item).hdr = gid := hgid
  unfold memberOfGroup
  simp only [hh, hs]

theorem reexpr_flat {env : Env} (hns : ∀ id, env.subsets.get id = []) {gid : T} {b : Blk} {σ : Subst} {l : Bool}
    (hgid : groupIdOf b.item = gid) (hs : sup gid gid = .yes σ l) (hσ : allIdentity σ = true) (i : Nat) (k' : BKey) :
    reexpr env gid i b k' = [k'] := by
  unfold reexpr
  split
  · rfl
  · unfold memberSubst
    rw [hns, hgid]
    simp only [List.find?_nil, beq_self_eq_true, if_true, hs]
    exact substituteBound_identity σ hσ k'.1 k'.2

/-- without nested headers every member has the family's own header -/
theorem rowsOwn_flat_header {env : Env} (hns : ∀ id, env.subsets.get id = []) {e : T × ABG × List Blk}
    (hown : RowsOwn env e) {i : Nat} {b : Blk} (hb : e.2.2[i]? = some b) : groupIdOf b.item = e.1 := by
  have := hown.2.1 i b hb
  split at this
  · exact this
  · unfold memberSubst at this
    rw [hns] at this
    simp only [List.find?_nil] at this
    split at this
    · next hc => exact (eq_of_beq hc).symm
    · cases this

theorem payloads_length_e2e {g : ABG} {ps : List (Option T)} (h : ps ∈ g.payloads) : ps.length = g.idents.length := by
  unfold ABG.payloads at h
  split at h
  · cases h
  · obtain ⟨i, _, rfl⟩ := List.mem_map.1 h
    simp

theorem flatGroupOK_spec {e : T × ABG × List Blk} (h : flatGroupOK e = true) :
    selfIdentity e.1 = true ∧ ∀ kr ∈ e.2.1.bounds, wfPath kr.1.2 = true ∧ ∀ b ∈ e.2.2, ∀ rb ∈ b.raw,
      sameKey (rb.bounded, rb.tr) kr.1 = true → wfPath rb.tr = true ∧ lcOf rb.tr = lcOf kr.1.2 ∧ rb.maybe = false := by
  unfold flatGroupOK at h
  simp only [Bool.and_eq_true, List.all_eq_true] at h
  refine ⟨h.1, fun kr hkr => ⟨(h.2 kr hkr).1, fun b hb rb hrb hs => ?_⟩⟩
  have := (h.2 kr hkr).2 b hb rb hrb
  rw [hs] at this
  simp only [Bool.not_true, Bool.false_or, Bool.and_eq_true, beq_iff_eq, Bool.not_eq_true'] at this
  exact ⟨this.1.1, this.1.2, this.2⟩

/-! ### `flatGroupOK` from a check on the input alone -/

/-- executable side condition on the INPUT: every header matches itself with identity bindings only, and for any two
    blocks with the same header, a trait bound `rb` of one that has the same dispatch key as a trait bound `rb'` of the
    other that carries bindings (so the key may be dispatched on) is not relaxed, both trait paths are well-formed and
    they agree on the leading `::` -/
def flatInputOK (items : List T) : Bool :=
  let bs := items.map mkBlk
  bs.all (fun b => selfIdentity (groupIdOf b.item) && bs.all (fun b' =>
    groupIdOf b.item != groupIdOf b'.item || b.raw.all (fun rb => b'.raw.all (fun rb' =>
      !sameKey (rb.bounded, rb.tr) (rb'.bounded, rb'.tr) || rb'.binds.isEmpty ||
        (wfPath rb.tr && wfPath rb'.tr && lcOf rb.tr == lcOf rb'.tr && !rb.maybe)))))

theorem flatInputOK_spec {items : List T} (h : flatInputOK items = true) :
    ∀ b ∈ items.map mkBlk, selfIdentity (groupIdOf b.item) = true ∧ ∀ b' ∈ items.map mkBlk,
      groupIdOf b.item = groupIdOf b'.item → ∀ rb ∈ b.raw, ∀ rb' ∈ b'.raw,
        sameKey (rb.bounded, rb.tr) (rb'.bounded, rb'.tr) = true → rb'.binds ≠ [] →
          wfPath rb.tr = true ∧ wfPath rb'.tr = true ∧ lcOf rb.tr = lcOf rb'.tr ∧ rb.maybe = false := by
  unfold flatInputOK at h
  simp only [List.all_eq_true, Bool.and_eq_true] at h
  intro b hb
  refine ⟨(h b hb).1, fun b' hb' hid rb hrb rb' hrb' hs hne => ?_⟩
  have := (h b hb).2 b' hb'
  rw [hid] at this
  simp only [bne_self_eq_false, Bool.false_or, List.all_eq_true] at this
  have := this rb hrb rb' hrb'
  rw [hs, List.isEmpty_eq_false_iff.2 hne] at this
  simp only [Bool.not_true, Bool.false_or, Bool.and_eq_true, beq_iff_eq, Bool.not_eq_true'] at this
  exact ⟨this.1.1.1, this.1.1.2, this.1.2, this.2⟩

/-- for an accepted un-nested invocation the check on the input implies the check on every group -/
theorem flatGroupOK_of_input {items : List T} {groups : Groups} (h : parseGroups items = .ok groups)
    (hns : ∀ id, (parseEnv items).subsets.get id = []) (hin : flatInputOK items = true)
    {e : T × ABG × List Blk} (he : e ∈ groups) : flatGroupOK e = true := by
  have hown := parseGroups_rowsOwn h he
  have hspec := flatInputOK_spec hin
  have hmemin := parseGroups_member_input h he
  have hhdr : ∀ b ∈ e.2.2, groupIdOf b.item = e.1 := by
    intro b hb
    obtain ⟨i, hi, hbi⟩ := List.mem_iff_getElem.1 hb
    exact rowsOwn_flat_header hns hown (by rw [List.getElem?_eq_getElem hi, hbi])
  -- any member gives the header's self-match
  obtain ⟨b0, hb0⟩ := List.exists_mem_of_ne_nil _ hown.1
  have hself : selfIdentity e.1 = true := hhdr b0 hb0 ▸ (hspec b0 (hmemin b0 hb0)).1
  obtain ⟨σ, l, hs, hσ⟩ := selfIdentity_spec hself
  unfold flatGroupOK
  simp only [Bool.and_eq_true, List.all_eq_true]
  refine ⟨hself, fun kr hkr => ?_⟩
  -- some member has a binding under this key (the key survived pruning) …
  have hbind : ∃ b1 ∈ e.2.2, ∃ rb1 ∈ b1.raw, rb1.binds ≠ [] ∧ sameKey (rb1.bounded, rb1.tr) kr.1 = true := by
    obtain ⟨e0, _, hee, _, _⟩ := parseGroups_group' h he (rowsAligned_inv _)
    have hkr' := hkr
    rw [hee] at hkr'
    simp only [ABG.prune, List.mem_filter, List.any_eq_true, Bool.not_eq_true', List.isEmpty_eq_false_iff] at hkr'
    obtain ⟨_, r, hr, hrne⟩ := hkr'
    obtain ⟨i, hi, hri⟩ := List.mem_iff_getElem.1 hr
    obtain ⟨hlen, hrows, _⟩ := hown.2.2 kr hkr
    have hi' : i < e.2.2.length := by rw [← hlen]; exact hi
    obtain ⟨k', hk', sk, hsk, hsame⟩ := hrows i e.2.2[i] r (List.getElem?_eq_getElem hi')
      (by rw [List.getElem?_eq_getElem hi, hri])
    rw [reexpr_flat hns (hhdr _ (List.getElem_mem hi')) hs hσ, List.mem_singleton] at hsk
    subst hsk
    cases r with
    | nil => exact absurd rfl hrne
    | cons ap rest =>
      obtain ⟨a, p⟩ := ap
      obtain ⟨rb1, hrb1, hap, hs1⟩ := (otherFold_spec _ (sk, (a, p) :: rest) hk').2 a p (by simp [rowLookup])
      have hne : rb1.binds ≠ [] := by
        intro hnil; rw [hnil] at hap; cases hap
      exact ⟨e.2.2[i], List.getElem_mem hi', rb1, hrb1, hne, sameKey_trans hs1 hsame⟩
  obtain ⟨b1, hb1, rb1, hrb1, hne1, hs1⟩ := hbind
  -- … and the stored key is a bound of some member
  obtain ⟨_, _, iS, bS, kS, rS, hbS, hkS, hkrS⟩ := hown.2.2 kr hkr
  have hbSm : bS ∈ e.2.2 := List.mem_of_getElem? hbS
  rw [reexpr_flat hns (hhdr bS hbSm) hs hσ, List.mem_singleton] at hkrS
  obtain ⟨rbS, hrbS, hkSeq⟩ := (otherFold_spec _ (kS, rS) hkS).1
  simp only at hkSeq
  have hkr1 : kr.1 = (rbS.bounded, rbS.tr) := hkrS.trans hkSeq
  have pairS := (hspec bS (hmemin bS hbSm)).2 b1 (hmemin b1 hb1) ((hhdr bS hbSm).trans (hhdr b1 hb1).symm)
    rbS hrbS rb1 hrb1 (by rw [← hkr1]; exact sameKey_symm hs1) hne1
  refine ⟨by rw [hkr1]; exact pairS.1, fun b hb rb hrb => ?_⟩
  cases hsk : sameKey (rb.bounded, rb.tr) kr.1 with
  | false => rfl
  | true =>
    have pair := (hspec b (hmemin b hb)).2 b1 (hmemin b1 hb1) ((hhdr b hb).trans (hhdr b1 hb1).symm)
      rb hrb rb1 hrb1 (sameKey_trans hsk (sameKey_symm hs1)) hne1
    simp only [Bool.not_true, Bool.false_or, Bool.and_eq_true, beq_iff_eq, Bool.not_eq_true']
    refine ⟨⟨pair.1, ?_⟩, pair.2.2.2⟩
    rw [hkr1]
    exact pair.2.2.1.trans pairS.2.2.1.symm

/-- members of the abstraction, by index -/
theorem familyOfGroup_member {sp : List String} {e : T × ABG × List Blk} {m : Member}
    (hm : m ∈ (familyOfGroup sp e).members) :
    ∃ (i : Nat) (b : Blk) (ps : List (Option T)), e.2.2[i]? = some b ∧ e.2.1.payloads[i]? = some ps ∧
      m = memberOfGroup e.1 b ps := by
  simp only [familyOfGroup, List.mem_map] at hm
  obtain ⟨⟨b, ps⟩, hbp, rfl⟩ := hm
  obtain ⟨i, hi⟩ := List.mem_iff_getElem?.1 hbp
  rw [List.getElem?_zip_eq_some] at hi
  exact ⟨i, b, ps, hi.1, hi.2, rfl⟩

theorem payloads_len {g : ABG} {n : Nat} (hne : g.bounds ≠ []) (hlen : ∀ kr ∈ g.bounds, kr.2.length = n) :
    g.payloads.length = n := by
  unfold ABG.payloads
  split
  · next hb => exact absurd hb hne
  · next first rest hb =>
    simp only [List.length_map, List.length_range]
    exact hlen first (by rw [hb]; simp)

theorem parseGroups_payloads_length {items : List T} {groups : Groups} (h : parseGroups items = .ok groups)
    {e : T × ABG × List Blk} (he : e ∈ groups) : e.2.1.payloads.length = e.2.2.length := by
  obtain ⟨_, _, _, hne, _⟩ := parseGroups_group' h he (rowsAligned_inv _)
  exact payloads_len hne (fun kr hkr => ((parseGroups_rowsOwn h he).2.2 kr hkr).1)

/-- every member block of a family of an accepted grouping is a member of its abstraction -/
theorem familyOfGroup_has_member {items : List T} {groups : Groups} (h : parseGroups items = .ok groups)
    (sp : List String) {e : T × ABG × List Blk} (he : e ∈ groups) {b : Blk} (hb : b ∈ e.2.2) :
    ∃ m ∈ (familyOfGroup sp e).members, m.blk = mkBlock b.item := by
  obtain ⟨i, hi, hbi⟩ := List.mem_iff_getElem.1 hb
  have hi' : i < e.2.1.payloads.length := by rw [parseGroups_payloads_length h he]; exact hi
  refine ⟨memberOfGroup e.1 b e.2.1.payloads[i], ?_, rfl⟩
  simp only [familyOfGroup, List.mem_map]
  refine ⟨(b, e.2.1.payloads[i]), ?_, rfl⟩
  rw [List.mem_iff_getElem?]
  refine ⟨i, ?_⟩
  rw [List.getElem?_zip_eq_some]
  exact ⟨by rw [List.getElem?_eq_getElem hi, hbi], List.getElem?_eq_getElem hi'⟩

/-! ### Every input block is in a bucket; coverage from placement -/

/-- every input block is in some bucket (a textually identical later block replaces the earlier one, but blocks made
    by `mkBlk` with the same text are the same block) -/
theorem mkBuckets_holds_input (items : List T) : ∀ b ∈ items.map mkBlk, ∃ bk ∈ mkBuckets (items.map mkBlk), b ∈ bk.2 := by
  intro b hb
  obtain ⟨bk, hbk, hid⟩ := List.mem_map.1 ((mkBuckets_ids_iff _ _).2 ⟨b, hb, rfl⟩)
  exact ⟨bk, hbk, (mkBuckets_mem_iff (itemDet_mkBlk items) hbk b).2 ⟨hb, hid.symm⟩⟩

theorem input_placed {items : List T} {groups : Groups}
    (hperm : (groups.flatMap (fun e => e.2.2)).Perm ((mkBuckets (items.map mkBlk)).flatMap (fun bk => bk.2)))
    {it : T} (hit : it ∈ items) : ∃ e ∈ groups, mkBlk it ∈ e.2.2 := by
  obtain ⟨bk, hbk, hbbk⟩ := mkBuckets_holds_input items (mkBlk it) (List.mem_map.2 ⟨it, hit, rfl⟩)
  exact List.mem_flatMap.1 (hperm.mem_iff.2 (List.mem_flatMap.2 ⟨bk, hbk, hbbk⟩))

/-- coverage from placement (`hperm`, the conclusion of the partition theorems) and completeness of the members (`hex`;
    the converse is `gen_sub_spec`). The `Sized` parameters of the main impl may depend on the family (`sp e`). -/
theorem coverage_of_complete {items : List T} {groups : Groups} (h : parseGroups items = .ok groups)
    (sp : T × ABG × List Blk → List String)
    (hperm : (groups.flatMap (fun e => e.2.2)).Perm ((mkBuckets (items.map mkBlk)).flatMap (fun bk => bk.2)))
    (W : World) (q : T)
    (hex : ∀ e ∈ groups, ∀ m ∈ (familyOfGroup (sp e) e).members,
      applies W m.blk q → genSel W (familyOfGroup (sp e) e) m q) :
    (∃ e ∈ groups, ∃ m ∈ (familyOfGroup (sp e) e).members, genSel W (familyOfGroup (sp e) e) m q) ↔
    (∃ it ∈ items, applies W (mkBlock (canon it)) q) := by
  constructor
  · rintro ⟨e, he, m, hm, hsel⟩
    have happ := gen_sub_spec W _ m q hsel
    obtain ⟨i, b, ps, hb, _, rfl⟩ := familyOfGroup_member hm
    obtain ⟨it, hit, rfl⟩ := List.mem_map.1 (parseGroups_member_input h he b (List.mem_of_getElem? hb))
    exact ⟨it, hit, happ⟩
  · rintro ⟨it, hit, happ⟩
    obtain ⟨e, he, hbe⟩ := input_placed hperm hit
    obtain ⟨m, hm, hblk⟩ := familyOfGroup_has_member h (sp e) he hbe
    exact ⟨e, he, m, hm, hex e he m hm (by rw [hblk]; exact happ)⟩

/-- coverage from placement: in an accepted grouping in which every bucket block is placed in some family and every
    member satisfies the decidable hypotheses of the refinement, in
    every world in which the dispatch traits define their associated types (`WorldTotal`) and the `Sized` requirements
    are compatible (`SizedCompat`, finding D7), the families implement the trait for a query exactly when one of the
    input blocks applies to it (textually identical blocks — finding D12 — are one block here, so no distinctness
    hypothesis is needed). The direction ⇒ needs none of the hypotheses. -/
theorem coverage_of_placed {items : List T} {groups : Groups} (h : parseGroups items = .ok groups) (sp : List String)
    (hperm : (groups.flatMap (fun e => e.2.2)).Perm ((mkBuckets (items.map mkBlk)).flatMap (fun bk => bk.2)))
    (hmem : ∀ e ∈ groups, ∀ m ∈ (familyOfGroup sp e).members,
      memberOK (familyOfGroup sp e) m = true ∧ thetaCoversB (familyOfGroup sp e) m = true)
    (W : World) (hw : ∀ e ∈ groups, WorldTotal W (familyOfGroup sp e))
    (hsz : ∀ e ∈ groups, ∀ m ∈ (familyOfGroup sp e).members, SizedCompat W (familyOfGroup sp e) m) (q : T) :
    (∃ e ∈ groups, ∃ m ∈ (familyOfGroup sp e).members, genSel W (familyOfGroup sp e) m q) ↔
    (∃ it ∈ items, applies W (mkBlock (canon it)) q) :=
  coverage_of_complete h (fun _ => sp) hperm W q fun e he m hm =>
    spec_sub_gen W _ m q (hmem e he m hm).1 (hw e he) ((thetaCoversB_iff _ m).1 (hmem e he m hm).2) (hsz e he m hm)

/-! ### Executable sufficient check for `applies` (for closed examples) -/

def holdsB (W : World) (ρ : Subst) (c : Clause) : Bool :=
  match W.disp (inst ρ c.tr) (inst ρ c.bounded) with
  | some bs => c.binds.all (fun ap => assoc bs ap.1 == some (inst ρ ap.2))
  | none => false

theorem holds_of_B {W : World} {ρ : Subst} {c : Clause} (h : holdsB W ρ c = true) : holds W ρ c := by
  unfold holdsB at h
  split at h
  · next bs hbs =>
    refine ⟨bs, hbs, fun a p hap => ?_⟩
    rw [List.all_eq_true] at h
    simpa using h (a, p) hap
  · cases h

/-- `ρ` witnesses that block `b` applies to `q` -/
def appliesB (W : World) (ρ : Subst) (b : Block) (q : T) : Bool :=
  wkB ρ b && inst ρ b.hdr == q && b.clauses.all (holdsB W ρ) &&
  b.sizedParams.all (fun p => W.sized (inst ρ (.tparam p)))

theorem applies_of_B {W : World} {ρ : Subst} {b : Block} {q : T} (h : appliesB W ρ b q = true) : applies W b q := by
  unfold appliesB at h
  simp only [Bool.and_eq_true, beq_iff_eq, List.all_eq_true] at h
  exact ⟨ρ, h.1.1.1, h.1.1.2, fun c hc => holds_of_B (h.1.2 c hc), fun p hp => h.2 p hp⟩

/-- the worlds of the closed examples list their dispatch impls as a cascade `if … then some bs else …`: such a world
    is total for a family when every answer of the cascade binds every key name of the family -/
theorem worldTotal_ite {F : Family} {c : T → T → Prop} [∀ tr ty, Decidable (c tr ty)] {bs : List (String × T)}
    {rest : T → T → Option (List (String × T))} {sz : T → Bool}
    (hbs : ∀ k ∈ F.keys, ∃ g, assoc bs k.a = some g) (hrest : WorldTotal ⟨rest, sz⟩ F) :
    WorldTotal ⟨fun tr ty => if c tr ty then some bs else rest tr ty, sz⟩ F := by
  intro k hk tr ty bs' hd
  by_cases hc : c tr ty
  · rw [show World.disp _ tr ty = some bs from if_pos hc] at hd
    cases hd; exact hbs k hk
  · rw [show World.disp _ tr ty = rest tr ty from if_neg hc] at hd
    exact hrest k hk tr ty bs' hd

theorem worldTotal_none {F : Family} {sz : T → Bool} : WorldTotal ⟨fun _ _ => none, sz⟩ F :=
  fun _ _ _ _ _ hd => nomatch hd

/-- "`r` accepts, and the grouping passes the executable check `f`" is decided by evaluating `r`: on a closed input
    the whole statement is one evaluation -/
instance ParseResult.decOkAnd (r : ParseResult) (f : Groups → Bool) : Decidable (∃ gs, r = .ok gs ∧ f gs = true) :=
  match r with
  | .ok gs => decidable_of_iff (f gs = true) ⟨fun h => ⟨gs, rfl, h⟩, fun ⟨_, e, h⟩ => by cases e; exact h⟩
  | .unableToForm _ => isFalse (fun ⟨_, e, _⟩ => by cases e)
  | .panic _ => isFalse (fun ⟨_, e, _⟩ => by cases e)

end DI

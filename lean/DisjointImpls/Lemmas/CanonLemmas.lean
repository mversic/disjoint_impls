/-
  Helper lemmas for the C13 theorems (`Props/C13.lean`) over the model of parameter canonicalisation
  (`Canon.lean`): every indexer traversal is a composition of primitive steps (`IxRel`), the invariants of
  the indexer, and the resolver. Proof file (imports `Lemmas/Names.lean`, which imports Std).
-/
import DisjointImpls.CanonWF
import DisjointImpls.Lemmas.MatchSound
import DisjointImpls.Lemmas.Names
namespace DI

/-! ### Look-up tables -/

theorem rlookup_some_mem : ∀ {m : List (String × String)} {x v : String}, rlookup m x = some v → (x, v) ∈ m
  | [], _, _, h => by cases h
  | (a, b) :: m, x, v, h => by
      simp only [rlookup] at h
      split at h
      · next e => cases h; subst e; exact List.mem_cons_self
      · exact List.mem_cons_of_mem _ (rlookup_some_mem h)

theorem rlookup_eq_none_iff : ∀ {m : List (String × String)} {x : String}, rlookup m x = none ↔ x ∉ m.map Prod.fst
  | [], _ => by simp [rlookup]
  | (a, b) :: m, x => by
      rw [rlookup, List.map_cons, List.mem_cons, not_or]
      by_cases e : a = x
      · simp [e]
      · rw [if_neg e, rlookup_eq_none_iff (m := m)]
        exact ⟨fun h => ⟨fun e' => e e'.symm, h⟩, fun h => h.2⟩

theorem rlookup_of_mem_nodup : ∀ {m : List (String × String)} {x v : String}, (m.map Prod.fst).Nodup → (x, v) ∈ m →
    rlookup m x = some v
  | [], _, _, _, h => by cases h
  | (a, b) :: m, x, v, hn, h => by
      simp only [List.map_cons, List.nodup_cons] at hn
      simp only [rlookup]
      rcases List.mem_cons.1 h with e | h'
      · cases e; simp
      · split
        · next e =>
          subst e
          exact absurd (List.mem_map.2 ⟨(a, v), h', rfl⟩) hn.1
        · exact rlookup_of_mem_nodup hn.2 h'

theorem rlookup_append_some {m l : List (String × String)} {x v : String} (h : rlookup m x = some v) :
    rlookup (m ++ l) x = some v := by
  induction m with
  | nil => cases h
  | cons p m ih =>
    obtain ⟨a, b⟩ := p
    simp only [List.cons_append, rlookup] at h ⊢
    split
    · next e => rw [if_pos e] at h; exact h
    · next e => rw [if_neg e] at h; exact ih h

theorem rlookup_mapSnd (f : String → String) (x : String) : ∀ m : List (String × String),
    rlookup (m.map (fun p => (p.1, f p.2))) x = (rlookup m x).map f
  | [] => rfl
  | (a, b) :: m => by
      simp only [List.map_cons, rlookup]
      split
      · rfl
      · exact rlookup_mapSnd f x m

theorem rn_of_some {m : List (String × String)} {x v : String} (h : rlookup m x = some v) : rn m x = v := by
  unfold rn; rw [h]; rfl
theorem rn_of_none {m : List (String × String)} {x : String} (h : rlookup m x = none) : rn m x = x := by
  unfold rn; rw [h]; rfl

/-! ### Every traversal of the indexer is a composition of primitive steps -/


/-- a relation between indexer states that every primitive step satisfies and that composes -/
structure IxRel (R : IxState → IxState → Prop) : Prop where
  refl : ∀ s, R s s
  trans : ∀ {s1 s2 s3}, R s1 s2 → R s2 s3 → R s1 s3
  lt : ∀ s x, R s (ltIdent s x)
  ty : ∀ s x, R s (tyIdent s x).1
  co : ∀ s x, R s (coIdent s x)

/-! ### The primitive steps, by the kind of the parameter -/

inductive PK | lt | ty | co
  deriving DecidableEq

def IxState.un (s : IxState) : PK → List String
  | .lt => s.unLt | .ty => s.unTy | .co => s.unCo

def IxState.ix (s : IxState) : PK → List (String × Nat)
  | .lt => s.ixLt | .ty => s.ixTy | .co => s.ixCo

theorem IxState.ext_un_ix {s s' : IxState} (hu : ∀ k, s.un k = s'.un k) (hi : ∀ k, s.ix k = s'.ix k)
    (hn : s.next = s'.next) : s = s' := by
  cases s
  cases s'
  rw [IxState.mk.injEq]
  exact ⟨hu .lt, hu .ty, hu .co, hi .lt, hi .ty, hi .co, hn⟩

/-- a primitive step of the indexer, by the kind of the parameter -/
def stepK (k : PK) (s : IxState) (x : String) : IxState :=
  match k with
  | .lt => ltIdent s x
  | .ty => (tyIdent s x).1
  | .co => coIdent s x

/-- a waiting name is taken off its list and gets the next index; the other kinds are not touched -/
theorem stepK_hit {k : PK} {s : IxState} {x : String} (h : x ∈ s.un k) :
    (∀ k', (stepK k s x).un k' = if k' = k then (s.un k).erase x else s.un k') ∧
    (∀ k', (stepK k s x).ix k' = if k' = k then s.ix k ++ [(x, s.next)] else s.ix k') ∧
    (stepK k s x).next = s.next + 1 := by
  have hc : (s.un k).contains x = true := List.contains_iff_mem.2 h
  cases k
  · have e : stepK .lt s x = { s with unLt := s.unLt.erase x, ixLt := s.ixLt ++ [(x, s.next)], next := s.next + 1 } :=
      if_pos hc
    rw [e]
    exact ⟨fun k' => by cases k' <;> rfl, fun k' => by cases k' <;> rfl, rfl⟩
  · have e : stepK .ty s x = { s with unTy := s.unTy.erase x, ixTy := s.ixTy ++ [(x, s.next)], next := s.next + 1 } :=
      congrArg Prod.fst (if_pos hc)
    rw [e]
    exact ⟨fun k' => by cases k' <;> rfl, fun k' => by cases k' <;> rfl, rfl⟩
  · have e : stepK .co s x = { s with unCo := s.unCo.erase x, ixCo := s.ixCo ++ [(x, s.next)], next := s.next + 1 } :=
      if_pos hc
    rw [e]
    exact ⟨fun k' => by cases k' <;> rfl, fun k' => by cases k' <;> rfl, rfl⟩

theorem stepK_miss {k : PK} {s : IxState} {x : String} (h : x ∉ s.un k) : stepK k s x = s := by
  have hc : ¬ (s.un k).contains x = true := mt List.contains_iff_mem.1 h
  cases k
  · exact if_neg hc
  · exact congrArg Prod.fst (if_neg hc)
  · exact if_neg hc

/-- hit or miss, only the waiting list of the step's own kind changes -/
theorem stepK_un (k : PK) (s : IxState) (x : String) (k' : PK) :
    (stepK k s x).un k' = if k' = k then (s.un k).erase x else s.un k' := by
  by_cases h : x ∈ s.un k
  · exact (stepK_hit h).1 k'
  · rw [stepK_miss h, List.erase_of_not_mem h]
    split
    · next e => rw [e]
    · rfl

/-- an expression path's name is indexed as a type parameter if it is waiting as one, else as a const parameter -/
theorem exIdent_of_mem {s : IxState} {x : String} (h : x ∈ s.unTy) : exIdent s x = stepK .ty s x := by
  simp [exIdent, stepK, tyIdent, h]
theorem exIdent_of_not_mem {s : IxState} {x : String} (h : x ∉ s.unTy) : exIdent s x = stepK .co s x := by
  simp [exIdent, stepK, tyIdent, h]

theorem IxRel.ex {R} (h : IxRel R) (s : IxState) (x : String) : R s (exIdent s x) := by
  by_cases m : x ∈ s.unTy
  · rw [exIdent_of_mem m]; exact h.ty s x
  · rw [exIdent_of_not_mem m]; exact h.co s x

/-- a relation that every hitting step satisfies holds along every traversal -/
theorem IxRel.of_step {R : IxState → IxState → Prop} (refl : ∀ s, R s s)
    (trans : ∀ {s1 s2 s3}, R s1 s2 → R s2 s3 → R s1 s3)
    (step : ∀ k s x, x ∈ s.un k → R s (stepK k s x)) : IxRel R :=
  have all : ∀ k s x, R s (stepK k s x) := fun k s x => by
    by_cases h : x ∈ s.un k
    · exact step k s x h
    · rw [stepK_miss h]; exact refl s
  ⟨refl, trans, all .lt, all .ty, all .co⟩

theorem ixL_rel {R} (h : IxRel R) : ∀ (ks : List T), (∀ t ∈ ks, ∀ s, R s (ixT s t)) → ∀ s, R s (ixL s ks)
  | [], _, s => by rw [ixL]; exact h.refl s
  | t :: ts, ih, s => by
      rw [ixL]
      exact h.trans (ih t (by simp) s) (ixL_rel h ts (fun t ht => ih t (List.mem_cons_of_mem _ ht)) _)

theorem ixT_rel {R} (h : IxRel R) : ∀ (t : T) (s : IxState), R s (ixT s t) := by
  apply T.ind
  · intro n s; rw [ixT]; exact h.ty s n
  · intro n s; rw [ixT]; exact h.ex s n
  · intro k as ks ih s
    unfold ixT
    split
    · next heq => cases heq
    · next heq => cases heq
    · exact h.refl s
    · exact h.refl s
    · exact h.refl s
    · exact h.lt s _
    · next qself path heq =>
      cases heq
      dsimp only
      refine h.trans (ih qself (by simp) s) (h.trans ?_ (ih path (by simp) _))
      split
      · exact h.ty _ _
      · exact h.refl _
    · next att qself path heq =>
      cases heq
      dsimp only
      refine h.trans (ih qself (by simp) s) (h.trans ?_ (ih path (by simp) _))
      split
      · exact h.ex _ _
      · exact h.refl _
    · next heq =>
      cases heq
      exact ixL_rel h ks ih s

theorem foldl_rel {R} (h : IxRel R) {α : Type} (f : IxState → α → IxState) (hf : ∀ s a, R s (f s a)) :
    ∀ (l : List α) (s : IxState), R s (l.foldl f s)
  | [], s => h.refl s
  | a :: l, s => h.trans (hf s a) (foldl_rel h f hf l _)

theorem ixRound_rel {R} (h : IxRel R) (s : IxState) (generics : T) : R s (ixRound s generics) := by
  have key : ∀ (l : List (Nat × T)) (s : IxState), R s (l.foldl (fun acc ip => match ip.2 with
      | .node _ [] [inner] => (match inner with
          | .node _ [] kids => ixL acc kids
          | _ => acc)
      | _ => acc) s) := by
    intro l s
    apply foldl_rel h
    intro acc ip
    split
    · split
      · exact ixL_rel h _ (fun t _ => ixT_rel h t) acc
      · exact h.refl acc
    · exact h.refl acc
  unfold ixRound
  dsimp only
  split
  · exact h.trans (key _ s) (ixT_rel h _ _)
  · exact key _ s

theorem ixLoop_rel {R} (h : IxRel R) : ∀ (fuel prev : Nat) (s : IxState) (generics : T),
    R s (ixLoop fuel prev s generics)
  | 0, _, s, _ => by rw [ixLoop]; exact h.refl s
  | fuel + 1, prev, s, generics => by
      rw [ixLoop]
      split
      · exact h.trans (ixRound_rel h s generics) (ixLoop_rel h fuel _ _ generics)
      · exact h.refl s

/-- the state the indexer starts from -/
def ixInit (item : T) : IxState :=
  let generics := (implGenerics item).getD (.node "?" [] [])
  ⟨kindNames generics "GenericParam::Lifetime", kindNames generics "GenericParam::Type",
   kindNames generics "GenericParam::Const", [], [], [], 0⟩

/-- the indexer runs over the item from the start state, then through the rounds -/
theorem indexImpl_eq (item : T) : indexImpl item =
    ixLoop ((ixT (ixInit item) item).unindexed + 2) ((ixT (ixInit item) item).unindexed + 1) (ixT (ixInit item) item)
      ((implGenerics item).getD (.node "?" [] [])) := rfl

theorem indexImpl_rel {R} (h : IxRel R) (item : T) : R (ixInit item) (indexImpl item) :=
  h.trans (ixT_rel h item _) (ixLoop_rel h _ _ _ _)


/-! ### Invariants of the indexer -/

def IxState.idxs (s : IxState) : List Nat := s.ixLt.map Prod.snd ++ s.ixTy.map Prod.snd ++ s.ixCo.map Prod.snd
def IxState.namesLt (s : IxState) : List String := s.ixLt.map Prod.fst ++ s.unLt
def IxState.namesTy (s : IxState) : List String := s.ixTy.map Prod.fst ++ s.unTy
def IxState.namesCo (s : IxState) : List String := s.ixCo.map Prod.fst ++ s.unCo

/-- the indices handed out are exactly `0 … next-1`, each once, across the three kinds -/
def IdxInv (s : IxState) : Prop :=
  s.idxs.Nodup ∧ (∀ i, i ∈ s.idxs ↔ i < s.next) ∧ s.idxs.length = s.next

/-- invariant of the indexer: `IdxInv`, and per kind no name occurs twice among the indexed and the not yet
    indexed parameters (so a name is never both, and never indexed twice) -/
def IxInv (s : IxState) : Prop :=
  IdxInv s ∧ s.namesLt.Nodup ∧ s.namesTy.Nodup ∧ s.namesCo.Nodup

/-- the parameters of each kind stay the same, indexed or not -/
def SameNames (s s' : IxState) : Prop :=
  s'.namesLt.Perm s.namesLt ∧ s'.namesTy.Perm s.namesTy ∧ s'.namesCo.Perm s.namesCo

theorem names_step (ix : List (String × Nat)) (un : List String) (x : String) (n : Nat) (hx : x ∈ un) :
    ((ix ++ [(x, n)]).map Prod.fst ++ un.erase x).Perm (ix.map Prod.fst ++ un) := by
  simp only [List.map_append, List.map_cons, List.map_nil, List.append_assoc, List.singleton_append]
  exact List.Perm.append_left _ (List.perm_cons_erase hx).symm

theorem sameNames_rel : IxRel SameNames :=
  .of_step (fun _ => ⟨.refl _, .refl _, .refl _⟩)
    (fun h1 h2 => ⟨h2.1.trans h1.1, h2.2.1.trans h1.2.1, h2.2.2.trans h1.2.2⟩) fun k s x hx => by
    obtain ⟨hu, hi, _⟩ := stepK_hit hx
    have key : ∀ k', (((stepK k s x).ix k').map Prod.fst ++ (stepK k s x).un k').Perm ((s.ix k').map Prod.fst ++ s.un k') := by
      intro k'
      rw [hu, hi]
      split
      · next e => subst e; exact names_step _ _ _ _ hx
      · exact .refl _
    exact ⟨key .lt, key .ty, key .co⟩

theorem IdxInv.step {s s' : IxState} (h : IdxInv s) (hp : s'.idxs.Perm (s.next :: s.idxs))
    (hn : s'.next = s.next + 1) : IdxInv s' := by
  obtain ⟨h1, h2, h3⟩ := h
  refine ⟨hp.nodup_iff.2 (List.nodup_cons.2 ⟨fun hm => Nat.lt_irrefl _ ((h2 _).1 hm), h1⟩), ?_, ?_⟩
  · intro i
    rw [hp.mem_iff, List.mem_cons, h2, hn]
    omega
  · rw [hp.length_eq, List.length_cons, h3, hn]

theorem idxInv_rel : IxRel (fun s s' => IdxInv s → IdxInv s') :=
  .of_step (fun _ h => h) (fun h1 h2 h => h2 (h1 h)) fun k s x hx h => by
    obtain ⟨_, hi, hn⟩ := stepK_hit hx
    refine h.step ?_ hn
    have e : ∀ s : IxState, s.idxs = (s.ix .lt).map Prod.snd ++ (s.ix .ty).map Prod.snd ++ (s.ix .co).map Prod.snd :=
      fun _ => rfl
    rw [e, e, hi, hi, hi]
    cases k
    · simp only [if_true, reduceCtorEq, if_false, List.map_append, List.map_cons, List.map_nil]
      exact perm_ins1 _ _ _ _
    · simp only [if_true, reduceCtorEq, if_false, List.map_append, List.map_cons, List.map_nil]
      exact perm_ins2 _ _ _ _
    · simp only [if_true, reduceCtorEq, if_false, List.map_append, List.map_cons, List.map_nil]
      exact perm_ins3 _ _ _ _

/-- `IxInv` is preserved by everything the indexer does -/
theorem ixInv_rel : IxRel (fun s s' => IxInv s → IxInv s') :=
  have both : ∀ {s s'}, (IdxInv s → IdxInv s') → SameNames s s' → IxInv s → IxInv s' := fun hi hs h =>
    ⟨hi h.1, hs.1.nodup_iff.2 h.2.1, hs.2.1.nodup_iff.2 h.2.2.1, hs.2.2.nodup_iff.2 h.2.2.2⟩
  ⟨fun _ h => h, fun h1 h2 h => h2 (h1 h), fun s x => both (idxInv_rel.lt s x) (sameNames_rel.lt s x),
    fun s x => both (idxInv_rel.ty s x) (sameNames_rel.ty s x), fun s x => both (idxInv_rel.co s x) (sameNames_rel.co s x)⟩


/-! ### The resolver -/

theorem rsT_tparam (r : Renaming) (n : String) : rsT r (.tparam n) = .tparam ((rlookup r.ty n).getD n) := by
  rw [rsT]; cases rlookup r.ty n <;> rfl

theorem rsT_eparam (r : Renaming) (n : String) :
    rsT r (.eparam n) = .eparam (((rlookup r.ty n).or (rlookup r.co n)).getD n) := by
  rw [rsT]
  cases rlookup r.ty n with
  | some m => rfl
  | none => cases rlookup r.co n <;> rfl

theorem rsT_ign (r : Renaming) (as : List String) (ks : List T) : rsT r (.node "Ign" as ks) = .node "Ign" as ks := by
  rw [rsT]
theorem rsT_eq (r : Renaming) (as : List String) (ks : List T) : rsT r (.node "Eq" as ks) = .node "Eq" as ks := by
  rw [rsT]
theorem rsT_lifetime (r : Renaming) (as : List String) (x : String) :
    rsT r (.node "Lifetime" as [.node "Ident" [x] []]) = .node "Lifetime" as [.node "Ident" [(rlookup r.lt x).getD x] []] := by
  rw [rsT]
theorem rsT_typePath (r : Renaming) (as : List String) (q p : T) :
    rsT r (.node "Type::Path" as [q, p]) = rsTypePath r as (rsT r q) (rsT r p) := by
  rw [rsT]
theorem rsT_exprPath (r : Renaming) (as : List String) (a q p : T) :
    rsT r (.node "Expr::Path" as [a, q, p]) = rsExprPath r as (rsT r a) (rsT r q) (rsT r p) := by
  rw [rsT]

theorem rsL_nil (r : Renaming) : rsL r [] = [] := by rw [rsL]
theorem rsL_cons (r : Renaming) (t : T) (ts : List T) : rsL r (t :: ts) = rsT r t :: rsL r ts := by rw [rsL]

theorem rsL_map (r : Renaming) : ∀ l : List T, rsL r l = l.map (rsT r)
  | [] => rsL_nil r
  | t :: ts => by rw [rsL_cons, rsL_map r ts]; rfl

/-- a node the resolver (and every traversal with its case distinction) treats by the default arm -/
def NodeOther (k : String) (ks : List T) : Prop :=
  k ≠ "Ign" ∧ k ≠ "Eq" ∧ (∀ x, ¬ (k = "Lifetime" ∧ ks = [.node "Ident" [x] []])) ∧
  (∀ q p, ¬ (k = "Type::Path" ∧ ks = [q, p])) ∧ (∀ a q p, ¬ (k = "Expr::Path" ∧ ks = [a, q, p]))

/-- the kind is none of the five special ones (for a concrete kind: `by simp`) -/
@[simp] abbrev Oth5 (k : String) : Prop := k ≠ "Ign" ∧ k ≠ "Eq" ∧ k ≠ "Lifetime" ∧ k ≠ "Type::Path" ∧ k ≠ "Expr::Path"

theorem nodeOther_of5 {k : String} (ks : List T) (h : Oth5 k) : NodeOther k ks :=
  ⟨h.1, h.2.1, fun _ e => h.2.2.1 e.1, fun _ _ e => h.2.2.2.1 e.1, fun _ _ _ e => h.2.2.2.2 e.1⟩

/-- `NodeOther` in the form in which the default arm of a traversal's definition asks for it -/
theorem NodeOther.arm {k : String} {ks : List T} (h : NodeOther k ks) {p : Prop}
    (eq : (k = "Ign" → False) → (k = "Eq" → False) → (∀ x, k = "Lifetime" → ks = [T.node "Ident" [x] []] → False) →
      (∀ q p, k = "Type::Path" → ks = [q, p] → False) → (∀ a q p, k = "Expr::Path" → ks = [a, q, p] → False) → p) : p :=
  eq h.1 h.2.1 (fun x e1 e2 => h.2.2.1 x ⟨e1, e2⟩) (fun q p e1 e2 => h.2.2.2.1 q p ⟨e1, e2⟩)
    (fun a q p e1 e2 => h.2.2.2.2 a q p ⟨e1, e2⟩)

theorem node_shape (k : String) (ks : List T) :
    (k = "Ign" ∨ k = "Eq") ∨ (∃ x, k = "Lifetime" ∧ ks = [.node "Ident" [x] []]) ∨
    (∃ q p, k = "Type::Path" ∧ ks = [q, p]) ∨ (∃ a q p, k = "Expr::Path" ∧ ks = [a, q, p]) ∨ NodeOther k ks := by
  by_cases h1 : k = "Ign" ∨ k = "Eq"
  · exact Or.inl h1
  by_cases h2 : ∃ x, k = "Lifetime" ∧ ks = [.node "Ident" [x] []]
  · exact Or.inr (Or.inl h2)
  by_cases h3 : ∃ q p, k = "Type::Path" ∧ ks = [q, p]
  · exact Or.inr (Or.inr (Or.inl h3))
  by_cases h4 : ∃ a q p, k = "Expr::Path" ∧ ks = [a, q, p]
  · exact Or.inr (Or.inr (Or.inr (Or.inl h4)))
  refine Or.inr (Or.inr (Or.inr (Or.inr ⟨fun e => h1 (Or.inl e), fun e => h1 (Or.inr e), ?_, ?_, ?_⟩)))
  · exact fun x hx => h2 ⟨x, hx⟩
  · exact fun q p hx => h3 ⟨q, p, hx⟩
  · exact fun a q p hx => h4 ⟨a, q, p, hx⟩

/-- induction over a tree along the case distinction of the resolver (and of every traversal that shares it) -/
theorem T.shapeInd {P : T → Prop} (tparam : ∀ n, P (.tparam n)) (eparam : ∀ n, P (.eparam n))
    (ign : ∀ as ks, P (.node "Ign" as ks)) (eq : ∀ as ks, P (.node "Eq" as ks))
    (lifetime : ∀ as x, P (.node "Lifetime" as [.node "Ident" [x] []]))
    (typePath : ∀ as q p, P q → P p → P (.node "Type::Path" as [q, p]))
    (exprPath : ∀ as a q p, P a → P q → P p → P (.node "Expr::Path" as [a, q, p]))
    (other : ∀ k as ks, NodeOther k ks → (∀ t ∈ ks, P t) → P (.node k as ks)) : ∀ t, P t := by
  apply T.ind tparam eparam
  intro k as ks ih
  rcases node_shape k ks with h | ⟨x, rfl, rfl⟩ | ⟨q, p, rfl, rfl⟩ | ⟨a, q, p, rfl, rfl⟩ | h
  · rcases h with rfl | rfl
    · exact ign as ks
    · exact eq as ks
  · exact lifetime as x
  · exact typePath as q p (ih q (by simp)) (ih p (by simp))
  · exact exprPath as a q p (ih a (by simp)) (ih q (by simp)) (ih p (by simp))
  · exact other k as ks h ih

/-- every other kind is rebuilt around its rewritten children -/
theorem rsT_of_other (r : Renaming) {k : String} (as : List String) {ks : List T} (h : NodeOther k ks) :
    rsT r (.node k as ks) = .node k as (rsL r ks) :=
  h.arm (rsT.eq_8 r k as ks)

theorem rsT_other (r : Renaming) {k : String} (as : List String) (ks : List T) (h : Oth5 k) :
    rsT r (.node k as ks) = .node k as (rsL r ks) :=
  rsT_of_other r as (nodeOther_of5 ks h)

theorem rsL_eq_self {r : Renaming} {ks : List T} (h : ∀ t ∈ ks, rsT r t = t) : rsL r ks = ks := by
  rw [rsL_map, List.map_congr_left h, List.map_id']

theorem rlookup_nil (x : String) : rlookup [] x = none := rfl

theorem rsTypePath_unrenamed {r : Renaming} {as : List String} {q p : T}
    (h : ∀ x, firstSegIdent p = some x → rlookup r.ty x = none) : rsTypePath r as q p = .node "Type::Path" as [q, p] := by
  unfold rsTypePath
  cases hf : firstSegIdent p with
  | none => rfl
  | some x => simp only [h x hf]

theorem rsExprPath_unrenamed {r : Renaming} {as : List String} {a q p : T}
    (h : ∀ x, firstSegIdent p = some x → rlookup r.ty x = none ∧ rlookup r.co x = none) :
    rsExprPath r as a q p = .node "Expr::Path" as [a, q, p] := by
  unfold rsExprPath
  cases hf : firstSegIdent p with
  | none => rfl
  | some x => simp only [(h x hf).1, (h x hf).2]

/-- with the empty renaming nothing changes -/
theorem rsT_empty (t : T) : rsT ⟨[], [], []⟩ t = t := by
  induction t using T.shapeInd with
  | tparam n => rw [rsT_tparam]; rfl
  | eparam n => rw [rsT_eparam]; rfl
  | ign as ks => exact rsT_ign _ as ks
  | eq as ks => exact rsT_eq _ as ks
  | lifetime as x => rw [rsT_lifetime]; rfl
  | typePath as q p ihq ihp =>
    rw [rsT_typePath, ihq, ihp, rsTypePath_unrenamed fun _ _ => rfl]
  | exprPath as a q p iha ihq ihp =>
    rw [rsT_exprPath, iha, ihq, ihp, rsExprPath_unrenamed fun _ _ => ⟨rfl, rfl⟩]
  | other k as ks h ih => rw [rsT_of_other _ as h, rsL_eq_self ih]


/-! ### Identity renamings -/

/-- every entry maps a name to itself -/
def idMap (m : List (String × String)) : Bool := m.all (fun p => p.1 == p.2)
def Renaming.isId (r : Renaming) : Bool := idMap r.lt && idMap r.ty && idMap r.co

theorem rlookup_idMap : ∀ {m : List (String × String)} {x y : String}, idMap m = true → rlookup m x = some y → y = x
  | [], _, _, _, h => by cases h
  | (a, b) :: m, x, y, hid, h => by
      simp only [idMap, List.all_cons, Bool.and_eq_true, beq_iff_eq] at hid
      simp only [rlookup] at h
      split at h
      · next hax => cases h; rw [← hid.1, hax]
      · exact rlookup_idMap (by simpa [idMap] using hid.2) h

theorem getD_idMap {m : List (String × String)} (h : idMap m = true) (x : String) : (rlookup m x).getD x = x := by
  cases hl : rlookup m x with
  | none => rfl
  | some y => simp [rlookup_idMap h hl]

theorem rn_idMap {m : List (String × String)} (h : idMap m = true) (x : String) : rn m x = x := getD_idMap h x

mutual
/-- no path whose first segment is a renamed name (those are rebuilt by the resolver, even by an identity
    renaming: `T::A` becomes `<T>::A`) -/
def rsStable (r : Renaming) : T → Bool
  | .tparam _ => true
  | .eparam _ => true
  | .node "Ign" _ _ => true
  | .node "Eq" _ _ => true
  | .node "Lifetime" _ [.node "Ident" [_] []] => true
  | .node "Type::Path" _ [qself, path] =>
      rsStable r qself && rsStable r path &&
      (match firstSegIdent path with | some x => (rlookup r.ty x).isNone | none => true)
  | .node "Expr::Path" _ [att, qself, path] =>
      rsStable r att && rsStable r qself && rsStable r path &&
      (match firstSegIdent path with | some x => (rlookup r.ty x).isNone && (rlookup r.co x).isNone | none => true)
  | .node _ _ ks => rsStableL r ks
def rsStableL (r : Renaming) : List T → Bool
  | [] => true
  | t :: ts => rsStable r t && rsStableL r ts
end

theorem rsStableL_all (r : Renaming) : ∀ ks : List T, rsStableL r ks = ks.all (rsStable r)
  | [] => by rw [rsStableL]; rfl
  | t :: ts => by rw [rsStableL, List.all_cons, rsStableL_all r ts]

theorem rsStable_of_other (r : Renaming) {k : String} (as : List String) {ks : List T} (h : NodeOther k ks) :
    rsStable r (.node k as ks) = rsStableL r ks :=
  h.arm (rsStable.eq_8 r k as ks)

theorem rsStable_typePath_iff (r : Renaming) (as : List String) (q p : T) :
    rsStable r (.node "Type::Path" as [q, p]) = true ↔ rsStable r q = true ∧ rsStable r p = true ∧
      ∀ x, firstSegIdent p = some x → rlookup r.ty x = none := by
  rw [rsStable]
  cases firstSegIdent p <;> simp [and_assoc]

theorem rsStable_exprPath_iff (r : Renaming) (as : List String) (a q p : T) :
    rsStable r (.node "Expr::Path" as [a, q, p]) = true ↔ rsStable r a = true ∧ rsStable r q = true ∧ rsStable r p = true ∧
      ∀ x, firstSegIdent p = some x → rlookup r.ty x = none ∧ rlookup r.co x = none := by
  rw [rsStable]
  cases firstSegIdent p <;> simp [and_assoc]

/-- an identity renaming leaves a tree without renamed path heads unchanged -/
theorem rsT_id (r : Renaming) (hid : r.isId = true) (t : T) : rsStable r t = true → rsT r t = t := by
  simp only [Renaming.isId, Bool.and_eq_true] at hid
  obtain ⟨⟨hlt, hty⟩, hco⟩ := hid
  induction t using T.shapeInd with
  | tparam n => intro _; rw [rsT_tparam, getD_idMap hty]
  | eparam n =>
    intro _
    rw [rsT_eparam]
    cases h1 : rlookup r.ty n with
    | some y => simp [rlookup_idMap hty h1]
    | none =>
      cases h2 : rlookup r.co n with
      | some y => simp [rlookup_idMap hco h2]
      | none => rfl
  | ign as ks => exact fun _ => rsT_ign r as ks
  | eq as ks => exact fun _ => rsT_eq r as ks
  | lifetime as x => intro _; rw [rsT_lifetime, getD_idMap hlt]
  | typePath as q p ihq ihp =>
    intro hst
    obtain ⟨hq, hp, hf⟩ := (rsStable_typePath_iff r as q p).1 hst
    rw [rsT_typePath, ihq hq, ihp hp, rsTypePath_unrenamed hf]
  | exprPath as a q p iha ihq ihp =>
    intro hst
    obtain ⟨ha, hq, hp, hf⟩ := (rsStable_exprPath_iff r as a q p).1 hst
    rw [rsT_exprPath, iha ha, ihq hq, ihp hp, rsExprPath_unrenamed hf]
  | other k as ks h ih =>
    intro hst
    rw [rsStable_of_other r as h, rsStableL_all, List.all_eq_true] at hst
    rw [rsT_of_other r as h, rsL_eq_self (fun t ht => ih t ht (hst t ht))]


theorem renameDecl_id (r : Renaming) (hid : r.isId = true) (t : T) : renameDecl r t = t := by
  simp only [Renaming.isId, Bool.and_eq_true] at hid
  unfold renameDecl
  split
  · rw [getD_idMap hid.1.2]
  · rw [getD_idMap hid.2]
  · rfl

theorem renameImplDecls_id (r : Renaming) (hid : r.isId = true) (t : T) : renameImplDecls r t = t := by
  unfold renameImplDecls
  split
  · next a d u g tr s items =>
    have : renameGenerics r g = g := by
      unfold renameGenerics
      split
      · next lt ps gt wc =>
        have : ps.map (renameDecl r) = ps := by
          rw [List.map_congr_left (g := id) (fun p _ => renameDecl_id r hid p), List.map_id]
        rw [this]
      · rfl
    rw [this]
  · rfl

/-- the declared names are already the canonical ones, in first-occurrence order, and no path starts with one
    of them (executable) -/
def alreadyCanonical (item : T) : Bool :=
  (indexImpl item).renaming.isId && rsStable (indexImpl item).renaming item

theorem canon_fixed (item : T) (h : alreadyCanonical item = true) : canon item = item := by
  simp only [alreadyCanonical, Bool.and_eq_true] at h
  unfold canon
  simp only
  rw [renameImplDecls_id _ h.1, rsT_id _ h.1 _ h.2]

/-! ### What the indexer establishes for an impl -/

theorem ixInit_idxInv (item : T) : IdxInv (ixInit item) := by
  refine ⟨?_, ?_, ?_⟩
  · simp [IxState.idxs, ixInit]
  · intro i; simp [IxState.idxs, ixInit]
  · simp [IxState.idxs, ixInit]

theorem ixInit_inv (item : T)
    (hlt : (ixInit item).unLt.Nodup) (hty : (ixInit item).unTy.Nodup) (hco : (ixInit item).unCo.Nodup) :
    IxInv (ixInit item) := by
  refine ⟨ixInit_idxInv item, ?_, ?_, ?_⟩
  · simpa [IxState.namesLt, ixInit] using hlt
  · simpa [IxState.namesTy, ixInit] using hty
  · simpa [IxState.namesCo, ixInit] using hco

theorem indexImpl_inv (item : T)
    (hlt : (ixInit item).unLt.Nodup) (hty : (ixInit item).unTy.Nodup) (hco : (ixInit item).unCo.Nodup) :
    IxInv (indexImpl item) :=
  indexImpl_rel ixInv_rel item (ixInit_inv item hlt hty hco)

/-- the index part needs no hypothesis -/
theorem indexImpl_idxInv (item : T) : IdxInv (indexImpl item) :=
  indexImpl_rel idxInv_rel item (ixInit_idxInv item)

theorem renaming_new_names (s : IxState) :
    (s.renaming.lt ++ s.renaming.ty ++ s.renaming.co).map Prod.snd = s.idxs.map genIndexedIdent := by
  simp [IxState.renaming, IxState.idxs, List.map_map, Function.comp_def]

theorem genIndexedIdent_inj {i j : Nat} (h : genIndexedIdent i = genIndexedIdent j) : i = j := by
  unfold genIndexedIdent at h
  exact toString_nat_inj ((String.append_right_inj _).1 h)

end DI

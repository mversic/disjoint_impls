/-
  The `?Sized` set computed by the grouping search (`ABG.unsized`, Group.lean: `ABG.new`, `ABG.intersection`) and the
  hypothesis `SizedCompat` of the refinement theorems (C15, C02).

  Part A — the search invariant `UnsizedInv_uz`: what `abg.unsized` is for every group of every search candidate.
  Part B — the main impl's `Sized` parameters (`mainSizedParams_uz`), soundness of `sizedCompatB`, and `sizedCompatB`
           for the flat (un-nested) families the model computes.
  Part C — the unsized sets and the `?` modifiers play no role in acceptance (`withUnsized_uz`, `stripMaybe_uz`).
-/
import DisjointImpls.Lemmas.EndToEndNested
namespace DI

/-! ## Part A — the invariant of the search -/

/-- the bounded types of the keys of a bounds group (`params` of lib.rs:462-466) -/
def keyTypes_uz (g : ABG) : List T := g.bounds.map (fun e => e.1.1)

/-- some member of the family relaxed `Sized` on the bounded type `p` (by spelling) -/
def relaxedBy_uz (ms : List Blk) (p : T) : Prop := ∃ b ∈ ms, p ∈ b.unsized

/-- what the search keeps in `unsized`:
    * the family is not empty;
    * a family with one member is `ABG.new` of that member (so its `unsized` is the member's own set, whole);
    * a family with two or more members: `p` is in `unsized` iff some member relaxed `p` and `p` is the bounded type of
      one of the CURRENT keys of the group (the keys as they are after the last member joined — before pruning). -/
def UnsizedInv_uz (e : T × ABG × List Blk) : Prop :=
  e.2.2 ≠ [] ∧
  (∀ b, e.2.2 = [b] → e.2.1 = ABG.new b) ∧
  (2 ≤ e.2.2.length → ∀ p, p ∈ e.2.1.unsized ↔ relaxedBy_uz e.2.2 p ∧ p ∈ keyTypes_uz e.2.1)



/-- membership in the `unsized` set of an intersection (lib.rs:432-433, 472) -/
theorem mem_intersection_unsized_uz {g : ABG} {other : Blk} {σ : Subst} {inter : ABG}
    (h : inter ∈ g.intersection other σ) (p : T) :
    p ∈ inter.unsized ↔ (p ∈ g.unsized ∨ p ∈ other.unsized) ∧ p ∈ keyTypes_uz inter := by
  unfold ABG.intersection at h
  simp only [List.mem_map] at h
  obtain ⟨combo, _, rfl⟩ := h
  simp only [keyTypes_uz, List.mem_filter, List.mem_eraseDups, List.mem_append, List.contains_iff_mem]

/-- the keys of an intersection are (up to `keyEq`, hence with the same bounded type) keys of the group -/
theorem intersection_keyTypes_sub_uz {g : ABG} {other : Blk} {σ : Subst} {inter : ABG}
    (h : inter ∈ g.intersection other σ) {p : T} (hp : p ∈ keyTypes_uz inter) : p ∈ keyTypes_uz g := by
  obtain ⟨kr, hkr, rfl⟩ := List.mem_map.1 hp
  obtain ⟨e1, _, e2, _, sk1, _, sk2, _, rows1, rows2, hf1, _, hk1, _, _⟩ := intersection_entry h kr hkr
  obtain ⟨kold, hkold, hkeq⟩ := findKey_some_keyEq hf1
  refine List.mem_map.2 ⟨(kold, rows1), hkold, ?_⟩
  rw [hk1]
  exact keyEq_fst hkeq

/-- the invariant read as a description of the set, whatever the number of members -/
theorem UnsizedInv_uz.mem_unsized {e : T × ABG × List Blk} (h : UnsizedInv_uz e) (p : T) :
    p ∈ e.2.1.unsized ↔ relaxedBy_uz e.2.2 p ∧ (2 ≤ e.2.2.length → p ∈ keyTypes_uz e.2.1) := by
  obtain ⟨hne, hone, htwo⟩ := h
  cases hms : e.2.2 with
  | nil => exact absurd hms hne
  | cons b1 tl =>
    cases tl with
    | nil =>
      rw [hone b1 hms]
      show p ∈ b1.unsized ↔ _
      simp [relaxedBy_uz]
    | cons b2 tl =>
      have h2 : 2 ≤ e.2.2.length := by rw [hms]; simp
      rw [← hms, htwo h2 p]
      exact and_congr_right fun _ => ⟨fun hk _ => hk, fun hk => hk h2⟩

theorem unsizedInv_inv_uz (env : Env) : SearchInv env UnsizedInv_uz (fun _ _ => True) where
  fresh id b _ := by
    refine ⟨by simp, fun b' hb' => ?_, fun h2 => ?_⟩
    · simp only [List.cons.injEq, and_true] at hb'
      rw [hb']
    · simp at h2
  join gid abg ms currId curr σ inter hg _ _ hinter := by
    have hne : ms ≠ [] := hg.1
    refine ⟨by simp, fun b' hb' => ?_, fun _ p => ?_⟩
    · exfalso
      have := congrArg List.length hb'
      simp only [List.length_append, List.length_cons, List.length_nil] at this
      exact hne (List.length_eq_zero_iff.1 (by omega))
    · -- a key of the intersection is a key of the group, so the group's own condition on `p` is implied
      have hsub : p ∈ keyTypes_uz inter → 2 ≤ ms.length → p ∈ keyTypes_uz abg :=
        fun hk _ => intersection_keyTypes_sub_uz hinter hk
      simp only
      rw [mem_intersection_unsized_uz hinter p, hg.mem_unsized p]
      simp only [relaxedBy_uz, List.mem_append, List.mem_singleton]
      constructor
      · rintro ⟨⟨⟨b, hb, hbp⟩, _⟩ | hp, hk⟩
        · exact ⟨⟨b, Or.inl hb, hbp⟩, hk⟩
        · exact ⟨⟨curr, Or.inr rfl, hp⟩, hk⟩
      · rintro ⟨⟨b, hb | rfl, hbp⟩, hk⟩
        · exact ⟨Or.inl ⟨⟨b, hb, hbp⟩, hsub hk⟩, hk⟩
        · exact ⟨Or.inr hbp, hk⟩
  impls _ _ _ := trivial

theorem prune_unsized_uz (g : ABG) : g.prune.unsized = g.unsized := rfl

theorem prune_keyTypes_sub_uz (g : ABG) {p : T} (h : p ∈ keyTypes_uz g.prune) : p ∈ keyTypes_uz g := by
  obtain ⟨kr, hkr, rfl⟩ := List.mem_map.1 h
  simp only [ABG.prune, List.mem_filter] at hkr
  exact List.mem_map.2 ⟨kr, hkr.1, rfl⟩

/-- every family of an accepted grouping is the pruned form of a group `e0` of a search candidate, and `e0`
    satisfies the invariant -/
theorem parseGroups_unsizedInv_uz {items : List T} {groups : Groups} (h : parseGroups items = .ok groups)
    {e : T × ABG × List Blk} (he : e ∈ groups) :
    ∃ e0, UnsizedInv_uz e0 ∧ e = (e0.1, e0.2.1.prune, e0.2.2) :=
  let ⟨e0, h0, h1, _, _⟩ := parseGroups_group' h he (unsizedInv_inv_uz (parseEnv items))
  ⟨e0, h0, h1⟩

/-- the `?Sized` bounds the main impl emits: `b: ?Sized` is written for a bounded type `b` of a (surviving) key that is
    in the group's `unsized` set (main_trait.rs:272-286 / `assocBoundPredicates`) -/
def mainRelaxed_uz (e : T × ABG × List Blk) (p : T) : Prop := p ∈ e.2.1.unsized ∧ p ∈ keyTypes_uz e.2.1

/-- order-free, search-free description of what the main impl relaxes, for EVERY family of every accepted input
    (one member or many): exactly the bounded types of its surviving keys that some member relaxed -/
theorem mainRelaxed_iff_uz {items : List T} {groups : Groups} (h : parseGroups items = .ok groups)
    {e : T × ABG × List Blk} (he : e ∈ groups) (p : T) :
    mainRelaxed_uz e p ↔ relaxedBy_uz e.2.2 p ∧ p ∈ keyTypes_uz e.2.1 := by
  obtain ⟨e0, h0, rfl⟩ := parseGroups_unsizedInv_uz h he
  unfold mainRelaxed_uz
  simp only [prune_unsized_uz]
  rw [h0.mem_unsized p]
  exact ⟨fun ⟨⟨hr, _⟩, hk⟩ => ⟨hr, hk⟩, fun ⟨hr, hk⟩ => ⟨⟨hr, fun _ => prune_keyTypes_sub_uz _ hk⟩, hk⟩⟩

/-! ## Part B — `sizedCompatB` is sound, and holds for the flat families the model computes -/

/-- world condition for the constructed-type arm of `sizedCompatB`: every constructed type other than a slice or a
    trait object is `Sized`. NOTE: `str` is a `Type::Path`, so a world in which `str` is unsized does NOT satisfy this
    condition; it is needed only for members whose substitution binds a `Sized` parameter of the main impl to a
    constructed type (nested members). -/
def SizedWorld_uz (W : World) : Prop :=
  ∀ k as ks, k ≠ "Type::Slice" → k ≠ "Type::TraitObject" → W.sized (.node k as ks) = true

theorem inst_comp_identity_uz {θ ρ : Subst} {p : String} (h : lookup θ p = some .identity) :
    inst (comp θ ρ) (.tparam p) = inst ρ (.tparam p) := by
  have hl : lookup (comp θ ρ) p = some (compVal ρ p .identity) := by rw [lookup_comp, h]; rfl
  rw [inst, inst, hl]
  simp only [compVal]
  rcases lookup ρ p with _ | (t | e | _) <;> rfl

/-- the core of the soundness of `sizedCompatB`: the world condition is only used on the constructed types the
    member's substitution assigns to `Sized` parameters of the main impl -/
theorem sizedCompatB_sound_core_uz (W : World) (F : Family) (m : Member) (h : sizedCompatB F m = true)
    (hW : ∀ p ∈ F.sizedParams, ∀ k as ks, lookup m.θ p = some (.ty (.node k as ks)) → k ≠ "Type::Slice" →
      k ≠ "Type::TraitObject" → ∀ ρ, W.sized (inst ρ (.node k as ks)) = true) :
    SizedCompat W F m := by
  intro ρ hwk hsz p hp
  obtain ⟨_, _, w3⟩ := wkB_parts hwk
  unfold sizedCompatB at h
  have hall := (List.all_eq_true.1 h) p hp
  rcases hl : lookup m.θ p with _ | (t | e | _)
  · rw [hl] at hall; cases hall
  · rw [hl] at hall
    cases t with
    | tparam p' =>
      simp only [List.contains_iff_mem] at hall
      have hlc : lookup (comp m.θ ρ) p = some (.ty (inst ρ (.tparam p'))) := by
        rw [lookup_comp, hl]
        show some (compVal ρ p (.ty (.tparam p'))) = _
        rw [compVal_tp_notEx (w3 p' hall)]
      rw [inst_tparam_ty hlc]
      exact hsz p' hall
    | eparam _ => cases hall
    | node k as ks =>
      simp only [Bool.and_eq_true, bne_iff_ne, ne_eq] at hall
      have hlc : lookup (comp m.θ ρ) p = some (.ty (inst ρ (.node k as ks))) := by
        rw [lookup_comp, hl]
        show some (compVal ρ p (.ty (.node k as ks))) = _
        rw [compVal_ty_other (fun m hm => by cases hm)]
      rw [inst_tparam_ty hlc]
      exact hW p hp k as ks hl hall.1 hall.2 ρ
  · rw [hl] at hall; cases hall
  · rw [hl] at hall
    simp only [List.contains_iff_mem] at hall
    rw [inst_comp_identity_uz hl]
    exact hsz p hall

/-- `sizedCompatB F m = true → SizedCompat W F m` in every world in which every constructed type other than slices and
    trait objects is `Sized` -/
theorem sizedCompatB_sound_uz (W : World) (hW : SizedWorld_uz W) (F : Family) (m : Member)
    (h : sizedCompatB F m = true) : SizedCompat W F m := by
  refine sizedCompatB_sound_core_uz W F m h (fun p _ k as ks _ h1 h2 ρ => ?_)
  obtain ⟨k', as', ks', he, hk⟩ := inst_node_kind ρ k as ks
  rw [he]
  rcases hk with rfl | ⟨rfl, rfl⟩
  · exact hW _ _ _ h1 h2
  · exact hW _ _ _ (by decide) (by decide)

/-- no constructed type among the values of the member's substitution (flat members: all identity) -/
def noCtor_uz (θ : Subst) : Bool := θ.all (fun p => match p.2 with | .ty (.node _ _ _) => false | _ => true)

/-- … and in EVERY world (whatever is unsized there, `str` included) when the member's substitution assigns no
    constructed type (in particular for un-nested members, whose substitution is the identity) -/
theorem sizedCompatB_sound_noCtor_uz (W : World) (F : Family) (m : Member) (hθ : noCtor_uz m.θ = true)
    (h : sizedCompatB F m = true) : SizedCompat W F m := by
  refine sizedCompatB_sound_core_uz W F m h (fun p _ k as ks hl _ _ _ => ?_)
  have := (List.all_eq_true.1 hθ) _ (lookup_mem _ _ _ hl)
  cases this

theorem noCtor_of_allIdentity_uz {θ : Subst} (h : allIdentity θ = true) : noCtor_uz θ = true := by
  unfold allIdentity at h
  unfold noCtor_uz
  rw [List.all_eq_true] at h ⊢
  intro p hp
  have := h p hp
  rw [beq_iff_eq] at this
  rw [this]

/-! ### the `Sized` parameters of the main impl -/

/-- the generics of a block's item (as `mkBlock` / `mkBlk` read them) -/
def blkGenerics_uz (b : Blk) : T := (implGenerics b.item).getD (.node "?" [] [])

/-- the bounded types for which the main impl writes a where-predicate (`assocBoundPredicates`, main_trait.rs:254-286):
    those of `ABG.idents` -/
def identTypes_uz (g : ABG) : List T := g.idents.map (fun kx => kx.1.1)

/-- the `Sized` parameters of the main impl as the model's generator determines them: the type parameters the first
    member declares (`kindNames … "GenericParam::Type"`, the table the generator's indexer starts from; the main impl
    keeps a subset of them, `s.ixTy` in `mainImplOfTrait` — `Lemmas/UnsizedExpand.lean`), minus those `x` for which
    `x: ?Sized + …` is emitted — `x` is in the group's `unsized` set AND is the bounded type of a key with an
    associated-type identifier -/
def mainSizedParams_uz (e : T × ABG × List Blk) : List String :=
  match e.2.2 with
  | [] => []
  | first :: _ => (kindNames (blkGenerics_uz first) "GenericParam::Type").filter (fun x =>
      !(e.2.1.unsized.contains (mkTypeIdent x) && (identTypes_uz e.2.1).contains (mkTypeIdent x)))

theorem mem_mainSizedParams_uz {e : T × ABG × List Blk} {first : Blk} {rest : List Blk} (hms : e.2.2 = first :: rest)
    {p : String} : p ∈ mainSizedParams_uz e ↔ p ∈ kindNames (blkGenerics_uz first) "GenericParam::Type" ∧
      (mkTypeIdent p ∈ e.2.1.unsized → mkTypeIdent p ∉ identTypes_uz e.2.1) := by
  simp [mainSizedParams_uz, hms, Decidable.imp_iff_not_or]

/-- after pruning every key has an associated-type identifier: the bounded types of `idents` are those of the keys -/
theorem identTypes_prune_uz (g : ABG) (p : T) : p ∈ identTypes_uz g.prune ↔ p ∈ keyTypes_uz g.prune := by
  constructor
  · intro h
    obtain ⟨kx, hkx, rfl⟩ := List.mem_map.1 h
    obtain ⟨rows, hr⟩ := idents_mem hkx
    exact List.mem_map.2 ⟨_, hr, rfl⟩
  · intro h
    obtain ⟨kr, hkr, rfl⟩ := List.mem_map.1 h
    cases g with
    | mk B u =>
      have hkr' := hkr
      simp only [ABG.prune, List.mem_filter, List.any_eq_true, Bool.not_eq_true', List.isEmpty_eq_false_iff] at hkr'
      obtain ⟨_, r, hr, hrne⟩ := hkr'
      cases r with
      | nil => exact absurd rfl hrne
      | cons ap rest =>
        refine List.mem_map.2 ⟨(kr.1, ap.1), ?_, rfl⟩
        show _ ∈ (ABG.mk (B.filter _) u).idents
        exact mem_idents.2 ⟨kr, hkr, rfl, ap :: rest, hr, by simp⟩

theorem isMaybeSizedOn_unsized_uz {b : Blk} {x : String} (h : isMaybeSizedOn b.raw x = true) :
    mkTypeIdent x ∈ b.unsized := by
  unfold isMaybeSizedOn at h
  obtain ⟨rb, hrb, hc⟩ := List.any_eq_true.1 h
  simp only [Bool.and_eq_true, beq_iff_eq] at hc
  unfold Blk.unsized
  rw [List.mem_eraseDups]
  exact List.mem_map.2 ⟨rb, List.mem_filter.2 ⟨hrb, hc.1⟩, hc.2⟩

/-- EXECUTABLE: the negation of D7's shape. For every member `b` and every type parameter `x` the first member
    declares: if `b` relaxes `x` (`x: ?Sized`, inline or in the where-clause), then `x` itself is the bounded type of
    a key of the family (a key that survived the intersections and the pruning) -/
def relaxedAreKeys_uz (e : T × ABG × List Blk) : Bool :=
  match e.2.2 with
  | [] => true
  | first :: _ => e.2.2.all (fun b => (kindNames (blkGenerics_uz first) "GenericParam::Type").all (fun x =>
      !isMaybeSizedOn b.raw x || (keyTypes_uz e.2.1).contains (mkTypeIdent x)))

/-- the substitution of the header's self-match -/
def selfSubst_uz (gid : T) : Subst := match sup gid gid with | .yes σ _ => σ | _ => []

/-- EXECUTABLE: every `Sized` parameter of the main impl is a parameter of the header that the self-match binds (to the
    identity), and every member declares it as a type parameter (members of a flat family share the header; this
    excludes a parameter in the ambiguous generic-argument position that one member declares as a type and another as
    a const) -/
def mainParamsOK_uz (e : T × ABG × List Blk) : Bool :=
  (mainSizedParams_uz e).all (fun p => lookup (selfSubst_uz e.1) p == some .identity &&
    e.2.2.all (fun b => (typeParamNames (blkGenerics_uz b)).contains p))

theorem mkBlock_sizedParams_uz {b : Blk} (h : b.canonical) :
    (mkBlock b.item).sizedParams = (typeParamNames (blkGenerics_uz b)).filter (fun x => !isMaybeSizedOn b.raw x) := by
  unfold Blk.canonical at h
  unfold mkBlock blkGenerics_uz
  simp only
  rw [← h]

/-- FLAT `sizedCompatB`: in an accepted grouping of an invocation without nested headers, for a family whose header
    matches itself with identity bindings and that passes the two executable checks, every member satisfies
    `sizedCompatB` with respect to the main impl's `Sized` parameters -/
theorem flat_sizedCompatB_uz {items : List T} {groups : Groups} (h : parseGroups items = .ok groups)
    (hns : ∀ id, (parseEnv items).subsets.get id = []) {e : T × ABG × List Blk} (he : e ∈ groups)
    (hself : selfIdentity e.1 = true) (hpar : mainParamsOK_uz e = true) (hrel : relaxedAreKeys_uz e = true) :
    ∀ m ∈ (familyOfGroup (mainSizedParams_uz e) e).members,
      sizedCompatB (familyOfGroup (mainSizedParams_uz e) e) m = true := by
  intro m hm
  have hown := parseGroups_rowsOwn h he
  obtain ⟨σ, l, hs, hσ⟩ := selfIdentity_spec hself
  obtain ⟨i, b, ps, hb, _, rfl⟩ := familyOfGroup_member hm
  have hgid : groupIdOf b.item = e.1 := rowsOwn_flat_header hns hown hb
  have hbmem : b ∈ e.2.2 := List.mem_of_getElem? hb
  have hcan : b.canonical := mem_map_mkBlk_canonical (parseGroups_member_input h he b hbmem)
  rw [memberOfGroup_flat hgid hs]
  unfold sizedCompatB
  rw [List.all_eq_true]
  intro p hp
  change p ∈ mainSizedParams_uz e at hp
  have hself' : selfSubst_uz e.1 = σ := by unfold selfSubst_uz; rw [hs]
  have hpo := (List.all_eq_true.1 hpar) p hp
  rw [hself'] at hpo
  simp only [Bool.and_eq_true, beq_iff_eq, List.all_eq_true, List.contains_iff_mem] at hpo
  show (match lookup σ p with
    | some .identity => (mkBlock b.item).sizedParams.contains p
    | some (.ty (.tparam p')) => (mkBlock b.item).sizedParams.contains p'
    | some (.ty (.node k _ _)) => k != "Type::Slice" && k != "Type::TraitObject"
    | _ => false) = true
  rw [hpo.1]
  simp only [List.contains_iff_mem]
  rw [mkBlock_sizedParams_uz hcan, List.mem_filter]
  refine ⟨hpo.2 b hbmem, ?_⟩
  cases hm' : isMaybeSizedOn b.raw p with
  | false => rfl
  | true =>
    exfalso
    -- `b` relaxes `p`: then `p` is a key's bounded type, and the main impl relaxes it too
    obtain ⟨first, rest, hms⟩ := List.exists_cons_of_ne_nil (List.ne_nil_of_mem hbmem)
    obtain ⟨hkn, hnot⟩ := (mem_mainSizedParams_uz hms).1 hp
    have hkey : mkTypeIdent p ∈ keyTypes_uz e.2.1 := by
      unfold relaxedAreKeys_uz at hrel
      rw [hms] at hrel hbmem
      simp only [List.all_eq_true, Bool.or_eq_true, Bool.not_eq_true', List.contains_iff_mem] at hrel
      exact (hrel b hbmem p hkn).resolve_left (by rw [hm']; simp)
    have hmr : mainRelaxed_uz e (mkTypeIdent p) :=
      (mainRelaxed_iff_uz h he _).2 ⟨⟨b, hms ▸ hbmem, isMaybeSizedOn_unsized_uz hm'⟩, hkey⟩
    obtain ⟨e0, _, he0⟩ := parseGroups_unsizedInv_uz h he
    refine hnot hmr.1 ?_
    rw [he0] at hkey ⊢
    exact (identTypes_prune_uz _ _).2 hkey

/-- `sizedCompatB` is antitone in the main impl's `Sized` parameters: a main impl that requires `Sized` of fewer
    parameters (e.g. because the trait's own where-clause relaxes one more) is compatible a fortiori -/
theorem sizedCompatB_mono_uz {F : Family} {m : Member} (sp : List String) (hsub : ∀ p ∈ sp, p ∈ F.sizedParams)
    (h : sizedCompatB F m = true) : sizedCompatB { F with sizedParams := sp } m = true := by
  unfold sizedCompatB at h ⊢
  rw [List.all_eq_true] at h ⊢
  intro p hp
  exact h p (hsub p hp)

/-- … hence the flat theorem holds for every list of `Sized` parameters contained in `mainSizedParams_uz e` -/
theorem flat_sizedCompatB_sub_uz {items : List T} {groups : Groups} (h : parseGroups items = .ok groups)
    (hns : ∀ id, (parseEnv items).subsets.get id = []) {e : T × ABG × List Blk} (he : e ∈ groups)
    (hself : selfIdentity e.1 = true) (hpar : mainParamsOK_uz e = true) (hrel : relaxedAreKeys_uz e = true)
    (sp : List String) (hsub : ∀ p ∈ sp, p ∈ mainSizedParams_uz e) :
    ∀ m ∈ (familyOfGroup sp e).members, sizedCompatB (familyOfGroup sp e) m = true :=
  fun m hm => sizedCompatB_mono_uz (F := familyOfGroup (mainSizedParams_uz e) e) sp hsub
    (flat_sizedCompatB_uz h hns he hself hpar hrel m hm)

/-- a sufficient condition for the header part of `mainParamsOK_uz` in the terms of `hdrCoversB`: the header matches
    itself with identity bindings and no lenient arm, is well-formed for the matcher, and the parameter occurs in it -/
theorem selfSubst_identity_uz {gid : T} (hclean : selfClean gid = true) (hwf : wf gid = true) {p : String}
    (hp : p ∈ params gid) : lookup (selfSubst_uz gid) p = some .identity := by
  obtain ⟨σ, hs, hσ⟩ := selfClean_spec hclean
  have hb : (lookup σ p).isSome = true := (supS_good gid (stripTop gid) σ hwf hs).1 p hp
  unfold selfSubst_uz
  rw [hs]
  rcases lookup_allIdentity hσ p with h1 | h1
  · rw [h1] at hb; cases hb
  · exact h1

/-- members of a flat family carry an all-identity substitution -/
theorem flat_member_noCtor_uz {items : List T} {groups : Groups} (h : parseGroups items = .ok groups)
    (hns : ∀ id, (parseEnv items).subsets.get id = []) (sp : List String) {e : T × ABG × List Blk} (he : e ∈ groups)
    (hself : selfIdentity e.1 = true) : ∀ m ∈ (familyOfGroup sp e).members, noCtor_uz m.θ = true := by
  intro m hm
  have hown := parseGroups_rowsOwn h he
  obtain ⟨σ, l, hs, hσ⟩ := selfIdentity_spec hself
  obtain ⟨i, b, ps, hb, _, rfl⟩ := familyOfGroup_member hm
  rw [memberOfGroup_flat (rowsOwn_flat_header hns hown hb) hs]
  exact noCtor_of_allIdentity_uz hσ

/-- FLAT `SizedCompat`, in EVERY world: the hypothesis `SizedCompat` of the refinement theorems holds for every member
    of a flat family that passes the executable checks -/
theorem flat_sizedCompat_uz {items : List T} {groups : Groups} (h : parseGroups items = .ok groups)
    (hns : ∀ id, (parseEnv items).subsets.get id = []) {e : T × ABG × List Blk} (he : e ∈ groups)
    (hself : selfIdentity e.1 = true) (hpar : mainParamsOK_uz e = true) (hrel : relaxedAreKeys_uz e = true)
    (sp : List String) (hsub : ∀ p ∈ sp, p ∈ mainSizedParams_uz e) (W : World) :
    ∀ m ∈ (familyOfGroup sp e).members, SizedCompat W (familyOfGroup sp e) m :=
  fun m hm => sizedCompatB_sound_noCtor_uz W _ m (flat_member_noCtor_uz h hns sp he hself m hm)
    (flat_sizedCompatB_sub_uz h hns he hself hpar hrel sp hsub m hm)

/-- the executable side conditions of the flat `?Sized` theorems on one group, as one check -/
def unsizedFlatOK_uz (e : T × ABG × List Blk) : Bool :=
  flatGroupOK e && hdrCoversB (familyOfGroup (mainSizedParams_uz e) e) && mainParamsOK_uz e && relaxedAreKeys_uz e

theorem unsizedFlatOK_spec_uz {e : T × ABG × List Blk} (h : unsizedFlatOK_uz e = true) :
    flatGroupOK e = true ∧ hdrCoversB (familyOfGroup (mainSizedParams_uz e) e) = true ∧ mainParamsOK_uz e = true ∧
      relaxedAreKeys_uz e = true ∧ selfIdentity e.1 = true := by
  simp only [unsizedFlatOK_uz, Bool.and_eq_true] at h
  exact ⟨h.1.1.1, h.1.1.2, h.1.2, h.2, (flatGroupOK_spec h.1.1.1).1⟩

/-- FLAT EXACTNESS per member: a member of a flat family that passes the checks is selected for a query exactly when
    its block applies to it — `Sized` requirements included, whichever member wrote a relaxation -/
theorem flat_unsized_exact_uz {items : List T} {groups : Groups} (h : parseGroups items = .ok groups)
    (hns : ∀ id, (parseEnv items).subsets.get id = []) {e : T × ABG × List Blk} (he : e ∈ groups)
    (hok : unsizedFlatOK_uz e = true) (W : World) (hw : WorldTotal W (familyOfGroup (mainSizedParams_uz e) e))
    (m : Member) (hm : m ∈ (familyOfGroup (mainSizedParams_uz e) e).members) (q : T) :
    genSel W (familyOfGroup (mainSizedParams_uz e) e) m q ↔ applies W m.blk q := by
  obtain ⟨ok1, ok2, ok3, ok4, ok5⟩ := unsizedFlatOK_spec_uz hok
  have hmo := flat_memberOK h hns (mainSizedParams_uz e) he ok1 m hm
  have hth := (thetaCoversB_iff _ m).1 (flat_thetaCovers h hns (mainSizedParams_uz e) he ok2 m hm)
  have hsz := flat_sizedCompat_uz h hns he ok5 ok3 ok4 (mainSizedParams_uz e) (fun _ hp => hp) W m hm
  exact ⟨gen_sub_spec W _ m q, spec_sub_gen W _ m q hmo hw hth hsz⟩

/-- FLAT COVERAGE without the hypothesis `SizedCompat`: for an accepted invocation without nested headers whose
    groups pass the executable checks, in every world in which the dispatch traits define their associated types, the
    generated program (each family with the main impl's own `Sized` parameters) implements the trait for a query
    exactly when one of the input blocks applies to it -/
theorem flat_coverage_unsized_uz {items : List T} {groups : Groups} (h : parseGroups items = .ok groups)
    (hns : ∀ id, (parseEnv items).subsets.get id = [])
    (hok : ∀ e ∈ groups, unsizedFlatOK_uz e = true)
    (W : World) (hw : ∀ e ∈ groups, WorldTotal W (familyOfGroup (mainSizedParams_uz e) e)) (q : T) :
    (∃ e ∈ groups, ∃ m ∈ (familyOfGroup (mainSizedParams_uz e) e).members,
        genSel W (familyOfGroup (mainSizedParams_uz e) e) m q) ↔
    (∃ it ∈ items, applies W (mkBlock (canon it)) q) :=
  coverage_of_complete h mainSizedParams_uz (parseGroups_partition_partial h hns) W q fun e he m hm =>
    (flat_unsized_exact_uz h hns he (hok e he) W (hw e he) m hm q).2

/-! ## Part C — the `unsized` sets and the `maybe` flags play no role in what decides acceptance -/

/-- a block with all `?` modifiers of its recorded bounds erased (the item text is kept) -/
def stripMaybe_uz (b : Blk) : Blk := ⟨b.item, b.raw.map (fun rb => { rb with maybe := false })⟩

/-- a bounds group with another `unsized` set -/
def withUnsized_uz (g : ABG) (u : List T) : ABG := ⟨g.bounds, u⟩

theorem stripMaybe_unsized_uz (b : Blk) : (stripMaybe_uz b).unsized = [] := by
  unfold Blk.unsized stripMaybe_uz
  have : (b.raw.map (fun rb => ({ rb with maybe := false } : RawBound))).filter (·.maybe) = [] :=
    List.filter_eq_nil_iff.2 (fun x hx => by
      obtain ⟨rb, _, rfl⟩ := List.mem_map.1 hx
      simp)
  simp only [this]
  rfl

/-- `AssocBoundsGroup::new` reads the `?` modifiers only for the `unsized` set: the keys and rows are those of the block
    with the modifiers erased -/
theorem new_bounds_stripMaybe_uz (b : Blk) : (ABG.new (stripMaybe_uz b)).bounds = (ABG.new b).bounds := by
  unfold ABG.new stripMaybe_uz
  simp only [List.foldl_map]

/-- `intersection`: the keys and rows of the results depend neither on the `unsized` set of the group nor on the `?`
    modifiers of the joining block -/
theorem intersection_bounds_uz (g : ABG) (u : List T) (other : Blk) (σ : Subst) :
    ((withUnsized_uz g u).intersection (stripMaybe_uz other) σ).map (·.bounds) =
      (g.intersection other σ).map (·.bounds) := by
  unfold ABG.intersection withUnsized_uz stripMaybe_uz
  simp only [List.foldl_map, List.map_map]
  rfl

theorem prune_withUnsized_uz (g : ABG) (u : List T) : (withUnsized_uz g u).prune = withUnsized_uz g.prune u := rfl

theorem idents_withUnsized_uz (g : ABG) (u : List T) : (withUnsized_uz g u).idents = g.idents := rfl
theorem payloads_withUnsized_uz (g : ABG) (u : List T) : (withUnsized_uz g u).payloads = g.payloads := rfl
theorem isOverlapping_withUnsized_uz (g : ABG) (u : List T) : (withUnsized_uz g u).isOverlapping = g.isOverlapping := rfl

/-- the candidate filter (`find_impl_group_candidates`, lib.rs:799-814) does not look at the `unsized` sets: replacing them
    (by any sets `U e`) changes neither the verdict nor the keys, rows and members of what passes -/
theorem filterCandidate_withUnsized_uz (U : T × ABG × List Blk → List T) (gs : Groups) :
    filterCandidate (gs.map (fun e => (e.1, withUnsized_uz e.2.1 (U e), e.2.2))) =
      (filterCandidate gs).map (fun p => (List.zip gs p).map (fun ep => (ep.2.1, withUnsized_uz ep.2.2.1 (U ep.1), ep.2.2.2))) := by
  unfold filterCandidate
  simp only [List.map_map, List.any_map, Function.comp_def, prune_withUnsized_uz, isOverlapping_withUnsized_uz]
  have hany : (gs.any fun x => (withUnsized_uz x.2.1.prune (U x)).bounds.isEmpty || x.2.1.prune.isOverlapping) =
      (gs.any fun x => x.2.1.prune.bounds.isEmpty || x.2.1.prune.isOverlapping) := rfl
  rw [hany]
  have hz : ∀ l : Groups, List.map (fun x => (x.1, withUnsized_uz x.2.1.prune (U x), x.2.2)) l =
      List.map (fun ep => (ep.2.1, withUnsized_uz ep.2.2.1 (U ep.1), ep.2.2.2))
        (l.zip (List.map (fun e => (e.1, e.2.1.prune, e.2.2)) l)) := by
    intro l
    induction l with
    | nil => rfl
    | cons e rest ih => simp only [List.map_cons, List.zip_cons_cons, ih]
  split
  · rfl
  · simp only [Option.map_some, Option.some.injEq]
    exact hz gs

theorem filterCandidate_isSome_withUnsized_uz (U : T × ABG × List Blk → List T) (gs : Groups) :
    (filterCandidate (gs.map (fun e => (e.1, withUnsized_uz e.2.1 (U e), e.2.2)))).isSome = (filterCandidate gs).isSome := by
  rw [filterCandidate_withUnsized_uz]
  cases filterCandidate gs <;> rfl

end DI

/-
  The converse of alpha-invariance on the level of block HEADERS (C13 / C06): the header of the canonical block is the
  resolver applied to the header (`mkHdr_canon_hc`), the numbering of the header's parameters depends on the header alone
  (`hdr_prefix_hc`, `rsT_hdr_local_hc`), equal canonical headers were handed the same names (`hdr_names_hc`), and hence
  come from headers that are textual renamings of each other (`same_header_only_if_renaming_hc`).
  Statements: `Props/C13.lean`, `Props/C06.lean`. Definitions: `Lemmas/CanonHeaderConverseDefs.lean`.
-/
import DisjointImpls.Lemmas.CanonHeaderConverseDefs
import DisjointImpls.Lemmas.CanonRoundTrip
namespace DI

/-! ### The header of the canonical block -/

/-- the trait path inside child 4 of an `ItemImpl` (syn's `Option<(Option<!>, Path, For)>`; in the model `Some [Tuple [!, path]]`) -/
def trPathOf_hc : T → Option T
  | .node "Some" [] [.node "Tuple" [] [_, p]] => some p
  | _ => none

theorem trPathOf_some_hc {tr p : T} (h : trPathOf_hc tr = some p) : ∃ b, tr = .node "Some" [] [.node "Tuple" [] [b, p]] := by
  unfold trPathOf_hc at h
  split at h
  · cases h; exact ⟨_, rfl⟩
  · cases h

theorem implTraitPath_impl_hc (a d u g tr s items : T) :
    implTraitPath (.node "ItemImpl" [] [a, d, u, g, tr, s, items]) = trPathOf_hc tr := by
  cases h : trPathOf_hc tr with
  | some p => obtain ⟨b, rfl⟩ := trPathOf_some_hc h; rfl
  | none =>
    unfold implTraitPath
    split
    · next heq => cases heq; simp [trPathOf_hc] at h
    · rfl

theorem trPathOf_rsT_hc (r : Renaming) (tr : T) : trPathOf_hc (rsT r tr) = (trPathOf_hc tr).map (rsT r) := by
  have hF := rsT_nodeMap r
  cases h : trPathOf_hc tr with
  | some p =>
    obtain ⟨b, rfl⟩ := trPathOf_some_hc h
    rw [hF.node _ _ (by simp), List.map_cons, List.map_nil, hF.node _ _ (by simp)]
    rfl
  | none =>
    cases h' : trPathOf_hc (rsT r tr) with
    | none => rfl
    | some p' =>
      exfalso
      obtain ⟨b', e'⟩ := trPathOf_some_hc h'
      obtain ⟨ks, rfl, e⟩ := hF.inv (by simp) e'
      obtain ⟨w, ks2, rfl, e1, e2⟩ := List.map_eq_cons_iff.1 e.symm
      cases List.map_eq_nil_iff.1 e2
      obtain ⟨ks3, rfl, e3⟩ := hF.inv (by simp) e1
      obtain ⟨b, ks4, rfl, _, e4⟩ := List.map_eq_cons_iff.1 e3.symm
      obtain ⟨p, ks5, rfl, _, e5⟩ := List.map_eq_cons_iff.1 e4
      cases List.map_eq_nil_iff.1 e5
      simp [trPathOf_hc] at h

/-- the header as a function of the trait field and the self type -/
def hdrOf_hc (tr : Option T) (s : Option T) : T :=
  .node "ImplGroupId" [] [
    (match tr with | some p => .node "Some" [] [p] | none => .node "None" [] []),
    s.getD (.node "?" [] [])]

theorem mkHdr_eq_hc (item : T) : mkHdr item = hdrOf_hc (implTraitPath item) (implSelfTy item) := rfl

/-- the header determines the trait field, and the self type up to the placeholder for a missing one -/
theorem hdrOf_inj_hc {tr tr' s s' : Option T} (h : hdrOf_hc tr s = hdrOf_hc tr' s') :
    tr = tr' ∧ s.getD (.node "?" [] []) = s'.getD (.node "?" [] []) := by
  unfold hdrOf_hc at h
  obtain ⟨h1, h2⟩ := List.cons.inj (T.node.inj h).2.2
  refine ⟨?_, (List.cons.inj h2).1⟩
  cases tr with
  | none =>
    cases tr' with
    | none => rfl
    | some p' => simp at h1
  | some p =>
    cases tr' with
    | none => simp at h1
    | some p' => simp at h1; rw [h1]

theorem rsT_hdrOf_hc (r : Renaming) (tr s : Option T) : rsT r (hdrOf_hc tr s) = hdrOf_hc (tr.map (rsT r)) (s.map (rsT r)) := by
  cases tr <;> cases s <;>
    simp only [hdrOf_hc, Option.map, Option.getD, rsT_other, rsL_cons, rsL_nil, Oth5, ne_eq, String.reduceEq,
      not_false_eq_true, and_self]

/-- the seven-field shape of an `ItemImpl` node -/
def IsImpl_hc (item : T) : Prop := ∃ a d u g tr s items, item = .node "ItemImpl" [] [a, d, u, g, tr, s, items]

theorem implSelfTy_none_hc {item : T} (h : ¬ IsImpl_hc item) : implSelfTy item = none := by
  unfold implSelfTy
  split
  · next a d u g tr s items => exact absurd ⟨a, d, u, g, tr, s, items, rfl⟩ h
  · rfl

theorem implTraitPath_none_hc {item : T} (h : ¬ IsImpl_hc item) : implTraitPath item = none := by
  unfold implTraitPath
  split
  · next a d u g b p s items => exact absurd ⟨a, d, u, g, _, s, items, rfl⟩ h
  · rfl

theorem isImpl_of_rsT_hc {r : Renaming} {item : T} (h : IsImpl_hc (rsT r item)) : IsImpl_hc item := by
  obtain ⟨a, d, u, g, tr, s, items, e⟩ := h
  obtain ⟨a0, d0, u0, g0, tr0, s0, i0, e0⟩ := (rsT_nodeMap r).impl_inv_rt (t := item) e
  exact ⟨a0, d0, u0, g0, tr0, s0, i0, e0⟩

/-- the canonical block of an `ItemImpl` node, field by field (`r` is a variable: the computed renaming is not unfolded) -/
theorem canon_impl_hc (a d u g tr s items : T) {r : Renaming}
    (hr : (indexImpl (.node "ItemImpl" [] [a, d, u, g, tr, s, items])).renaming = r) :
    canon (.node "ItemImpl" [] [a, d, u, g, tr, s, items]) =
      .node "ItemImpl" [] [rsT r a, rsT r d, rsT r u, rsT r (renameGenerics r g), rsT r tr, rsT r s, rsT r items] := by
  unfold canon
  simp only [hr]
  unfold renameImplDecls
  simp only
  rw [rsT_other r _ _ (by simp), rsL_cons, rsL_cons, rsL_cons, rsL_cons, rsL_cons, rsL_cons, rsL_cons, rsL_nil]

theorem canon_notImpl_hc {item : T} (h : ¬ IsImpl_hc item) : ¬ IsImpl_hc (canon item) := by
  unfold canon
  simp only
  rw [renameImplDecls_other_rt _ h]
  exact fun hh => h (isImpl_of_rsT_hc hh)

/-- **the header of the canonical block is the resolver applied to the header** — no side condition -/
theorem mkHdr_canon_hc (item : T) : mkHdr (canon item) = rsT (indexImpl item).renaming (mkHdr item) := by
  rw [mkHdr_eq_hc item, rsT_hdrOf_hc, mkHdr_eq_hc]
  by_cases h : IsImpl_hc item
  · obtain ⟨a, d, u, g, tr, s, items, rfl⟩ := h
    generalize hr : (indexImpl _).renaming = r
    rw [canon_impl_hc a d u g tr s items hr, implTraitPath_impl_hc, implTraitPath_impl_hc, trPathOf_rsT_hc]
    rfl
  · have h' := canon_notImpl_hc h
    rw [implSelfTy_none_hc h, implTraitPath_none_hc h, implSelfTy_none_hc h', implTraitPath_none_hc h']
    rfl

/-- trait path and self type of the canonical block -/
theorem implTraitPath_canon_hc (item : T) :
    implTraitPath (canon item) = (implTraitPath item).map (rsT (indexImpl item).renaming) := by
  have h := mkHdr_canon_hc item
  rw [mkHdr_eq_hc item, rsT_hdrOf_hc, mkHdr_eq_hc] at h
  exact (hdrOf_inj_hc h).1

theorem implSelfTy_canon_hc (item : T) :
    implSelfTy (canon item) = (implSelfTy item).map (rsT (indexImpl item).renaming) := by
  by_cases h : IsImpl_hc item
  · obtain ⟨a, d, u, g, tr, s, items, rfl⟩ := h
    generalize hr : (indexImpl _).renaming = r
    rw [canon_impl_hc a d u g tr s items hr]
    rfl
  · have h' := canon_notImpl_hc h
    rw [implSelfTy_none_hc h, implSelfTy_none_hc h']
    rfl

/-! ### The header is numbered first -/

/-- under `hdrFirst_hc`, the indexer of the block continues from the state the header alone produces -/
theorem hdr_rel_hc {R : IxState → IxState → Prop} (h : IxRel R) (item : T) (hf : hdrFirst_hc item = true) :
    R (hdrIx_hc item) (indexImpl item) := by
  unfold hdrFirst_hc at hf
  split at hf
  · next a d u g tr s items =>
    have e := eq_of_beq hf
    unfold indexImpl
    refine h.trans ?_ (ixLoop_rel h _ _ _ _)
    show R _ (ixT (ixInit _) _)
    rw [ixT_node _ [] _ (by simp) (by simp)]
    simp only [ixL_cons, ixL_nil] at e ⊢
    rw [e]
    exact ixT_rel h items _
  · cases hf

/-- the numbering of `s` is an initial segment of the numbering of `s'` -/
def Pre_hc (s s' : IxState) : Prop := ∀ k, ∃ l, s'.ix k = s.ix k ++ l

theorem pre_rel_hc : IxRel Pre_hc :=
  .of_step (fun s k => ⟨[], (List.append_nil _).symm⟩)
    (fun h1 h2 k => by
      obtain ⟨l1, e1⟩ := h1 k
      obtain ⟨l2, e2⟩ := h2 k
      exact ⟨l1 ++ l2, by rw [e2, e1, List.append_assoc]⟩)
    fun k s x hx k' => by
      rw [(stepK_hit hx).2.1]
      split
      · next e => subst e; exact ⟨_, rfl⟩
      · exact ⟨[], (List.append_nil _).symm⟩

/-- **the numbering of the header's parameters is an initial segment of the numbering of the block** -/
theorem hdr_prefix_hc (item : T) (hf : hdrFirst_hc item = true) (k : PK) :
    ∃ l, (indexImpl item).renaming.m k = (hdrRenaming_hc item).m k ++ l := by
  obtain ⟨l, e⟩ := hdr_rel_hc pre_rel_hc item hf k
  refine ⟨l.map (fun p => (p.1, genIndexedIdent p.2)), ?_⟩
  unfold hdrRenaming_hc
  rw [renaming_m, renaming_m, e, List.map_append]

theorem sameNames_mem_hc {s s' : IxState} (h : SameNames s s') (k : PK) (y : String) : y ∈ s'.names k ↔ y ∈ s.names k := by
  cases k
  · exact h.1.mem_iff
  · exact h.2.1.mem_iff
  · exact h.2.2.mem_iff

/-- a name that is not waiting after the header is looked up alike in the header's renaming and in the block's -/
theorem lookup_local_hc (item : T) (hf : hdrFirst_hc item = true) (k : PK) (n : String) (hn : n ∉ (hdrIx_hc item).un k) :
    rlookup ((indexImpl item).renaming.m k) n = rlookup ((hdrRenaming_hc item).m k) n := by
  obtain ⟨l, e⟩ := hdr_prefix_hc item hf k
  cases hl : rlookup ((hdrRenaming_hc item).m k) n with
  | some v => rw [e]; exact rlookup_append_some hl
  | none =>
    apply rlookup_eq_none_iff.2
    intro hm
    have hk := rlookup_eq_none_iff.1 hl
    unfold hdrRenaming_hc at hk
    rw [renaming_m, List.map_map] at hk hm
    have h1 : n ∈ (indexImpl item).names k := by rw [names_eq]; exact List.mem_append_left _ hm
    rw [sameNames_mem_hc (hdr_rel_hc sameNames_rel item hf) k n, names_eq] at h1
    rcases List.mem_append.1 h1 with h | h
    · exact hk h
    · exact hn h

/-! ### Two renamings that agree on the names in parameter position resolve a tree alike -/

def agreeP_hc (r r' : Renaming) : NP :=
  ⟨fun n => rlookup r.lt n == rlookup r'.lt n, fun n => rlookup r.ty n == rlookup r'.ty n,
   fun n => rlookup r.ty n == rlookup r'.ty n && rlookup r.co n == rlookup r'.co n⟩

theorem agreeP_lt_iff_hc {r r' : Renaming} {n : String} :
    (agreeP_hc r r').lt n = true ↔ rlookup r.lt n = rlookup r'.lt n := beq_iff_eq
theorem agreeP_ty_iff_hc {r r' : Renaming} {n : String} :
    (agreeP_hc r r').ty n = true ↔ rlookup r.ty n = rlookup r'.ty n := beq_iff_eq
theorem agreeP_ex_iff_hc {r r' : Renaming} {n : String} :
    (agreeP_hc r r').ex n = true ↔ rlookup r.ty n = rlookup r'.ty n ∧ rlookup r.co n = rlookup r'.co n := by
  simp [agreeP_hc]

theorem rsTypePath_agree_hc {r r' : Renaming} (as : List String) (q p : T)
    (h : ∀ x, firstSegIdent p = some x → rlookup r.ty x = rlookup r'.ty x) :
    rsTypePath r as q p = rsTypePath r' as q p := by
  unfold rsTypePath
  cases hf : firstSegIdent p with
  | none => rfl
  | some x => simp only [h x hf]

theorem rsExprPath_agree_hc {r r' : Renaming} (as : List String) (a q p : T)
    (h : ∀ x, firstSegIdent p = some x → rlookup r.ty x = rlookup r'.ty x ∧ rlookup r.co x = rlookup r'.co x) :
    rsExprPath r as a q p = rsExprPath r' as a q p := by
  unfold rsExprPath
  cases hf : firstSegIdent p with
  | none => rfl
  | some x => simp only [(h x hf).1, (h x hf).2]

theorem rsT_agree_hc (r r' : Renaming) (t : T) : alP (agreeP_hc r r') t = true → rsT r t = rsT r' t := by
  induction t using T.shapeInd with
  | tparam n =>
    intro h
    rw [alP] at h
    rw [rsT_tparam, rsT_tparam, agreeP_ty_iff_hc.1 h]
  | eparam n =>
    intro h
    rw [alP] at h
    rw [rsT_eparam, rsT_eparam, (agreeP_ex_iff_hc.1 h).1, (agreeP_ex_iff_hc.1 h).2]
  | ign as ks => intro _; rw [rsT_ign, rsT_ign]
  | eq as ks => intro _; rw [rsT_eq, rsT_eq]
  | lifetime as x =>
    intro h
    rw [alP] at h
    rw [rsT_lifetime, rsT_lifetime, agreeP_lt_iff_hc.1 h]
  | typePath as q p ihq ihp =>
    intro h
    obtain ⟨hq, hp, hx⟩ := alP_typePath_iff.1 h
    rw [rsT_typePath, rsT_typePath, ihq hq, ihp hp]
    apply rsTypePath_agree_hc
    intro x hf
    rw [firstSegIdent_rsT] at hf
    exact agreeP_ty_iff_hc.1 (hx x hf)
  | exprPath as a q p iha ihq ihp =>
    intro h
    obtain ⟨ha, hq, hp, hx⟩ := alP_exprPath_iff.1 h
    rw [rsT_exprPath, rsT_exprPath, iha ha, ihq hq, ihp hp]
    apply rsExprPath_agree_hc
    intro x hf
    rw [firstSegIdent_rsT] at hf
    exact agreeP_ex_iff_hc.1 (hx x hf)
  | other k as ks hh ih =>
    intro h
    rw [(rsT_nodeMap r).other as hh, (rsT_nodeMap r').other as hh]
    exact congrArg _ (List.map_congr_left fun t ht => ih t ht ((alP_allKids _).kids as hh h t ht))

theorem un_init_hc (item : T) : Un (canonCtx item) (ixInit item) := by
  intro k y hy
  rw [canonCtx_D]
  exact hy

/-- **the resolver of the block acts on the header like the resolver of the header's own renaming**: every parameter that
    occurs in the header is numbered by the header alone -/
theorem rsT_hdr_local_hc (item : T) (hwf : canonWF item = true) (hf : hdrFirst_hc item = true)
    (hv : ixVis (mkHdr item) = true) :
    rsT (indexImpl item).renaming (mkHdr item) = rsT (hdrRenaming_hc item) (mkHdr item) := by
  obtain ⟨_, hd, hdf, _⟩ := canonWF_parts hwf
  have st := canon_stat item hd hdf
  have hlive := ixT_complete (canonCtx item) st (mkHdr item) (ixInit item) (ixInit_inv_of_distinct item hd)
    (un_init_hc item) hv
  apply rsT_agree_hc
  refine alP_mono ?_ ?_ ?_ _ hlive
  · exact fun n hn => agreeP_lt_iff_hc.2 (lookup_local_hc item hf .lt n (livePred_lt_iff.1 hn))
  · exact fun n hn => agreeP_ty_iff_hc.2 (lookup_local_hc item hf .ty n (livePred_ty_iff.1 hn))
  · intro n hn
    rw [livePred_ex_iff] at hn
    exact agreeP_ex_iff_hc.2 ⟨lookup_local_hc item hf .ty n hn.1, lookup_local_hc item hf .co n hn.2⟩

/-- the canonical header through the header's own renaming -/
theorem mkHdr_canon_local_hc (item : T) (hwf : canonWF item = true) (hf : hdrFirst_hc item = true)
    (hv : ixVis (mkHdr item) = true) : mkHdr (canon item) = rsT (hdrRenaming_hc item) (mkHdr item) := by
  rw [mkHdr_canon_hc, rsT_hdr_local_hc item hwf hf hv]

/-! ### Equal canonical headers were handed the same names

Two runs of the indexer over the SAME tree from start states that differ in the waiting names only hand out the same
numbers at the same places, provided every name either run indexes is spelled like its number (`GForm_hc`, which holds
for the canonical header) and no reserved identifier in parameter position is foreign to either run (`strayP_hc`). -/

/-- same numbering so far -/
def SameIx_hc (s1 s2 : IxState) : Prop := (∀ k, s1.ix k = s2.ix k) ∧ s1.next = s2.next

/-- every indexed name is the canonical spelling of its number -/
def GForm_hc (s : IxState) : Prop := ∀ k, ∀ p ∈ s.ix k, p.1 = genIndexedIdent p.2

/-- `N`: the names the run started with — what is waiting is among them, and each of them is waiting or numbered below `next` -/
structure Trk_hc (N : PK → List String) (s : IxState) : Prop where
  sub : ∀ k, ∀ n ∈ s.un k, n ∈ N k
  cov : ∀ k, ∀ n ∈ N k, n ∈ s.un k ∨ ∃ j, j < s.next ∧ (n, j) ∈ s.ix k

theorem GForm_of_pre_hc {s s' : IxState} (h : Pre_hc s s') (g : GForm_hc s') : GForm_hc s := by
  intro k p hp
  obtain ⟨l, e⟩ := h k
  exact g k p (by rw [e]; exact List.mem_append_left _ hp)

theorem trk_rel_hc (N : PK → List String) : IxRel (fun s s' => Trk_hc N s → Trk_hc N s') :=
  .of_step (fun _ h => h) (fun h1 h2 h => h2 (h1 h)) fun k s x hx h => by
    obtain ⟨hun, hix, hnext⟩ := stepK_hit hx
    refine ⟨fun k' n hn => h.sub k' n ?_, fun k' n hn => ?_⟩
    · rw [hun] at hn
      split at hn
      · next e => subst e; exact List.mem_of_mem_erase hn
      · exact hn
    · rw [hun, hix, hnext]
      by_cases e : k' = k
      · subst e
        rw [if_pos rfl, if_pos rfl]
        rcases h.cov k' n hn with h' | ⟨j, hj, hm⟩
        · by_cases en : n = x
          · subst en
            exact Or.inr ⟨s.next, Nat.lt_succ_self _, List.mem_append_right _ (by simp)⟩
          · exact Or.inl ((List.mem_erase_of_ne en).2 h')
        · exact Or.inr ⟨j, Nat.lt_succ_of_lt hj, List.mem_append_left _ hm⟩
      · rw [if_neg e, if_neg e]
        rcases h.cov k' n hn with h' | ⟨j, hj, hm⟩
        · exact Or.inl h'
        · exact Or.inr ⟨j, Nat.lt_succ_of_lt hj, hm⟩

theorem Trk_hc.ixT {N : PK → List String} {s : IxState} (h : Trk_hc N s) (t : T) : Trk_hc N (ixT s t) :=
  ixT_rel (trk_rel_hc N) t s h
theorem Trk_hc.ty {N : PK → List String} {s : IxState} (h : Trk_hc N s) (x : String) : Trk_hc N (tyIdent s x).1 :=
  (trk_rel_hc N).ty s x h
theorem Trk_hc.ex {N : PK → List String} {s : IxState} (h : Trk_hc N s) (x : String) : Trk_hc N (exIdent s x) :=
  (trk_rel_hc N).ex s x h

/-- the core of the simulation: a name spelled like the CURRENT number that the run knows (`x ∈ N k`) is still waiting -/
theorem waiting_of_current_hc {N : PK → List String} {s : IxState} (tr : Trk_hc N s) (g : GForm_hc s) {k : PK} {x : String}
    (hx : x = genIndexedIdent s.next) (hN : x ∈ N k) : x ∈ s.un k := by
  rcases tr.cov k x hN with h | ⟨j, hj, hm⟩
  · exact h
  · have := g k _ hm
    simp only at this
    rw [hx] at this
    have := genIndexedIdent_inj this
    omega

/-- a name indexed by a step in `GForm_hc` is spelled like the current number -/
theorem hit_current_hc {k : PK} {s : IxState} {x : String} (h : x ∈ s.un k) (g : GForm_hc (stepK k s x)) :
    x = genIndexedIdent s.next := by
  have := g k (x, s.next) (by rw [(stepK_hit h).2.1 k, if_pos rfl]; exact List.mem_append_right _ (by simp))
  exact this

/-- one primitive step keeps the two runs together -/
theorem sim_step_hc {N1 N2 : PK → List String} (k : PK) {s1 s2 : IxState} {x : String} (e : SameIx_hc s1 s2)
    (t1 : Trk_hc N1 s1) (t2 : Trk_hc N2 s2) (h1 : reserved_cr x = true → x ∈ N1 k) (h2 : reserved_cr x = true → x ∈ N2 k)
    (g1 : GForm_hc (stepK k s1 x)) (g2 : GForm_hc (stepK k s2 x)) :
    SameIx_hc (stepK k s1 x) (stepK k s2 x) := by
  by_cases m1 : x ∈ s1.un k <;> by_cases m2 : x ∈ s2.un k
  · obtain ⟨_, a1, b1⟩ := stepK_hit m1
    obtain ⟨_, a2, b2⟩ := stepK_hit m2
    refine ⟨fun k' => ?_, by rw [b1, b2, e.2]⟩
    rw [a1, a2, e.1 k, e.1 k', e.2]
  · exfalso
    have hx := hit_current_hc m1 g1
    rw [stepK_miss m2] at g2
    rw [e.2] at hx
    exact m2 (waiting_of_current_hc t2 g2 hx (h2 (by rw [hx]; exact reserved_gen_cr _)))
  · exfalso
    have hx := hit_current_hc m2 g2
    rw [stepK_miss m1] at g1
    rw [← e.2] at hx
    exact m1 (waiting_of_current_hc t1 g1 hx (h1 (by rw [hx]; exact reserved_gen_cr _)))
  · rw [stepK_miss m1, stepK_miss m2]
    exact e

/-- in expression position a name that is a const parameter whenever it is reserved does not hit the type table -/
theorem ex_is_co_hc {N : PK → List String} (hd : ∀ n, n ∈ N .ty → n ∈ N .co → False) {s : IxState} {x : String}
    (tr : Trk_hc N s) (h : reserved_cr x = true → x ∈ N .co) (g : GForm_hc (exIdent s x)) :
    exIdent s x = stepK .co s x := by
  by_cases m : x ∈ s.unTy
  · exfalso
    rw [exIdent_of_mem m] at g
    have hx := hit_current_hc (k := .ty) m g
    exact hd x (tr.sub .ty x m) (h (by rw [hx]; exact reserved_gen_cr _))
  · exact exIdent_of_not_mem m

theorem sim_ex_hc {N1 N2 : PK → List String} (hd1 : ∀ n, n ∈ N1 .ty → n ∈ N1 .co → False)
    (hd2 : ∀ n, n ∈ N2 .ty → n ∈ N2 .co → False) {s1 s2 : IxState} {x : String} (e : SameIx_hc s1 s2)
    (t1 : Trk_hc N1 s1) (t2 : Trk_hc N2 s2) (h1 : reserved_cr x = true → x ∈ N1 .co) (h2 : reserved_cr x = true → x ∈ N2 .co)
    (g1 : GForm_hc (exIdent s1 x)) (g2 : GForm_hc (exIdent s2 x)) : SameIx_hc (exIdent s1 x) (exIdent s2 x) := by
  have e1 := ex_is_co_hc hd1 t1 h1 g1
  have e2 := ex_is_co_hc hd2 t2 h2 g2
  rw [e1] at g1 ⊢
  rw [e2] at g2 ⊢
  exact sim_step_hc .co e t1 t2 h1 h2 g1 g2

/-- the names of a context per kind, after the renaming -/
def CCtx.img_hc (c : CCtx) : PK → List String
  | .lt => c.imgLt | .ty => c.imgTy | .co => c.imgCo

theorem resIn_mem_hc {names : List String} {n : String} (h : resIn_hc names n = true) (hr : reserved_cr n = true) : n ∈ names := by
  simp only [resIn_hc, Bool.or_eq_true, Bool.not_eq_true', List.contains_iff_mem] at h
  rcases h with h | h
  · rw [hr] at h; cases h
  · exact h

section Sim
variable (c1 c2 : CCtx) (hd1 : ∀ n, n ∈ c1.imgTy → n ∈ c1.imgCo → False) (hd2 : ∀ n, n ∈ c2.imgTy → n ∈ c2.imgCo → False)

/-- the statement of the simulation for one tree -/
def SimAt_hc (t : T) : Prop :=
  alP (strayP_hc c1) t = true → alP (strayP_hc c2) t = true → ∀ s1 s2, SameIx_hc s1 s2 → Trk_hc c1.img_hc s1 → Trk_hc c2.img_hc s2 →
    GForm_hc (ixT s1 t) → GForm_hc (ixT s2 t) → SameIx_hc (ixT s1 t) (ixT s2 t)

theorem sim_ixL_of_hc : ∀ (ks : List T), (∀ t ∈ ks, SimAt_hc c1 c2 t) →
    alPL (strayP_hc c1) ks = true → alPL (strayP_hc c2) ks = true → ∀ s1 s2, SameIx_hc s1 s2 → Trk_hc c1.img_hc s1 →
    Trk_hc c2.img_hc s2 → GForm_hc (ixL s1 ks) → GForm_hc (ixL s2 ks) → SameIx_hc (ixL s1 ks) (ixL s2 ks)
  | [], _, _, _, s1, s2, e, _, _, _, _ => by rw [ixL_nil, ixL_nil]; exact e
  | t :: ts, ih, p1, p2, s1, s2, e, t1, t2, g1, g2 => by
      have p1' := List.all_eq_true.1 (by rwa [alPL_all] at p1)
      have p2' := List.all_eq_true.1 (by rwa [alPL_all] at p2)
      rw [ixL_cons] at g1 g2 ⊢
      have pre : ∀ s, Pre_hc (ixT s t) (ixL (ixT s t) ts) := fun s => ixL_rel pre_rel_hc ts (fun t' _ => ixT_rel pre_rel_hc t') _
      have e' := ih t (by simp) (p1' t (by simp)) (p2' t (by simp)) s1 s2 e t1 t2 (GForm_of_pre_hc (pre s1) g1)
        (GForm_of_pre_hc (pre s2) g2)
      exact sim_ixL_of_hc ts (fun t' ht' => ih t' (List.mem_cons_of_mem _ ht'))
        (by rw [alPL_all, List.all_eq_true]; exact fun t' ht' => p1' t' (List.mem_cons_of_mem _ ht'))
        (by rw [alPL_all, List.all_eq_true]; exact fun t' ht' => p2' t' (List.mem_cons_of_mem _ ht')) _ _ e' (t1.ixT t) (t2.ixT t) g1 g2

include hd1 hd2 in
/-- **two runs of the indexer over the same tree stay together** -/
theorem sim_ixT_hc (t : T) : SimAt_hc c1 c2 t := by
  induction t using T.shapeInd with
  | tparam n =>
    intro p1 p2 s1 s2 e t1 t2 g1 g2
    rw [alP] at p1 p2
    rw [ixT_tparam] at g1 g2 ⊢
    exact sim_step_hc .ty e t1 t2 (resIn_mem_hc p1) (resIn_mem_hc p2) g1 g2
  | eparam n =>
    intro p1 p2 s1 s2 e t1 t2 g1 g2
    rw [alP] at p1 p2
    rw [ixT_eparam] at g1 g2 ⊢
    exact sim_ex_hc hd1 hd2 e t1 t2 (resIn_mem_hc p1) (resIn_mem_hc p2) g1 g2
  | ign as ks => intro _ _ s1 s2 e _ _ _ _; rw [ixT_ign, ixT_ign]; exact e
  | eq as ks => intro _ _ s1 s2 e _ _ _ _; rw [ixT_eq, ixT_eq]; exact e
  | lifetime as x =>
    intro p1 p2 s1 s2 e t1 t2 g1 g2
    rw [alP] at p1 p2
    rw [ixT_lifetime] at g1 g2 ⊢
    exact sim_step_hc .lt e t1 t2 (resIn_mem_hc p1) (resIn_mem_hc p2) g1 g2
  | typePath as q p ihq ihp =>
    intro p1 p2 s1 s2 e t1 t2 g1 g2
    obtain ⟨q1, pp1, x1⟩ := alP_typePath_iff.1 p1
    obtain ⟨q2, pp2, x2⟩ := alP_typePath_iff.1 p2
    rw [ixT_typePath] at g1 g2
    rw [ixT_typePath, ixT_typePath]
    have preP : ∀ s, Pre_hc s (ixT s p) := fun s => ixT_rel pre_rel_hc p s
    have gm1 := GForm_of_pre_hc (preP _) g1
    have gm2 := GForm_of_pre_hc (preP _) g2
    cases hf : firstSegIdent p with
    | none =>
      rw [hf] at g1 g2 gm1 gm2
      simp only at g1 g2 gm1 gm2 ⊢
      exact ihp pp1 pp2 _ _ (ihq q1 q2 s1 s2 e t1 t2 gm1 gm2) (t1.ixT q) (t2.ixT q) g1 g2
    | some x =>
      rw [hf] at g1 g2 gm1 gm2
      simp only at g1 g2 gm1 gm2 ⊢
      have gq1 := GForm_of_pre_hc (pre_rel_hc.ty (ixT s1 q) x) gm1
      have gq2 := GForm_of_pre_hc (pre_rel_hc.ty (ixT s2 q) x) gm2
      have eq := ihq q1 q2 s1 s2 e t1 t2 gq1 gq2
      have em := sim_step_hc .ty eq (t1.ixT q) (t2.ixT q) (resIn_mem_hc (x1 x hf)) (resIn_mem_hc (x2 x hf)) gm1 gm2
      exact ihp pp1 pp2 _ _ em ((t1.ixT q).ty x) ((t2.ixT q).ty x) g1 g2
  | exprPath as a q p _ ihq ihp =>
    intro p1 p2 s1 s2 e t1 t2 g1 g2
    obtain ⟨_, q1, pp1, x1⟩ := alP_exprPath_iff.1 p1
    obtain ⟨_, q2, pp2, x2⟩ := alP_exprPath_iff.1 p2
    rw [ixT_exprPath] at g1 g2
    rw [ixT_exprPath, ixT_exprPath]
    have preP : ∀ s, Pre_hc s (ixT s p) := fun s => ixT_rel pre_rel_hc p s
    have gm1 := GForm_of_pre_hc (preP _) g1
    have gm2 := GForm_of_pre_hc (preP _) g2
    cases hf : firstSegIdent p with
    | none =>
      rw [hf] at g1 g2 gm1 gm2
      simp only at g1 g2 gm1 gm2 ⊢
      exact ihp pp1 pp2 _ _ (ihq q1 q2 s1 s2 e t1 t2 gm1 gm2) (t1.ixT q) (t2.ixT q) g1 g2
    | some x =>
      rw [hf] at g1 g2 gm1 gm2
      simp only at g1 g2 gm1 gm2 ⊢
      have gq1 := GForm_of_pre_hc (pre_rel_hc.ex (ixT s1 q) x) gm1
      have gq2 := GForm_of_pre_hc (pre_rel_hc.ex (ixT s2 q) x) gm2
      have eq := ihq q1 q2 s1 s2 e t1 t2 gq1 gq2
      have em := sim_ex_hc hd1 hd2 eq (t1.ixT q) (t2.ixT q) (resIn_mem_hc (x1 x hf)) (resIn_mem_hc (x2 x hf)) gm1 gm2
      exact ihp pp1 pp2 _ _ em ((t1.ixT q).ex x) ((t2.ixT q).ex x) g1 g2
  | other k as ks h ih =>
    intro p1 p2 s1 s2 e t1 t2 g1 g2
    by_cases hg : k = "Generics"
    · subst hg
      rw [ixT_generics, ixT_generics]; exact e
    · rw [(alP_allKids _).other as h, ← alPL_all] at p1 p2
      rw [ixT_of_other _ as h hg] at g1 g2
      rw [ixT_of_other _ as h hg, ixT_of_other _ as h hg]
      exact sim_ixL_of_hc c1 c2 ks ih p1 p2 s1 s2 e t1 t2 g1 g2

end Sim

/-! ### The two runs over the canonical header -/

theorem rsOK_hdrOf_hc (c : CCtx) (tr s : Option T) (h1 : ∀ p, tr = some p → rsOK c p = true)
    (h2 : ∀ p, s = some p → rsOK c p = true) : rsOK c (hdrOf_hc tr s) = true := by
  cases tr <;> cases s <;> simp [hdrOf_hc, (rsOK_allKids c).node, h1, h2]

/-- the tree clause of `canonWF` holds for the header -/
theorem rsOK_mkHdr_hc (c : CCtx) (item : T) (h : rsOK c item = true) : rsOK c (mkHdr item) = true := by
  rw [mkHdr_eq_hc]
  by_cases hi : IsImpl_hc item
  · obtain ⟨a, d, u, g, tr, s, items, rfl⟩ := hi
    have hk := (rsOK_allKids c).kids [] (nodeOther_of5 _ (by simp)) h
    apply rsOK_hdrOf_hc
    · intro p hp
      rw [implTraitPath_impl_hc] at hp
      obtain ⟨b, rfl⟩ := trPathOf_some_hc hp
      have h1 : rsOK c (.node "Some" [] [.node "Tuple" [] [b, p]]) = true := hk _ (by simp)
      rw [(rsOK_allKids c).node _ _ (by simp), List.all_cons, List.all_nil, Bool.and_true] at h1
      exact (rsOK_allKids c).kids [] (nodeOther_of5 _ (by simp)) h1 p (by simp)
    · intro p hp
      cases hp
      exact hk _ (by simp)
  · rw [implSelfTy_none_hc hi, implTraitPath_none_hc hi]
    exact rsOK_hdrOf_hc c none none (fun _ h => by cases h) (fun _ h => by cases h)

theorem mapS_un_init_hc (item : T) (k : PK) :
    (mapS (indexImpl item).renaming (ixInit item)).un k = (canonCtx item).img_hc k := by
  cases k <;> rfl

/-- indexing the canonical header from the renamed start state gives the renamed state of the header -/
theorem hdr_run_hc (item : T) (hwf : canonWF item = true) :
    ixT (mapS (indexImpl item).renaming (ixInit item)) (mkHdr (canon item)) = mapS (indexImpl item).renaming (hdrIx_hc item) := by
  obtain ⟨_, hd, hdf, hrs⟩ := canonWF_parts hwf
  rw [mkHdr_canon_hc]
  exact ixT_comm (canonCtx item) (canon_stat item hd hdf) (mkHdr item) (rsOK_mkHdr_hc _ item hrs) (ixInit item) (un_init_hc item)

/-- every name of the renamed header state is spelled like its number -/
theorem hdr_gform_hc (item : T) (hwf : canonWF item = true) (hf : hdrFirst_hc item = true) :
    GForm_hc (mapS (indexImpl item).renaming (hdrIx_hc item)) := by
  obtain ⟨_, hd, _, _⟩ := canonWF_parts hwf
  intro k p hp
  rw [mapS_ix] at hp
  obtain ⟨⟨x, i⟩, hxi, rfl⟩ := List.mem_map.1 hp
  simp only
  obtain ⟨l, e⟩ := hdr_rel_hc pre_rel_hc item hf k
  have hm : (x, genIndexedIdent i) ∈ (canonCtx item).m k := by
    rw [canonCtx_m, e]
    exact List.mem_map.2 ⟨(x, i), List.mem_append_left _ hxi, rfl⟩
  have hl := rlookup_of_mem_nodup (keys_nodup_of_distinct item hd k) hm
  have e2 : (indexImpl item).renaming.m k = (canonCtx item).m k := by cases k <;> rfl
  rw [e2]
  exact rn_of_some hl

theorem trk_init_hc (item : T) :
    Trk_hc (canonCtx item).img_hc (mapS (indexImpl item).renaming (ixInit item)) := by
  refine ⟨fun k n hn => ?_, fun k n hn => Or.inl ?_⟩
  · rw [mapS_un_init_hc] at hn; exact hn
  · rw [mapS_un_init_hc]; exact hn

theorem renaming_m_snd_hc (s : IxState) (k : PK) :
    (s.renaming.m k).map Prod.snd = ((s.ix k).map Prod.snd).map genIndexedIdent := by
  rw [renaming_m, List.map_map, List.map_map]
  rfl

/-- nothing is numbered at the start, whatever the names are renamed to (`r`, `r'` are variables: with the computed
    renamings in their place the unifier unfolds the indexer) -/
theorem sameIx_init_hc (r r' : Renaming) (item item' : T) :
    SameIx_hc (mapS r (ixInit item)) (mapS r' (ixInit item')) :=
  ⟨fun k => by cases k <;> rfl, rfl⟩

/-- **equal canonical headers were handed the same names**, per name space, in the order of the numbering -/
theorem hdr_names_hc (item item' : T) (hwf : canonWF item = true) (hwf' : canonWF item' = true)
    (hf : hdrFirst_hc item = true) (hf' : hdrFirst_hc item' = true) (hs : strayFree_hc item = true)
    (hs' : strayFree_hc item' = true) (e : mkHdr (canon item) = mkHdr (canon item')) (k : PK) :
    ((hdrRenaming_hc item').m k).map Prod.snd = ((hdrRenaming_hc item).m k).map Prod.snd := by
  obtain ⟨_, hd, hdf, _⟩ := canonWF_parts hwf
  obtain ⟨_, hd', hdf', _⟩ := canonWF_parts hwf'
  have st := canon_stat item hd hdf
  have st' := canon_stat item' hd' hdf'
  have r1 := hdr_run_hc item hwf
  have r2 := hdr_run_hc item' hwf'
  rw [← e] at r2
  unfold strayFree_hc at hs hs'
  rw [← e] at hs'
  have sim := sim_ixT_hc (canonCtx item) (canonCtx item') st.img_disjoint st'.img_disjoint (mkHdr (canon item)) hs hs'
    (mapS (indexImpl item).renaming (ixInit item)) (mapS (indexImpl item').renaming (ixInit item'))
    (sameIx_init_hc _ _ item item') (trk_init_hc item) (trk_init_hc item')
    (by rw [r1]; exact hdr_gform_hc item hwf hf) (by rw [r2]; exact hdr_gform_hc item' hwf' hf')
  rw [r1, r2] at sim
  have ek := congrArg (List.map Prod.snd) (sim.1 k)
  rw [mapS_ix, mapS_ix, List.map_map, List.map_map] at ek
  unfold hdrRenaming_hc
  rw [renaming_m_snd_hc, renaming_m_snd_hc]
  exact congrArg (List.map genIndexedIdent) ek.symm

/-! ### The header-level converse -/

theorem hdr_invOK_hc (item : T) : InvOK_rt (hdrRenaming_hc item) :=
  invOK_of_idxInv_rt _ (ixT_rel idxInv_rel (mkHdr item) (ixInit item) (ixInit_idxInv item))

theorem hdrConverseOK_parts_hc {item : T} (h : hdrConverseOK_hc item = true) :
    canonWF item = true ∧ hdrFirst_hc item = true ∧ ixVis (mkHdr item) = true ∧ hdrShapeOK_hc item = true ∧
    strayFree_hc item = true := by
  simp only [hdrConverseOK_hc, Bool.and_eq_true] at h
  exact ⟨h.1.1.1.1, h.1.1.1.2, h.1.1.2, h.1.2, h.2⟩

/-- **equal canonical headers come only from headers that are textual renamings of each other**, by the computed renaming
    `rH ; rH'⁻¹` of the two headers -/
theorem same_header_only_if_renaming_hc (item item' : T) (h : hdrConverseOK_hc item = true)
    (h' : hdrConverseOK_hc item' = true) (e : mkHdr (canon item) = mkHdr (canon item')) :
    acT_cr (hdrRenamingBetween_hc item item') (mkHdr item) = mkHdr item' := by
  obtain ⟨hwf, hf, hv, hsh, hs⟩ := hdrConverseOK_parts_hc h
  obtain ⟨hwf', hf', hv', hsh', hs'⟩ := hdrConverseOK_parts_hc h'
  have hn := hdr_names_hc item item' hwf hwf' hf hf' hs hs' e
  simp only [hdrShapeOK_hc, Bool.and_eq_true] at hsh hsh'
  rw [mkHdr_canon_local_hc item hwf hf hv, mkHdr_canon_local_hc item' hwf' hf' hv'] at e
  exact same_resolved_only_if_renaming_rt (hdr_invOK_hc item) (hdr_invOK_hc item') (hn .lt) (hn .ty) (hn .co) _ _
    hsh.1.1.1 hsh'.1.1.1 hsh.1.1.2 hsh'.1.1.2 hsh.1.2 hsh'.1.2 hsh'.2 e

theorem acT_hdrOf_hc (π : Renaming) (tr s : Option T) :
    acT_cr π (hdrOf_hc tr s) = hdrOf_hc (tr.map (acT_cr π)) (s.map (acT_cr π)) := by
  cases tr <;> cases s <;>
    simp only [hdrOf_hc, Option.map, Option.getD, acT_other_cr, acL_cons_cr, acL_nil_cr, Oth5, ne_eq, String.reduceEq,
      not_false_eq_true, and_self]

theorem implSelfTy_isSome_hc {item : T} (h : implDeclsOK item = true) : ∃ s, implSelfTy item = some s := by
  obtain ⟨a, d, u, lt0, ps, gt0, wc, tr, sf, items, rfl, _⟩ := implDeclsOK_inv h
  exact ⟨sf, rfl⟩

/-- … for the trait path and the self type separately -/
theorem same_header_parts_hc (item item' : T) (h : hdrConverseOK_hc item = true)
    (h' : hdrConverseOK_hc item' = true) (e : mkHdr (canon item) = mkHdr (canon item')) :
    (implTraitPath item).map (acT_cr (hdrRenamingBetween_hc item item')) = implTraitPath item' ∧
    (implSelfTy item).map (acT_cr (hdrRenamingBetween_hc item item')) = implSelfTy item' := by
  have key := same_header_only_if_renaming_hc item item' h h' e
  obtain ⟨s, hs⟩ := implSelfTy_isSome_hc (canonWF_parts (hdrConverseOK_parts_hc h).1).1
  obtain ⟨s', hs'⟩ := implSelfTy_isSome_hc (canonWF_parts (hdrConverseOK_parts_hc h').1).1
  rw [mkHdr_eq_hc item, acT_hdrOf_hc, mkHdr_eq_hc item', hs, hs'] at key
  rw [hs, hs']
  exact ⟨(hdrOf_inj_hc key).1, congrArg some (hdrOf_inj_hc key).2⟩

end DI

/-
  Reverse substitution (`RevSub.lean`) on the side of the model: what the reverse map of a substitution answers,
  the cartesian product, the equations of `revSub` in terms of what the map offers, and the round trip under the
  side condition `Untouched`. The specification and exactness are in `RevSubExact.lean`. Core-only.
-/
import DisjointImpls.RevSub
import DisjointImpls.Sem
import DisjointImpls.Lemmas.MatchSound
namespace DI

/-! ### What the reverse map of a substitution answers -/

/-- the parameters with an explicit entry `(p, v)` in σ, in insertion order -/
def offered_rx (σ : Subst) (v : Val) : List String :=
  (σ.filter (fun e => decide (e.2 = v))).map Prod.fst

theorem offered_cons_rx (n : String) (w : Val) (σ : Subst) (v : Val) :
    offered_rx ((n, w) :: σ) v = if w = v then n :: offered_rx σ v else offered_rx σ v := by
  unfold offered_rx
  by_cases h : w = v <;> simp [h]

theorem mem_offered_rx {σ : Subst} {v : Val} {p : String} : p ∈ offered_rx σ v ↔ (p, v) ∈ σ := by
  unfold offered_rx
  simp only [List.mem_map, List.mem_filter, decide_eq_true_eq]
  constructor
  · rintro ⟨⟨q, w⟩, ⟨hm, rfl⟩, rfl⟩; exact hm
  · intro h; exact ⟨(p, v), ⟨h, rfl⟩, rfl⟩

theorem offered_sublist_rx (σ : Subst) (v : Val) : (offered_rx σ v).Sublist (σ.map Prod.fst) :=
  List.Sublist.map _ List.filter_sublist

/-- for distinct keys the offered parameters are exactly the parameters bound to the value -/
theorem mem_offered_iff_lookup_rx {σ : Subst} (hσ : (σ.map Prod.fst).Nodup) {v : Val} {p : String} :
    p ∈ offered_rx σ v ↔ lookup σ p = some v := by
  rw [mem_offered_rx]
  exact ⟨lookup_of_mem_nodup σ p v hσ, lookup_mem σ p v⟩

theorem RevMap.find_add : ∀ (rm : RevMap) (n : String) (v w : Val),
    RevMap.find (RevMap.add rm n v) w =
      if w = v then some ((RevMap.find rm v).getD [] ++ [n]) else RevMap.find rm w
  | [], n, v, w => by
      by_cases h : w = v <;> simp [RevMap.add, RevMap.find, h, Ne.symm]
  | (u, ns) :: rest, n, v, w => by
      by_cases huv : u = v
      · subst huv
        by_cases h : w = u <;> simp [RevMap.add, RevMap.find, h, Ne.symm]
      · simp only [RevMap.add, if_neg huv, RevMap.find, RevMap.find_add rest n v w]
        by_cases h : w = v
        · subst h; simp [huv]
        · simp only [if_neg h]

/-- `find` on the reverse map built on top of `rm` -/
theorem find_foldl_rx : ∀ (σ : Subst) (rm : RevMap) (v : Val),
    RevMap.find (σ.foldl (fun acc p => RevMap.add acc p.1 p.2) rm) v =
      if offered_rx σ v = [] then RevMap.find rm v
      else some ((RevMap.find rm v).getD [] ++ offered_rx σ v)
  | [], rm, v => by simp [offered_rx]
  | (n, w) :: rest, rm, v => by
      rw [List.foldl_cons, find_foldl_rx rest (RevMap.add rm n w) v, RevMap.find_add, offered_cons_rx]
      by_cases hvw : v = w
      · subst hvw
        by_cases ho : offered_rx rest v = [] <;> simp [ho]
      · simp only [if_neg hvw, if_neg (Ne.symm hvw)]

/-- the reverse map of σ answers a query with exactly the offered parameters (no side condition) -/
theorem reverseMap_find_eq_rx (σ : Subst) (v : Val) :
    RevMap.find (reverseMap σ) v = if offered_rx σ v = [] then none else some (offered_rx σ v) := by
  unfold reverseMap
  rw [find_foldl_rx]
  simp [RevMap.find]

theorem reverseMap_no_empty_hit_rx (σ : Subst) (v : Val) : RevMap.find (reverseMap σ) v ≠ some [] := by
  rw [reverseMap_find_eq_rx]
  split
  · nofun
  · next h => exact fun e => h (Option.some.inj e)

/-- what a reverse map offers for a value -/
def offOf_rx (rm : RevMap) : Val → List String := fun v => (RevMap.find rm v).getD []

theorem offOf_reverseMap_rx (σ : Subst) : offOf_rx (reverseMap σ) = offered_rx σ := by
  funext v
  unfold offOf_rx
  rw [reverseMap_find_eq_rx]
  split
  · next h => exact h.symm
  · rfl

/-- a reverse map built from identity bindings only never answers a `ty`/`ex` query -/
theorem reverseMap_find_identity {σ : Subst} (h : allIdentity σ = true) {v : Val} (hv : v ≠ .identity) :
    RevMap.find (reverseMap σ) v = none := by
  rw [reverseMap_find_eq_rx, if_pos]
  refine List.eq_nil_iff_forall_not_mem.2 fun p hp => hv ?_
  exact (eq_of_beq (List.all_eq_true.1 h _ (mem_offered_rx.1 hp))).symm ▸ rfl

/-! ### Products: `cartesian` -/

theorem mem_cartesian_cons {xs : List T} {rest : List (List T)} {l : List T} :
    l ∈ cartesian (xs :: rest) ↔ ∃ x ∈ xs, ∃ tl ∈ cartesian rest, x :: tl = l := by
  simp only [cartesian, List.mem_flatMap, List.mem_map]

theorem length_cartesian_cons (xs : List T) (rest : List (List T)) :
    (cartesian (xs :: rest)).length = xs.length * (cartesian rest).length :=
  length_flatMap_map _ _ xs

theorem cartesian_ne_nil : ∀ (xss : List (List T)), (∀ xs ∈ xss, xs ≠ []) → cartesian xss ≠ []
  | [], _ => by simp [cartesian]
  | xs :: rest, h => by
      obtain ⟨x, hx⟩ := List.exists_mem_of_ne_nil _ (h xs (by simp))
      obtain ⟨tl, htl⟩ := List.exists_mem_of_ne_nil _
        (cartesian_ne_nil rest (fun ys hy => h ys (List.mem_cons_of_mem _ hy)))
      exact List.ne_nil_of_mem (mem_cartesian_cons.2 ⟨x, hx, tl, htl, rfl⟩)

theorem cartesian_singletons : ∀ (ks : List T), cartesian (ks.map (fun t => [t])) = [ks]
  | [] => by simp [cartesian]
  | t :: ts => by simp [cartesian, cartesian_singletons ts]

theorem cartesian_nodup : ∀ (xss : List (List T)), (∀ xs ∈ xss, xs.Nodup) → (cartesian xss).Nodup
  | [], _ => by simp [cartesian]
  | xs :: rest, h =>
      nodup_flatMap_map (fun _ _ _ _ e => List.cons.inj e) (h xs (by simp))
        (cartesian_nodup rest (fun ys hy => h ys (List.mem_cons_of_mem _ hy)))

/-! ### The equations of `revSub`, in terms of what the map offers -/

def isVerbatimKind (k : String) : Bool := k == "Ign" || k == "IgnL" || k == "Eq"

theorem revSubL_eq_map (rm : RevMap) : ∀ ks : List T, revSubL rm ks = ks.map (revSub rm)
  | [] => by rw [revSubL]; rfl
  | t :: ts => by rw [revSubL, revSubL_eq_map rm ts]; rfl

theorem revSub_tparam (rm : RevMap) (n : String) :
    revSub rm (.tparam n) =
      if offOf_rx rm (.ty (.tparam n)) = [] then [.tparam n] else (offOf_rx rm (.ty (.tparam n))).map .tparam := by
  rw [revSub]; unfold offOf_rx
  cases RevMap.find rm (.ty (.tparam n)) with
  | none => rfl
  | some ns => cases ns <;> rfl

theorem revSub_eparam (rm : RevMap) (n : String) :
    revSub rm (.eparam n) =
      if offOf_rx rm (.ex (.eparam n)) = [] then [.eparam n] else (offOf_rx rm (.ex (.eparam n))).map .eparam := by
  rw [revSub]; unfold offOf_rx
  cases RevMap.find rm (.ex (.eparam n)) with
  | none => rfl
  | some ns => cases ns <;> rfl

/-- a node, for a reverse map without empty hits: replaced as a whole by what is offered for it under its own kind,
    kept verbatim, or rebuilt from the rewritten children -/
theorem revSub_node {rm : RevMap} (hne : ∀ v, RevMap.find rm v ≠ some []) (k : String) (as : List String)
    (ks : List T) :
    revSub rm (.node k as ks) =
      if isTypeKind k then
        if offOf_rx rm (.ty (.node k as ks)) = [] then (cartesian (revSubL rm ks)).map (.node k as)
        else (offOf_rx rm (.ty (.node k as ks))).map .tparam
      else if isExprKind k then
        if offOf_rx rm (.ex (.node k as ks)) = [] then (cartesian (revSubL rm ks)).map (.node k as)
        else (offOf_rx rm (.ex (.node k as ks))).map .eparam
      else if isVerbatimKind k then [.node k as ks]
      else (cartesian (revSubL rm ks)).map (.node k as) := by
  have hT := hne (.ty (.node k as ks))
  have hE := hne (.ex (.node k as ks))
  rw [revSub]; unfold offOf_rx isVerbatimKind
  cases hfT : RevMap.find rm (.ty (.node k as ks)) with
  | none =>
    cases hfE : RevMap.find rm (.ex (.node k as ks)) with
    | none => rfl
    | some ns => cases ns with
      | nil => exact absurd hfE hE
      | cons => rfl
  | some ms =>
    cases ms with
    | nil => exact absurd hfT hT
    | cons =>
      cases hfE : RevMap.find rm (.ex (.node k as ks)) with
      | none => rfl
      | some ns => cases ns with
        | nil => exact absurd hfE hE
        | cons => rfl

/-! ### Any reverse map: the result is non-empty, and `[t]` when nothing is hit -/

theorem revSub_ne_nil (rm : RevMap) : ∀ t : T, revSub rm t ≠ [] := by
  have arm : ∀ (o : Option (List String)) (c : String → T) (t : T) (d : List T), d ≠ [] →
      (match o with
       | some ns => if ns.isEmpty then [t] else ns.map c
       | none => d) ≠ [] := by
    intro o c t d hd
    cases o with
    | none => exact hd
    | some ns => cases ns <;> simp
  apply T.ind
  · intro n; rw [revSub]; exact arm _ _ _ _ (by simp)
  · intro n; rw [revSub]; exact arm _ _ _ _ (by simp)
  · intro k as ks ih
    have hk : (cartesian (revSubL rm ks)).map (T.node k as) ≠ [] := by
      rw [revSubL_eq_map]
      simpa using cartesian_ne_nil _ (by simpa using ih)
    rw [revSub]
    by_cases hT : isTypeKind k = true
    · rw [if_pos hT]; exact arm _ _ _ _ hk
    · rw [if_neg hT]
      by_cases hE : isExprKind k = true
      · rw [if_pos hE]; exact arm _ _ _ _ hk
      · rw [if_neg hE]
        by_cases hV : (k == "Ign" || k == "IgnL" || k == "Eq") = true
        · rw [if_pos hV]; exact List.cons_ne_nil _ _
        · rw [if_neg hV]; exact hk

theorem revSub_of_no_hit (rm : RevMap) (h : ∀ v, v ≠ .identity → RevMap.find rm v = none) :
    ∀ t : T, revSub rm t = [t] := by
  apply T.ind
  · intro n; rw [revSub, h (.ty (.tparam n)) nofun]
  · intro n; rw [revSub, h (.ex (.eparam n)) nofun]
  · intro k as ks ih
    have hk : (cartesian (revSubL rm ks)).map (T.node k as) = [.node k as ks] := by
      rw [revSubL_eq_map, List.map_congr_left (g := fun t => [t]) ih, cartesian_singletons]; rfl
    rw [revSub, h (.ty (.node k as ks)) nofun, h (.ex (.node k as ks)) nofun, hk]
    simp only [ite_self]

/-! ### The side condition of the round trip

`untouched σ t` follows the recursion of `revSub (reverseMap σ)`: below a sub-term that is replaced by
parameters nothing is required; a parameter that is reached and left in place must be fixed by σ
(unbound, bound to `identity`, or bound to itself); a child kept verbatim (`Ign`, `IgnL`, `Eq`) must be
invariant under σ; and a parameter left in place as a generic type argument must not be bound to a const
value (`inst` would turn the argument into a const argument). -/

def tyFixed (σ : Subst) (n : String) : Bool :=
  match lookup σ n with
  | some (.ty t) => t == .tparam n
  | _ => true

def exFixed (σ : Subst) (n : String) : Bool :=
  match lookup σ n with
  | some (.ex e) => e == .eparam n
  | _ => true

def notEx (σ : Subst) (n : String) : Bool :=
  match lookup σ n with
  | some (.ex _) => false
  | _ => true

def hit (rm : RevMap) (v : Val) : Bool := (RevMap.find rm v).isSome

/-- `some n` on `GenericArgument::Type [] [tparam n]`, the shape on which `inst` is not homomorphic -/
def gaParam (k : String) (as : List String) (ks : List T) : Option String :=
  if k == "GenericArgument::Type" && as.isEmpty then
    (match ks with
     | [.tparam n] => some n
     | _ => none)
  else none

def gaOK (σ : Subst) (rm : RevMap) (k : String) (as : List String) (ks : List T) : Bool :=
  match gaParam k as ks with
  | some n => hit rm (.ty (.tparam n)) || notEx σ n
  | none => true

mutual
def untouchedAux (σ : Subst) (rm : RevMap) : T → Bool
  | .tparam n => hit rm (.ty (.tparam n)) || tyFixed σ n
  | .eparam n => hit rm (.ex (.eparam n)) || exFixed σ n
  | .node k as ks =>
      if isTypeKind k then
        hit rm (.ty (.node k as ks)) || (untouchedLAux σ rm ks && gaOK σ rm k as ks)
      else if isExprKind k then
        hit rm (.ex (.node k as ks)) || (untouchedLAux σ rm ks && gaOK σ rm k as ks)
      else if isVerbatimKind k then inst σ (.node k as ks) == .node k as ks
      else untouchedLAux σ rm ks && gaOK σ rm k as ks
def untouchedLAux (σ : Subst) (rm : RevMap) : List T → Bool
  | [] => true
  | t :: ts => untouchedAux σ rm t && untouchedLAux σ rm ts
end

/-- executable form of `Untouched` -/
def untouched (σ : Subst) (t : T) : Bool := untouchedAux σ (reverseMap σ) t

/-- every parameter of `t` that reverse substitution leaves in place is fixed by σ -/
def Untouched (σ : Subst) (t : T) : Prop := untouched σ t = true

instance (σ : Subst) (t : T) : Decidable (Untouched σ t) := by unfold Untouched; infer_instance

theorem untouchedLAux_iff {σ : Subst} {rm : RevMap} : ∀ {ks : List T},
    untouchedLAux σ rm ks = true ↔ ∀ t ∈ ks, untouchedAux σ rm t = true
  | [] => by simp [untouchedLAux]
  | t :: ts => by simp [untouchedLAux, untouchedLAux_iff (ks := ts)]

theorem notEx_eq_nonEx : notEx = nonEx := rfl

theorem gaParam_eq_isGA (k : String) (as : List String) (ks : List T) : gaParam k as ks = isGA k as ks :=
  (isGA_eq_ite k as ks).symm

/-! ### The round trip

Proved for every reverse map `rm` without empty hits whose offers are sound for σ (a parameter offered for a value is
bound to it); `reverseMap σ` is one for distinct keys. -/

theorem hit_of_offOf_nil {rm : RevMap} (hne : ∀ v, RevMap.find rm v ≠ some []) {v : Val} (h : offOf_rx rm v = []) :
    hit rm v = false := by
  unfold offOf_rx at h; unfold hit
  cases hf : RevMap.find rm v with
  | none => rfl
  | some ns => rw [hf] at h; exact absurd (h ▸ hf) (hne v)

theorem tyFixed_inst {σ : Subst} {n : String} (h : tyFixed σ n = true) : inst σ (.tparam n) = .tparam n := by
  unfold tyFixed at h
  split at h
  · next t ht => rw [inst_tparam_ty ht]; exact eq_of_beq h
  · next hne => exact inst_tparam_other (fun t ht => hne t ht)

theorem exFixed_inst {σ : Subst} {n : String} (h : exFixed σ n = true) : inst σ (.eparam n) = .eparam n := by
  unfold exFixed at h
  split at h
  · next t ht => rw [inst_eparam_ex ht]; exact eq_of_beq h
  · next hne => exact inst_eparam_other (fun t ht => hne t ht)

theorem inst_of_mem_hit_ty {σ : Subst} {ns : List String} {t r : T} (hs : ∀ p ∈ ns, lookup σ p = some (.ty t))
    (h : r ∈ ns.map .tparam) : inst σ r = t := by
  obtain ⟨p, hp, rfl⟩ := List.mem_map.1 h
  exact inst_tparam_ty (hs p hp)

theorem inst_of_mem_hit_ex {σ : Subst} {ns : List String} {t r : T} (hs : ∀ p ∈ ns, lookup σ p = some (.ex t))
    (h : r ∈ ns.map .eparam) : inst σ r = t := by
  obtain ⟨p, hp, rfl⟩ := List.mem_map.1 h
  exact inst_eparam_ex (hs p hp)

theorem roundtrip_kids {σ : Subst} {rm : RevMap} : ∀ (ks rs : List T),
    (∀ t ∈ ks, untouchedAux σ rm t = true → ∀ r ∈ revSub rm t, inst σ r = t) →
    untouchedLAux σ rm ks = true → rs ∈ cartesian (revSubL rm ks) → instL σ rs = ks
  | [], rs, _, _, h => by
      rw [revSubL] at h; simp only [cartesian, List.mem_singleton] at h
      subst h; rw [instL]
  | t :: ts, rs, ih, hu, h => by
      rw [revSubL] at h
      obtain ⟨x, hx, tl, htl, rfl⟩ := mem_cartesian_cons.1 h
      rw [untouchedLAux] at hu; simp only [Bool.and_eq_true] at hu
      rw [instL, ih t (by simp) hu.1 x hx,
        roundtrip_kids ts tl (fun t ht => ih t (List.mem_cons_of_mem _ ht)) hu.2 htl]

/-- a node rebuilt from rewritten children instantiates back, given that the children do -/
theorem roundtrip_rebuilt {σ : Subst} {rm : RevMap} (hne : ∀ v, RevMap.find rm v ≠ some [])
    (hs : ∀ v, ∀ p ∈ offOf_rx rm v, lookup σ p = some v) {k : String} {as : List String} {ks : List T}
    (ih : ∀ t ∈ ks, untouchedAux σ rm t = true → ∀ r ∈ revSub rm t, inst σ r = t)
    (hu : (untouchedLAux σ rm ks && gaOK σ rm k as ks) = true) {r : T}
    (hr : r ∈ (cartesian (revSubL rm ks)).map (.node k as)) : inst σ r = .node k as ks := by
  obtain ⟨rs, hrs, rfl⟩ := List.mem_map.1 hr
  rw [Bool.and_eq_true] at hu
  have hkids := roundtrip_kids ks rs ih hu.1 hrs
  rw [inst_node_hom σ, hkids]
  -- the rewritten generic type argument is a bare parameter `p` bound to a const value: then `inst` fixes `p`, so `p`
  -- is the original child, was left in place, and `gaOK` excludes the binding
  intro p hga e he
  obtain ⟨rfl, rfl, rfl⟩ := isGA_some hga
  have hp : inst σ (.tparam p) = .tparam p := inst_tparam_other (fun t ht => by rw [he] at ht; cases ht)
  rw [instL, instL, hp] at hkids
  subst hkids
  rw [revSubL, revSubL] at hrs
  obtain ⟨x, hx, tl, _, e'⟩ := mem_cartesian_cons.1 hrs
  cases e'
  rw [revSub_tparam] at hx
  by_cases ho : offOf_rx rm (.ty (.tparam p)) = []
  · have hok := hu.2
    simp only [gaOK, gaParam_eq_isGA, hga, hit_of_offOf_nil hne ho, Bool.false_or, notEx, he] at hok
    cases hok
  · rw [if_neg ho] at hx
    obtain ⟨q, hq, e'⟩ := List.mem_map.1 hx
    cases e'
    rw [hs _ p hq] at he
    cases he

theorem roundtrip_of_sound {σ : Subst} {rm : RevMap} (hne : ∀ v, RevMap.find rm v ≠ some [])
    (hs : ∀ v, ∀ p ∈ offOf_rx rm v, lookup σ p = some v) : ∀ t : T,
    untouchedAux σ rm t = true → ∀ r ∈ revSub rm t, inst σ r = t := by
  apply T.ind
  · intro n hu r hr
    rw [revSub_tparam] at hr
    by_cases ho : offOf_rx rm (.ty (.tparam n)) = []
    · rw [untouchedAux, hit_of_offOf_nil hne ho] at hu
      rw [if_pos ho, List.mem_singleton] at hr
      rw [hr]; exact tyFixed_inst hu
    · rw [if_neg ho] at hr; exact inst_of_mem_hit_ty (hs _) hr
  · intro n hu r hr
    rw [revSub_eparam] at hr
    by_cases ho : offOf_rx rm (.ex (.eparam n)) = []
    · rw [untouchedAux, hit_of_offOf_nil hne ho] at hu
      rw [if_pos ho, List.mem_singleton] at hr
      rw [hr]; exact exFixed_inst hu
    · rw [if_neg ho] at hr; exact inst_of_mem_hit_ex (hs _) hr
  · intro k as ks ih hu r hr
    rw [revSub_node hne] at hr
    rw [untouchedAux] at hu
    by_cases hT : isTypeKind k = true
    · rw [if_pos hT] at hr hu
      by_cases ho : offOf_rx rm (.ty (.node k as ks)) = []
      · rw [if_pos ho] at hr; rw [hit_of_offOf_nil hne ho] at hu; exact roundtrip_rebuilt hne hs ih hu hr
      · rw [if_neg ho] at hr; exact inst_of_mem_hit_ty (hs _) hr
    · rw [if_neg hT] at hr hu
      by_cases hE : isExprKind k = true
      · rw [if_pos hE] at hr hu
        by_cases ho : offOf_rx rm (.ex (.node k as ks)) = []
        · rw [if_pos ho] at hr; rw [hit_of_offOf_nil hne ho] at hu; exact roundtrip_rebuilt hne hs ih hu hr
        · rw [if_neg ho] at hr; exact inst_of_mem_hit_ex (hs _) hr
      · rw [if_neg hE] at hr hu
        by_cases hV : isVerbatimKind k = true
        · rw [if_pos hV] at hr hu
          rw [List.mem_singleton.1 hr]; exact eq_of_beq hu
        · rw [if_neg hV] at hr hu; exact roundtrip_rebuilt hne hs ih hu hr

theorem roundtrip_all {σ : Subst} (hσ : (σ.map Prod.fst).Nodup) : ∀ t : T,
    untouchedAux σ (reverseMap σ) t = true → ∀ r ∈ revSub (reverseMap σ) t, inst σ r = t :=
  roundtrip_of_sound (reverseMap_no_empty_hit_rx σ)
    (by rw [offOf_reverseMap_rx]; exact fun _ _ => (mem_offered_iff_lookup_rx hσ).1)

/-! ### Distinct results; bound pairs -/

theorem revSub_nodup_of {rm : RevMap} (hne : ∀ v, RevMap.find rm v ≠ some [])
    (hd : ∀ v, (offOf_rx rm v).Nodup) : ∀ t : T, (revSub rm t).Nodup := by
  have hT : ∀ v, ((offOf_rx rm v).map T.tparam).Nodup := fun v => nodup_map_of_inj (fun _ _ => T.tparam.inj) (hd v)
  have hE : ∀ v, ((offOf_rx rm v).map T.eparam).Nodup := fun v => nodup_map_of_inj (fun _ _ => T.eparam.inj) (hd v)
  apply T.ind
  · intro n
    rw [revSub_tparam]
    by_cases ho : offOf_rx rm (.ty (.tparam n)) = []
    · rw [if_pos ho]; exact List.pairwise_singleton _ _
    · rw [if_neg ho]; exact hT _
  · intro n
    rw [revSub_eparam]
    by_cases ho : offOf_rx rm (.ex (.eparam n)) = []
    · rw [if_pos ho]; exact List.pairwise_singleton _ _
    · rw [if_neg ho]; exact hE _
  · intro k as ks ih
    have hk : ((cartesian (revSubL rm ks)).map (T.node k as)).Nodup := by
      refine nodup_map_of_inj (fun _ _ e => (T.node.inj e).2.2) (cartesian_nodup _ ?_)
      rw [revSubL_eq_map]
      simpa using ih
    rw [revSub_node hne]
    by_cases hT' : isTypeKind k = true
    · rw [if_pos hT']
      by_cases ho : offOf_rx rm (.ty (.node k as ks)) = []
      · rw [if_pos ho]; exact hk
      · rw [if_neg ho]; exact hT _
    · rw [if_neg hT']
      by_cases hE' : isExprKind k = true
      · rw [if_pos hE']
        by_cases ho : offOf_rx rm (.ex (.node k as ks)) = []
        · rw [if_pos ho]; exact hk
        · rw [if_neg ho]; exact hE _
      · rw [if_neg hE']
        by_cases hV : isVerbatimKind k = true
        · rw [if_pos hV]; exact List.pairwise_singleton _ _
        · rw [if_neg hV]; exact hk

theorem revSub_nodup {σ : Subst} (hσ : (σ.map Prod.fst).Nodup) : ∀ t : T, (revSub (reverseMap σ) t).Nodup :=
  revSub_nodup_of (reverseMap_no_empty_hit_rx σ)
    (by rw [offOf_reverseMap_rx]; exact fun v => (offered_sublist_rx σ v).nodup hσ)

theorem mem_substituteBound {σ : Subst} {b tr : T} {p : T × T} :
    p ∈ substituteBound σ b tr ↔ p.1 ∈ revSub (reverseMap σ) b ∧ p.2 ∈ revSub (reverseMap σ) tr := by
  obtain ⟨x, y⟩ := p
  simp only [substituteBound, List.mem_flatMap, List.mem_map, Prod.mk.injEq]
  constructor
  · rintro ⟨x', hx, y', hy, rfl, rfl⟩; exact ⟨hx, hy⟩
  · rintro ⟨hx, hy⟩; exact ⟨x, hx, y, hy, rfl, rfl⟩

end DI

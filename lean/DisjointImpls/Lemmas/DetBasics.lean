/-
  The one induction behind the C07 theorems (`Props/C07.lean`) over the determinism model (`Det.lean`).
-/
import DisjointImpls.Det
namespace DI

/-- two runs agree as soon as the consumer cannot tell apart what each container yields under the two seeds -/
theorem runWith_congr {α β : Type} (perm : Nat → List α → List α) (step : β → List α → β) (s₁ s₂ : Nat)
    (cs : List (ContainerKind × List α))
    (h : ∀ c ∈ cs, ∀ acc, step acc (iterate perm c.1 s₁ c.2) = step acc (iterate perm c.1 s₂ c.2)) (init : β) :
    runWith perm s₁ step cs init = runWith perm s₂ step cs init := by
  induction cs generalizing init with
  | nil => rfl
  | cons c rest ih =>
    rw [runWith, runWith, h c List.mem_cons_self]
    exact ih (fun c hc => h c (List.mem_cons_of_mem _ hc)) _

end DI

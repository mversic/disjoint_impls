/-
  Alpha-invariance of the canonical *header* without the condition `deadFixed` (C13 / C06): respelling a declared
  parameter that the indexer never reaches changes the canonical item (finding D21) but not its header (trait path and
  self type), because a name that occurs in a position the indexer visits is indexed (`ixT_complete`).
  Statements: `Props/C13.lean` (`C13_alpha_header_any`).
-/
import DisjointImpls.Lemmas.CanonAlpha
namespace DI
/-! ### A name in a visited position is indexed -/

/-- the names that are no longer waiting in `s` -/
def livePred (s : IxState) : NP :=
  ⟨fun n => !s.unLt.contains n, fun n => !s.unTy.contains n, fun n => !s.unTy.contains n && !s.unCo.contains n⟩

theorem livePred_lt_iff {s : IxState} {n : String} : (livePred s).lt n = true ↔ n ∉ s.unLt := by simp [livePred]
theorem livePred_ty_iff {s : IxState} {n : String} : (livePred s).ty n = true ↔ n ∉ s.unTy := by simp [livePred]
theorem livePred_ex_iff {s : IxState} {n : String} : (livePred s).ex n = true ↔ n ∉ s.unTy ∧ n ∉ s.unCo := by
  simp [livePred]

theorem livePred_lt {s : IxState} {n : String} (h : n ∉ s.unLt) : (livePred s).lt n = true := livePred_lt_iff.2 h
theorem livePred_ty {s : IxState} {n : String} (h : n ∉ s.unTy) : (livePred s).ty n = true := livePred_ty_iff.2 h
theorem livePred_ex {s : IxState} {n : String} (h1 : n ∉ s.unTy) (h2 : n ∉ s.unCo) : (livePred s).ex n = true :=
  livePred_ex_iff.2 ⟨h1, h2⟩

theorem livePred_mono {s s' : IxState} (h : ∀ k, ∀ y ∈ s'.un k, y ∈ s.un k) (t : T)
    (ht : alP (livePred s) t = true) : alP (livePred s') t = true := by
  refine alP_mono ?_ ?_ ?_ t ht
  · exact fun n hn => livePred_lt fun hm => livePred_lt_iff.1 hn (h .lt n hm)
  · exact fun n hn => livePred_ty fun hm => livePred_ty_iff.1 hn (h .ty n hm)
  · exact fun n hn => livePred_ex (fun hm => (livePred_ex_iff.1 hn).1 (h .ty n hm))
      (fun hm => (livePred_ex_iff.1 hn).2 (h .co n hm))

theorem isIgn_inv {a : T} (h : isIgn a = true) : ∃ as ks, a = .node "Ign" as ks := by
  unfold isIgn at h
  split at h
  · exact ⟨_, _, rfl⟩
  · cases h

theorem ixVisL_iff : ∀ {ks : List T}, ixVisL ks = true ↔ ∀ t ∈ ks, ixVis t = true
  | [] => by simp [ixVisL]
  | t :: ts => by simp [ixVisL, ixVisL_iff (ks := ts)]

theorem ixVis_generics (as : List String) (ks : List T) : ixVis (.node "Generics" as ks) = false := by rw [ixVis]

theorem ixVis_exprPath {as : List String} {a q p : T} (h : ixVis (.node "Expr::Path" as [a, q, p]) = true) :
    (∃ as' ks', a = .node "Ign" as' ks') ∧ ixVis q = true ∧ ixVis p = true := by
  rw [ixVis] at h
  simp only [Bool.and_eq_true] at h
  exact ⟨isIgn_inv h.1.1, h.1.2, h.2⟩

theorem ixVis_of_other {k : String} (as : List String) {ks : List T} (h : NodeOther k ks) (hg : k ≠ "Generics") :
    ixVis (.node k as ks) = ixVisL ks :=
  ixVis.eq_7 k as ks h.1 h.2.1 hg fun a q p e1 e2 => h.2.2.2.2 a q p ⟨e1, e2⟩

theorem ixVis_node {k : String} (as : List String) (ks : List T) (h1 : k ≠ "Ign") (h2 : k ≠ "Eq") (h3 : k ≠ "Generics")
    (h4 : k ≠ "Expr::Path") : ixVis (.node k as ks) = ixVisL ks :=
  ixVis.eq_7 k as ks h1 h2 h3 fun _ _ _ e _ => h4 e

theorem ixVis_typePath (as : List String) (q p : T) :
    ixVis (.node "Type::Path" as [q, p]) = (ixVis q && (ixVis p && true)) := by
  rw [ixVis_node as _ (by simp) (by simp) (by simp) (by simp), ixVisL, ixVisL, ixVisL]

theorem nodup_un_of_inv {s : IxState} (h : IxInv s) (k : PK) : (s.un k).Nodup := by
  cases k
  · exact (List.nodup_append.1 h.2.1).2.1
  · exact (List.nodup_append.1 h.2.2.1).2.1
  · exact (List.nodup_append.1 h.2.2.2).2.1

/-- after the step, hit or miss, the name is not waiting in the step's kind -/
theorem stepK_gone {k : PK} {s : IxState} (h : (s.un k).Nodup) (n : String) : n ∉ (stepK k s n).un k := by
  rw [stepK_un, if_pos rfl]
  exact h.not_mem_erase

theorem exIdent_gone {c : CCtx} (st : Stat c) {s : IxState} (hi : IxInv s) (hu : Un c s) (n : String) :
    n ∉ (exIdent s n).unTy ∧ n ∉ (exIdent s n).unCo := by
  by_cases m : n ∈ s.unTy
  · rw [exIdent_of_mem m]
    refine ⟨stepK_gone (nodup_un_of_inv hi .ty) n, fun hco => ?_⟩
    have hco' : n ∈ (stepK .ty s n).un .co := hco
    rw [stepK_un, if_neg (by simp)] at hco'
    cases st.disj .ty .co rfl n (hu .ty n m) (hu .co n hco')
  · rw [exIdent_of_not_mem m]
    refine ⟨fun hty => ?_, stepK_gone (nodup_un_of_inv hi .co) n⟩
    have hty' : n ∈ (stepK .co s n).un .ty := hty
    rw [stepK_un, if_neg (by simp)] at hty'
    exact m hty'

theorem IxInv.ixT {s : IxState} (h : IxInv s) (t : T) : IxInv (ixT s t) := ixT_rel ixInv_rel t s h
theorem IxInv.ty {s : IxState} (h : IxInv s) (x : String) : IxInv (tyIdent s x).1 := ixInv_rel.ty s x h
theorem IxInv.ex {s : IxState} (h : IxInv s) (x : String) : IxInv (exIdent s x) := ixInv_rel.ex s x h

theorem ixL_complete_of {c : CCtx} : ∀ (ks : List T),
    (∀ t ∈ ks, ∀ s, IxInv s → Un c s → ixVis t = true → alP (livePred (ixT s t)) t = true) →
    ∀ s, IxInv s → Un c s → ixVisL ks = true → alPL (livePred (ixL s ks)) ks = true
  | [], _, _, _, _, _ => by rw [alPL]
  | t :: ts, ih, s, hi, hu, hv => by
      have hv' := ixVisL_iff.1 hv
      rw [ixL_cons, alPL, Bool.and_eq_true]
      constructor
      · refine livePred_mono ?_ t (ih t (by simp) s hi hu (hv' t (by simp)))
        exact ixL_rel un_rel ts (fun t' _ => ixT_rel un_rel t') _
      · exact ixL_complete_of ts (fun t' ht' => ih t' (List.mem_cons_of_mem _ ht')) _ (hi.ixT t) (hu.ixT t)
          (ixVisL_iff.2 (fun t' ht' => hv' t' (List.mem_cons_of_mem _ ht')))

/-- **a name that occurs in a position the indexer visits is no longer waiting afterwards** -/
theorem ixT_complete (c : CCtx) (st : Stat c) (t : T) : ∀ (s : IxState), IxInv s → Un c s → ixVis t = true →
    alP (livePred (ixT s t)) t = true := by
  induction t using T.shapeInd with
  | tparam n =>
    intro s hi _ _
    rw [ixT_tparam, alP]
    exact livePred_ty (stepK_gone (nodup_un_of_inv hi .ty) n)
  | eparam n =>
    intro s hi hu _
    rw [ixT_eparam, alP]
    obtain ⟨h1, h2⟩ := exIdent_gone st hi hu n
    exact livePred_ex h1 h2
  | ign as ks => exact fun _ _ _ _ => alP_ign _ as ks
  | eq as ks => exact fun _ _ _ _ => alP_eq _ as ks
  | lifetime as x =>
    intro s hi _ _
    rw [ixT_lifetime, alP]
    exact livePred_lt (stepK_gone (nodup_un_of_inv hi .lt) x)
  | typePath as q p ihq ihp =>
    intro s hi hu hv
    rw [ixVis_typePath] at hv
    simp only [Bool.and_eq_true, and_true] at hv
    have hq := ihq s hi hu hv.1
    rw [ixT_typePath, alP_typePath_iff]
    cases hf : firstSegIdent p with
    | none =>
      simp only
      exact ⟨livePred_mono (ixT_rel un_rel p _) q hq, ihp _ (hi.ixT q) (hu.ixT q) hv.2, fun x hx => by cases hx⟩
    | some x =>
      simp only
      refine ⟨?_, ihp _ ((hi.ixT q).ty x) ((hu.ixT q).ty x) hv.2, ?_⟩
      · refine livePred_mono ?_ q hq
        exact un_rel.trans (un_rel.ty _ x) (ixT_rel un_rel p _)
      · intro x' hx'
        cases hx'
        have hgone := stepK_gone (nodup_un_of_inv (hi.ixT q) .ty) x
        exact livePred_ty (fun hm => hgone (ixT_rel un_rel p _ .ty x hm))
  | exprPath as a q p _ ihq ihp =>
    intro s hi hu hv
    obtain ⟨⟨as', ks', rfl⟩, hvq, hvp⟩ := ixVis_exprPath hv
    have hq := ihq s hi hu hvq
    rw [ixT_exprPath, alP_exprPath_iff]
    cases hf : firstSegIdent p with
    | none =>
      simp only
      exact ⟨alP_ign _ _ _, livePred_mono (ixT_rel un_rel p _) q hq, ihp _ (hi.ixT q) (hu.ixT q) hvp,
        fun x hx => by cases hx⟩
    | some x =>
      simp only
      refine ⟨alP_ign _ _ _, ?_, ihp _ ((hi.ixT q).ex x) ((hu.ixT q).ex x) hvp, ?_⟩
      · refine livePred_mono ?_ q hq
        exact un_rel.trans (un_rel.ex _ x) (ixT_rel un_rel p _)
      · intro x' hx'
        cases hx'
        obtain ⟨g1, g2⟩ := exIdent_gone st (hi.ixT q) (hu.ixT q) x
        exact livePred_ex (fun hm => g1 (ixT_rel un_rel p _ .ty x hm)) (fun hm => g2 (ixT_rel un_rel p _ .co x hm))
  | other k as ks h ih =>
    intro s hi hu hv
    by_cases hg : k = "Generics"
    · subst hg; rw [ixVis_generics] at hv; cases hv
    · have hv2 : ixVisL ks = true := by rwa [ixVis_of_other as h hg] at hv
      rw [ixT_of_other _ as h hg, (alP_allKids _).other as h, ← alPL_all]
      exact ixL_complete_of ks ih s hi hu hv2

/-! ### The header -/

/-- the trait and the self type mention no parameter that is still waiting when the indexer is done -/
theorem header_live (c : CCtx) (st : Stat c) (a d u lt0 : T) (ps : List T) (gt0 wc tr sf items : T)
    (hD : ∀ k, c.D k = kindNames (.node "Generics" [] [lt0, .node "List" [] ps, gt0, wc]) (kindStr k))
    (hinv : IxInv (ixInit (.node "ItemImpl" [] [a, d, u, .node "Generics" [] [lt0, .node "List" [] ps, gt0, wc], tr, sf, items])))
    (hvtr : ixVis tr = true) (hvsf : ixVis sf = true) :
    alP (livePred (indexImpl (.node "ItemImpl" [] [a, d, u, .node "Generics" [] [lt0, .node "List" [] ps, gt0, wc], tr, sf, items]))) tr = true ∧
    alP (livePred (indexImpl (.node "ItemImpl" [] [a, d, u, .node "Generics" [] [lt0, .node "List" [] ps, gt0, wc], tr, sf, items]))) sf = true := by
  have hu0 : Un c (ixInit (.node "ItemImpl" [] [a, d, u, .node "Generics" [] [lt0, .node "List" [] ps, gt0, wc], tr, sf, items])) := by
    intro k y hy
    rw [hD k]
    cases k <;> exact hy
  rw [indexImpl_eq]
  generalize ixInit _ = s0 at hinv hu0
  rw [ixT_item s0 a d u (.node "Generics" [] [lt0, .node "List" [] ps, gt0, wc]) tr sf items ⟨_, _, rfl⟩]
  have i3 : IxInv (ixT (ixT (ixT s0 a) d) u) := ((hinv.ixT a).ixT d).ixT u
  have u3 : Un c (ixT (ixT (ixT s0 a) d) u) := ((hu0.ixT a).ixT d).ixT u
  generalize ixT (ixT (ixT s0 a) d) u = s3 at i3 u3
  have vtr := ixT_complete c st tr s3 i3 u3 hvtr
  have vsf := ixT_complete c st sf (ixT s3 tr) (i3.ixT tr) (u3.ixT tr) hvsf
  constructor
  · refine livePred_mono ?_ tr vtr
    exact un_rel.trans (ixT_rel un_rel sf _) (un_rel.trans (ixT_rel un_rel items _) (ixLoop_rel un_rel _ _ _ _))
  · refine livePred_mono ?_ sf vsf
    exact un_rel.trans (ixT_rel un_rel items _) (ixLoop_rel un_rel _ _ _ _)

/-- **alpha-invariance of the canonical header, also when parameters that occur nowhere are respelled** -/
theorem canon_alpha_header (π : Renaming) (item : T) (hdecl : implDeclsOK item = true)
    (hd : namesDistinct (canonCtx item) = true) (hrs : rsOK (canonCtx item) item = true)
    (hal : alphaOKh π item = true) (hv : hdrVis item = true) :
    mkHdr (canon (alphaRename π item)) = mkHdr (canon item) := by
  simp only [alphaOKh, Bool.and_eq_true] at hal
  obtain ⟨⟨hdom, hinj⟩, hok⟩ := hal
  have st := alpha_stat π item hd hdom hinj
  have hnm := alpha_names π item
  have hinv := ixInit_inv_of_distinct item hd
  have hix := alpha_indexImpl_of π item hdecl st hok
  obtain ⟨a, d, u, lt0, ps, gt0, wc, tr, sf, items, rfl, hps⟩ := implDeclsOK_inv hdecl
  simp only [hdrVis, implTrait, implSelfTy, Bool.and_eq_true] at hv
  have hlive := header_live (alphaCtx π _) st a d u lt0 ps gt0 wc tr sf items (fun k => by cases k <;> rfl) hinv hv.1 hv.2
  generalize hc : alphaCtx π _ = c at st hok hnm hlive
  generalize hcc : canonCtx _ = cc at hrs
  have hπ : c.r = π := by rw [← hc]; rfl
  have hr : cc.r = (indexImpl (.node "ItemImpl" [] [a, d, u, .node "Generics" [] [lt0, .node "List" [] ps, gt0, wc], tr, sf, items])).renaming := by
    rw [← hcc]; rfl
  subst hπ
  obtain ⟨hk, _, _⟩ := (alOK_allKids c).item hok
  obtain ⟨rk, _, _⟩ := (rsOK_allKids cc).item hrs
  -- a name that is no longer waiting is respelled consistently by the two renamings, whatever happens to the others
  have key : ∀ t, alOK c t = true → alP (livePred (indexImpl (.node "ItemImpl" [] [a, d, u, .node "Generics" [] [lt0, .node "List" [] ps, gt0, wc], tr, sf, items]))) t = true →
      rsOK cc t = true →
      rsT (mapS c.r (indexImpl (.node "ItemImpl" [] [a, d, u, .node "Generics" [] [lt0, .node "List" [] ps, gt0, wc], tr, sf, items]))).renaming (arT c.r t) = rsT cc.r t := by
    intro t h1 h2 h3
    refine rsT_arT_live c cc _ _ ?_ ?_ ?_ t h1 h2 h3
    · intro n h1 h2
      rw [hr]
      exact comp_lt c st _ hnm n h1 fun hm => absurd hm (livePred_lt_iff.1 h2)
    · intro n h1 h2
      rw [hr]
      exact comp_ty c st _ hnm n h1 fun hm => absurd hm (livePred_ty_iff.1 h2)
    · intro n h1 h2
      rw [livePred_ex_iff] at h2
      rw [hr]
      exact comp_ex c st _ hnm n h1 (fun hm => absurd hm h2.1) (fun hm => absurd hm h2.2)
  rw [canon_alpha_shape c.r a d u lt0 ps gt0 wc tr sf items _ (congrArg IxState.renaming hix).symm,
    canon_shape a d u lt0 ps gt0 wc tr sf items cc.r hr, key tr (hk _ (by simp)) hlive.1 (rk _ (by simp)),
    key sf (hk _ (by simp)) hlive.2 (rk _ (by simp))]
  exact mkHdr_congr _ _ _ _ _ _ _ _ _ _ _ _

/-- the respelled impl has a well-formed parameter list with distinct names again (`alpha_decls` from `alphaOKh`) -/
theorem alpha_decls_h (π : Renaming) (item : T) (hdecl : implDeclsOK item = true) (hal : alphaOKh π item = true) :
    implDeclsOK (alphaRename π item) = true ∧ namesDistinct (canonCtx (alphaRename π item)) = true := by
  simp only [alphaOKh, Bool.and_eq_true] at hal
  exact alpha_decls_of π item hdecl hal.1.2

end DI

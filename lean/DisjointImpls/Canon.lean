/-
  Model of parameter canonicalisation (`param.rs`: `resolve_non_predicate_params`,
  `NonPredicateParamIndexer`, `NonPredicateParamResolver`) on the positional tree of an `ItemImpl`.

  Indexing: parameters are numbered at their first occurrence in (trait path, self type, items) —
  `visit_item_impl` with `visit_generics` switched off — then repeatedly through the inline bounds of the
  already numbered type/const parameters (in index order) and the whole where-clause, until nothing changes.
  Renaming: the generic parameter list is renamed in place, then one simultaneous bottom-up rewrite of
  lifetimes, type paths and expression paths (multi-segment paths become `<_ŠČn>::rest`).
-/
import DisjointImpls.Bounds
namespace DI

structure IxState where
  unLt : List String
  unTy : List String
  unCo : List String
  ixLt : List (String × Nat)
  ixTy : List (String × Nat)
  ixCo : List (String × Nat)
  next : Nat
  deriving Repr, DecidableEq

def IxState.unindexed (s : IxState) : Nat := s.unLt.length + s.unTy.length + s.unCo.length

/-- `visit_lifetime_ident` (param.rs:241-249) -/
def ltIdent (s : IxState) (x : String) : IxState :=
  if s.unLt.contains x then { s with unLt := s.unLt.erase x, ixLt := s.ixLt ++ [(x, s.next)], next := s.next + 1 } else s

/-- `visit_type_param_ident` (param.rs:251-261); the Bool says whether it was a type parameter -/
def tyIdent (s : IxState) (x : String) : IxState × Bool :=
  if s.unTy.contains x then ({ s with unTy := s.unTy.erase x, ixTy := s.ixTy ++ [(x, s.next)], next := s.next + 1 }, true)
  else (s, false)

/-- `visit_const_param_ident` (param.rs:263-273) -/
def coIdent (s : IxState) (x : String) : IxState :=
  if s.unCo.contains x then { s with unCo := s.unCo.erase x, ixCo := s.ixCo ++ [(x, s.next)], next := s.next + 1 } else s

/-- expression path: type parameter first, then const parameter (param.rs:298-314) -/
def exIdent (s : IxState) (x : String) : IxState :=
  let (s1, hit) := tyIdent s x
  if hit then s1 else coIdent s1 x

def firstSegIdent : T → Option String
  | .node "Path" [] [_, .node "List" [] (.node "PathSegment" [] [.node "Ident" [x] [], _] :: _)] => some x
  | _ => none

mutual
/-- the indexer as a pre-order traversal (syn's `Visit` order = field order) -/
def ixT (s : IxState) : T → IxState
  | .tparam n => (tyIdent s n).1
  | .eparam n => exIdent s n
  | .node "Generics" _ _ => s
  | .node "Ign" _ _ => s
  | .node "Eq" _ _ => s
  | .node "Lifetime" _ [.node "Ident" [x] []] => ltIdent s x
  | .node "Type::Path" _ [qself, path] =>
      let s1 := ixT s qself
      let s2 := match firstSegIdent path with
        | some x => (tyIdent s1 x).1
        | none => s1
      ixT s2 path
  | .node "Expr::Path" _ [_, qself, path] =>
      let s1 := ixT s qself
      let s2 := match firstSegIdent path with
        | some x => exIdent s1 x
        | none => s1
      ixT s2 path
  | .node _ _ ks => ixL s ks
def ixL (s : IxState) : List T → IxState
  | [] => s
  | t :: ts => ixL (ixT s t) ts
end

/-- the declaration of an indexed type / const parameter: the code keeps one table per kind (param.rs:40-48, 205-222),
    a lifetime parameter of the same spelling (`'a` next to `a`) is never looked at -/
def paramNode (generics : T) (x : String) : Option T :=
  (genericsParams generics).find? (fun p => (match p with
    | .node "GenericParam::Lifetime" _ _ => false
    | _ => true) && paramIdent p == some x)

def insertByIdx (x : Nat × T) : List (Nat × T) → List (Nat × T)
  | [] => [x]
  | y :: ys => if y.1 < x.1 then y :: insertByIdx x ys else x :: y :: ys

/-- one round of `visit_indexed_params` (param.rs:197-239) -/
def ixRound (s : IxState) (generics : T) : IxState :=
  let nodes := (s.ixTy ++ s.ixCo).filterMap (fun (x, i) => (paramNode generics x).map (fun p => (i, p)))
  let sorted := nodes.foldr insertByIdx []
  let s1 := sorted.foldl (fun acc ip => match ip.2 with
    | .node _ [] [inner] => (match inner with
        | .node _ [] kids => ixL acc kids
        | _ => acc)
    | _ => acc) s
  match generics with
  | .node "Generics" [] [_, _, _, .node "Some" [] [wc]] => ixT s1 wc
  | _ => s1

/-- the loop of param.rs:59-85 -/
def ixLoop : Nat → Nat → IxState → T → IxState
  | 0, _, s, _ => s
  | fuel + 1, prev, s, generics =>
      let curr := s.unindexed
      if prev > 0 && prev != curr then
        ixLoop fuel curr (ixRound s generics) generics
      else s

def kindNames (generics : T) (kind : String) : List String :=
  (genericsParams generics).filterMap (fun p => match p with
    | .node k [] _ => if k == kind then paramIdent p else none
    | _ => none)

/-- `resolve_non_predicate_params`, indexing part -/
def indexImpl (item : T) : IxState :=
  let generics := (implGenerics item).getD (.node "?" [] [])
  let s0 : IxState := ⟨kindNames generics "GenericParam::Lifetime", kindNames generics "GenericParam::Type",
                       kindNames generics "GenericParam::Const", [], [], [], 0⟩
  let s1 := ixT s0 item
  -- first iteration always runs (prev = usize::MAX); modelled by prev := unindexed + 1
  ixLoop (s1.unindexed + 2) (s1.unindexed + 1) s1 generics

def genIndexedIdent (i : Nat) : String := PARAM_PREFIX ++ toString i

structure Renaming where
  lt : List (String × String)
  ty : List (String × String)
  co : List (String × String)
  deriving Repr, DecidableEq

def IxState.renaming (s : IxState) : Renaming :=
  ⟨s.ixLt.map (fun (x, i) => (x, genIndexedIdent i)), s.ixTy.map (fun (x, i) => (x, genIndexedIdent i)),
   s.ixCo.map (fun (x, i) => (x, genIndexedIdent i))⟩

def rlookup (m : List (String × String)) (x : String) : Option String :=
  match m with
  | [] => none
  | (a, b) :: r => if a = x then some b else rlookup r x

/-- in-place renaming of the declared type and const parameters (param.rs:100-118); declared lifetimes are
    `Lifetime` nodes and are renamed by the resolver like every other lifetime -/
def renameDecl (r : Renaming) : T → T
  | .node "GenericParam::Type" [] [.node "TypeParam" [] (a :: .node "Ident" [x] [] :: rest)] =>
      .node "GenericParam::Type" [] [.node "TypeParam" [] (a :: .node "Ident" [(rlookup r.ty x).getD x] [] :: rest)]
  | .node "GenericParam::Const" [] [.node "ConstParam" [] (a :: .node "Ident" [x] [] :: rest)] =>
      .node "GenericParam::Const" [] [.node "ConstParam" [] (a :: .node "Ident" [(rlookup r.co x).getD x] [] :: rest)]
  | t => t

def renameGenerics (r : Renaming) : T → T
  | .node "Generics" [] [lt, .node "List" [] ps, gt, wc] => .node "Generics" [] [lt, .node "List" [] (ps.map (renameDecl r)), gt, wc]
  | t => t

def renameImplDecls (r : Renaming) : T → T
  | .node "ItemImpl" [] [a, d, u, g, tr, s, items] => .node "ItemImpl" [] [a, d, u, renameGenerics r g, tr, s, items]
  | t => t

def restSegments : T → List T
  | .node "Path" [] [_, .node "List" [] (_ :: rest)] => rest
  | _ => []

def noneNode : T := .node "None" [] []
def someColon : T := .node "IgnL" [] [.node "Some" ["PathSep"] []]

/-- `<_ŠČn>::rest` as printed by `parse_quote!(<#replacement> #(::#segments)*)` (param.rs:336) -/
def qselfPath (new : String) (rest : List T) : T × T :=
  (.node "Some" [] [.node "QSelf" [] [.tparam new, .node "Atom" ["0"] [], noneNode]],
   .node "Path" [] [someColon, .node "List" [] rest])

def mkSegment (x : String) : T := .node "PathSegment" [] [.node "Ident" [x] [], .node "PathArguments::None" [] []]

/-- what the resolver does to a type path after its children have been rewritten (param.rs:330-343, 361-372) -/
def rsTypePath (r : Renaming) (as : List String) (qself path : T) : T :=
  match firstSegIdent path with
  | some x =>
      (match rlookup r.ty x with
       | some m =>
          if (restSegments path).isEmpty then .tparam m
          else let (q, p) := qselfPath m (restSegments path); .node "Type::Path" as [q, p]
       | none => .node "Type::Path" as [qself, path])
  | none => .node "Type::Path" as [qself, path]

/-- … and to an expression path (param.rs:342-352, 375-391) -/
def rsExprPath (r : Renaming) (as : List String) (att qself path : T) : T :=
  match firstSegIdent path with
  | some x =>
      (match rlookup r.ty x with
       | some m =>
          if (restSegments path).isEmpty then .eparam m
          else let (q, p) := qselfPath m (restSegments path); .node "Expr::Path" as [.node "Ign" [] [.node "List" [] []], q, p]
       | none =>
          (match rlookup r.co x with
           | some m =>
              -- only a bare identifier (`Path::get_ident`, no qualified self) names the const parameter; the node is
              -- replaced by the replacement expression, its attributes are dropped (param.rs:342-352, 383-387)
              (match path with
               | .node "Path" [] [lc, .node "List" [] [.node "PathSegment" [] [_, .node "PathArguments::None" [] []]]] =>
                  if qself == noneNode && lc == .node "IgnL" [] [noneNode]
                  then .eparam m
                  else .node "Expr::Path" as [att, qself, path]
               | _ => .node "Expr::Path" as [att, qself, path])
           | none => .node "Expr::Path" as [att, qself, path]))
  | none => .node "Expr::Path" as [att, qself, path]

mutual
/-- `NonPredicateParamResolver` (param.rs:354-389): children first, then the node itself -/
def rsT (r : Renaming) : T → T
  | .tparam n => (match rlookup r.ty n with | some m => .tparam m | none => .tparam n)
  | .eparam n =>
      (match rlookup r.ty n with
       | some m => .eparam m
       | none => match rlookup r.co n with | some m => .eparam m | none => .eparam n)
  | .node "Ign" as ks => .node "Ign" as ks
  | .node "Eq" as ks => .node "Eq" as ks
  | .node "Lifetime" as [.node "Ident" [x] []] => .node "Lifetime" as [.node "Ident" [(rlookup r.lt x).getD x] []]
  | .node "Type::Path" as [qself, path] => rsTypePath r as (rsT r qself) (rsT r path)
  | .node "Expr::Path" as [att, qself, path] => rsExprPath r as (rsT r att) (rsT r qself) (rsT r path)
  | .node k as ks => .node k as (rsL r ks)
def rsL (r : Renaming) : List T → List T
  | [] => []
  | t :: ts => rsT r t :: rsL r ts
end

/-- `resolve_non_predicate_params` -/
def canon (item : T) : T :=
  let r := (indexImpl item).renaming
  rsT r (renameImplDecls r item)

end DI

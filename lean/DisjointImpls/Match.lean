/-
  Model of `Superset::is_superset` (src/superset.rs, src/superset/{ty,path,generics,expr,pat,stmt}.rs):
  one default rule + the deviations listed in DESIGN.md §5.3.

  `sup a b = .yes σ lossy`: the code returns `Some(σ)`; `lossy = true` iff one of the deliberately
  lenient arms (anonymous lifetime, ignored leading `::`, swapped binary operands, missing turbofish,
  `_` pattern, ignored semicolon) decided something along the way — exactly those results are excluded
  from the soundness theorem (`C09_sound_wf`, `Props/C09.lean`).
-/
import DisjointImpls.Tree
namespace DI

/-- Result of the matcher: `None`, `Some σ`, or a panic (`unimplemented!()` arms). -/
inductive R where
  | no
  | yes (σ : Subst) (lossy : Bool)
  | panic
  deriving Repr, DecidableEq, Inhabited

/-- kinds whose `is_superset` is `unimplemented!()` (path.rs:340-344, pat.rs:240-249, 316-325) -/
def panicsOnSameKind (k : String) : Bool :=
  k == "Constraint" || k == "Pat::Struct" || k == "Pat::TupleStruct"

/-- `Path` without leading `::` that is one argument-free segment spelled like a parameter
    (code: `matches_param_ident`, i.e. `syn::Path::get_ident` + prefix test) -/
def pathParam (paramPrefix : String) : T → Option String
  | .node "Path" [] [.node "IgnL" [] [.node "None" [] []], .node "List" [] [.node "PathSegment" [] [.node "Ident" [n] [], .node "PathArguments::None" [] []]]] =>
      if n.startsWith paramPrefix then some n else none
  | _ => none

def PARAM_PREFIX : String := "_ŠČ"

def isNoneNode : T → Bool
  | .node "None" [] [] => true
  | _ => false

def lifetimeIdent : T → Option String
  | .node "Lifetime" [] [.node "Ident" [n] []] => some n
  | _ => none

/-- merge the result `r` of a sub-match into the accumulator `acc` -/
def bindMerge (acc : Subst) (fl : Bool) : R → R
  | .no => .no
  | .panic => .panic
  | .yes σ f => match merge acc σ with
      | none => .no
      | some acc' => .yes acc' (fl || f)

mutual
/-- `supS a b`: `a.is_superset(b)` where transparent wrappers have already been removed from the root of `b`. -/
def supS : T → T → R
  | .tparam n, b => if b = .tparam n then .yes [(n, .identity)] false else .yes [(n, .ty b)] false
  | .eparam n, b => if b = .eparam n then .yes [(n, .identity)] false else .yes [(n, .ex b)] false
  | .node k as ks, b =>
      if isWrapper k then supLast ks b
      else if k == "Ign" then .yes [] false
      else if k == "IgnL" then .yes [] (decide (T.node k as ks ≠ b))
      else match b with
        | .tparam _ => .no
        | .eparam _ => .no
        | .node k' as' ks' =>
          -- `_` pattern matches anything (pat.rs:26)
          if k == "Pat::Wild" || k' == "Pat::Wild" then
            (if k == k' then supL ks ks' [] false else .yes [] true)
          -- statements that are items (stmt.rs:9)
          else if k == "Stmt::Item" || k' == "Stmt::Item" then .panic
          else if k != k' then
            -- a type parameter in generic-argument position may bind a const argument (path.rs:173-179)
            match k, as, ks, k', as', ks' with
            | "GenericArgument::Type", [], [.tparam n], "GenericArgument::Const", [], [e] => .yes [(n, .ex e)] false
            | _, _, _, _, _, _ => .no
          else if panicsOnSameKind k then .panic
          -- anonymous lifetime matches anything (superset.rs:220-230)
          else if k == "Lifetime" then
            (match lifetimeIdent (.node k as ks), lifetimeIdent (.node k' as' ks') with
             | some x, some y => if x == "_" || y == "_" then .yes [] (x != y)
                                 else if x == y then .yes [] false else .no
             | _, _ => .no)
          -- the same lone parameter identifier as a `Path` (path.rs:9-13)
          else if k == "Path" &&
              (pathParam PARAM_PREFIX (.node k as ks)).isSome &&
              pathParam PARAM_PREFIX (.node k as ks) == pathParam PARAM_PREFIX (.node k' as' ks') then
            (match pathParam PARAM_PREFIX (.node k as ks) with
             | some n => .yes [(n, .identity)] false
             | none => .no)
          -- qualified self: only an identity match is accepted (path.rs:130-146)
          else if k == "QSelf" then
            (match ks, ks' with
             | ty :: rest, ty' :: rest' =>
                (match supS ty (stripTop ty') with
                 | .no => .no
                 | .panic => .panic
                 | .yes σ l => if rest == rest' && allIdentity σ then .yes σ l else .no)
             | _, _ => .no)
          -- binary expressions: operands may be swapped (expr.rs:359-374); children are [op, left, right, attrs]
          else if k == "Expr::Binary" then
            (match ks, ks' with
             | [op, l, r, att], [op', l', r', att'] =>
                if op != op' then .no else
                (match supS l (stripTop l') with
                 | .panic => .panic
                 | .yes σ1 f1 =>
                    (match bindMerge σ1 f1 (supS r (stripTop r')) with
                     | .yes σ f => bindMerge σ f (supS att (stripTop att'))
                     | other => other)
                 | .no =>
                    (match supS l (stripTop r') with
                     | .no => .no
                     | .panic => .panic
                     | .yes σ1 _ =>
                        (match bindMerge σ1 true (supS r (stripTop l')) with
                         | .yes σ f => bindMerge σ f (supS att (stripTop att'))
                         | other => other)))
             | _, _ => .no)
          -- optional child where a missing side matches anything (turbofish, expr.rs:972-975)
          else if k == "OptWild" then
            (match ks, ks' with
             | [x], [y] =>
                if isNoneNode x || isNoneNode y then .yes [] (decide (x ≠ y))
                else supS x (stripTop y)
             | _, _ => .no)
          -- default rule: same variant, equal atoms, children pairwise, merged left to right
          else if as == as' then supL ks ks' [] false
          else .no
/-- children matched left to right, results merged into the accumulator -/
def supL : List T → List T → Subst → Bool → R
  | [], [], acc, fl => .yes acc fl
  | a :: as, b :: bs, acc, fl =>
      match supS a (stripTop b) with
      | .no => .no
      | .panic => .panic
      | .yes σ f =>
          match merge acc σ with
          | none => .no
          | some acc' => supL as bs acc' (fl || f)
  | _, _, _, _ => .no
/-- a transparent wrapper on the left: continue with its last child -/
def supLast : List T → T → R
  | [], _ => .no
  | [e], b => supS e b
  | _ :: es, b => supLast es b
end

/-- `a.is_superset(b)` -/
def sup (a b : T) : R := supS a (stripTop b)

/-- `ImplGroupId::is_superset` (superset.rs:140-149): trait path (if any) then self type. The group id is
    the node `ImplGroupId [trait?, self_ty]`, which the default rule handles. -/
def supId (a b : T) : R := sup a b

end DI

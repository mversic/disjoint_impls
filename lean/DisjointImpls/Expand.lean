/-
  Model of the three code generators on positional trees:
  `disjoint::generate` (helper impls, disjoint.rs), `helper_trait::generate` (helper_trait.rs) and
  `main_trait::generate` (main_trait.rs), given a formed family (group id, members, bounds group).
  `none` = the generator panics / aborts (`unreachable!()`, a `parse_quote!` that cannot parse).
-/
import DisjointImpls.Group
namespace DI

/-! ### small tree constructors (shapes as `syn` parses the corresponding tokens) -/

def tIdent (x : String) : T := .node "Ident" [x] []
def tNone : T := .node "None" [] []
def tSome (t : T) : T := .node "Some" [] [t]
def tList (xs : List T) : T := .node "List" [] xs
def noArgs : T := .node "PathArguments::None" [] []
def ignAttrs : T := .node "Ign" [] [tList []]
def ignNone : T := .node "Ign" [] [tNone]
def noLead : T := .node "IgnL" [] [tNone]
def seg (x : String) (args : T := noArgs) : T := .node "PathSegment" [] [tIdent x, args]
def angle (args : List T) : T := .node "PathArguments::AngleBracketed" [] [ignNone, tList args]
def pathNode (lead : T) (segs : List T) : T := .node "Path" [] [lead, tList segs]
def gaType (t : T) : T := .node "GenericArgument::Type" [] [t]
def tyPath (qself : T) (path : T) : T := .node "Type::Path" [] [qself, path]
def selfTy : T := tyPath tNone (pathNode noLead [seg "Self"])

/-- `format_ident!("_{}{}", ident, idx)` (helper_trait.rs:140-142) -/
def genIdentStr (name : String) (idx : Nat) : String := "_" ++ name ++ toString idx

def pathLead : T → T
  | .node "Path" [] [lc, _] => lc
  | _ => noLead

/-- `<#param as #trait_bound>::#assoc` parsed as a type: the projection of a key (disjoint.rs:45-48, main_trait.rs:192-194).
    `trait_bound` is printed by `TraitBound::to_tokens`, i.e. with its bindings removed (`tbTokens`, `Key.lean`). -/
def projection (bounded tr : T) (assoc : String) : T :=
  let p := tbTokens tr
  let segs := pathSegments p
  tyPath (tSome (.node "QSelf" [] [bounded, .node "Atom" [toString segs.length] [], .node "Some" ["As"] []]))
    (pathNode (pathLead p) (segs ++ [seg assoc]))

/-- a printed payload / projection re-parsed as a generic argument -/
def asGenericArg (t : T) : T := gaType t

def lastSegOf (p : T) : Option T := (pathSegments p).reverse.head?
def initSegsOf (p : T) : List T := (pathSegments p).reverse.tail.reverse

def segArgList : T → Option (List T)            -- `none`: parenthesized
  | .node "PathSegment" [] [_, .node "PathArguments::None" [] []] => some []
  | .node "PathSegment" [] [_, .node "PathArguments::AngleBracketed" [] [_, .node "List" [] args]] => some args
  | _ => none

def isAngle : T → Bool
  | .node "PathSegment" [] [_, .node "PathArguments::AngleBracketed" _ _] => true
  | _ => false

def isLifetimeArg : T → Bool
  | .node "GenericArgument::Lifetime" _ _ => true
  | _ => false

/-! ### helper impls (disjoint.rs) -/

def setVisInherited : T → T
  | .node "ImplItem::Const" [] (a :: _ :: rest) => .node "ImplItem::Const" [] (a :: .node "Visibility::Inherited" [] [] :: rest)
  | .node "ImplItem::Type" [] (a :: _ :: rest) => .node "ImplItem::Type" [] (a :: .node "Visibility::Inherited" [] [] :: rest)
  | .node "ImplItem::Fn" [] (a :: _ :: rest) => .node "ImplItem::Fn" [] (a :: .node "Visibility::Inherited" [] [] :: rest)
  | t => t

def lifetimeParamIdents (generics : T) : List String :=
  (genericsParams generics).filterMap (fun p => match p with
    | .node "GenericParam::Lifetime" _ _ => paramIdent p
    | _ => none)
def otherParamIdents (generics : T) : List String :=
  (genericsParams generics).filterMap (fun p => match p with
    | .node "GenericParam::Lifetime" _ _ => none
    | _ => paramIdent p)

def sortStr (xs : List String) : List String :=
  xs.foldr (fun x acc => let rec ins : List String → List String
    | [] => [x]
    | y :: ys => if y < x then y :: ins ys else x :: y :: ys
  ins acc) []

def lifetimeArg (x : String) : T := .node "GenericArgument::Lifetime" [] [.node "Lifetime" [] [tIdent x]]

/-- `gen_inherent_self_ty_args` (lib.rs:991-1013): `<sorted lifetimes, sorted parameters>`; `none` unless the self
    type is a path whose last segment has angle-bracketed arguments -/
def inherentSelfTy (selfTy generics : T) : Option T :=
  match selfTy with
  | .node "Type::Path" [] [q, p] =>
      (match lastSegOf p with
       | some l => if isAngle l then
            let args := (sortStr (lifetimeParamIdents generics)).map lifetimeArg ++
                        (sortStr (otherParamIdents generics)).map (fun x => gaType (mkTypeIdent x))
            (match l with
             | .node "PathSegment" [] [id, _] => some (tyPath q (pathNode (pathLead p) (initSegsOf p ++ [.node "PathSegment" [] [id, angle args]])))
             | _ => none)
          else none
       | none => none)
  | _ => none

/-- the path type re-parsed as a trait path (`parse_quote!(#self_ty)` as `syn::Path`) -/
def typeAsPath : T → Option T
  | .node "Type::Path" [] [.node "None" [] [], p] => some p
  | _ => none

def rowArgs (idents : List (BKey × String)) (row : List (Option T)) : List T :=
  (List.zip idents row).map (fun ir => match ir.2 with
    | some p => asGenericArg p
    | none => asGenericArg (projection ir.1.1.1 ir.1.1.2 ir.1.2))

def setImplTrait (item : T) (tr : T) : T :=
  match item with
  | .node "ItemImpl" [] [a, d, u, g, _, s, items] => .node "ItemImpl" [] [a, d, u, g, tSome (.node "Tuple" [] [tNone, tr]), s, items]
  | t => t

def mapImplItems (f : T → T) : T → T
  | .node "ItemImpl" [] [a, d, u, g, tr, s, .node "List" [] items] => .node "ItemImpl" [] [a, d, u, g, tr, s, tList (items.map f)]
  | t => t

/-- one helper impl (disjoint.rs:53-80): the member with its trait path replaced by the helper trait (the LAST segment of the
    member's trait path renamed, leading segments and a leading `::` dropped: the helper trait lives next to the helper impls)
    and the member's row prepended to the trait arguments -/
def helperImpl (idx : Nat) (inherentPath : Option T) (idents : List (BKey × String)) (row : List (Option T)) (member : T) : Option T :=
  let member' := match inherentPath with
    | some p => mapImplItems setVisInherited (setImplTrait member p)
    | none => member
  match implTraitPath member' with
  | none => none
  | some p =>
      match lastSegOf p with
      | some (.node "PathSegment" [] [.node "Ident" [x] [], args]) =>
          let row' := rowArgs idents row
          let newArgs : Option T := match args with
            | .node "PathArguments::None" [] [] => some (angle row')
            | .node "PathArguments::AngleBracketed" [] [c2, .node "List" [] old] => some (.node "PathArguments::AngleBracketed" [] [c2, tList (row' ++ old)])
            | _ => none
          (match newArgs with
           | some na => some (setImplTrait member' (pathNode noLead [.node "PathSegment" [] [tIdent (genIdentStr x idx), na]]))
           | none => none)
      | _ => none

/-- `disjoint::generate` -/
def helperImpls (idx : Nat) (g : T × ABG × List Blk) : Option (List T) :=
  let members := g.2.2.map (·.item)
  match members with
  | [] => some []
  | first :: _ =>
      let inherent : Option (Option T) :=
        if (implTraitPath first).isNone then
          match implSelfTy first, implGenerics first with
          | some s, some gen => (match inherentSelfTy s gen with
              | some st => (match typeAsPath st with | some p => some (some p) | none => none)
              | none => none)
          | _, _ => none
        else some none
      match inherent with
      | none => none
      | some ip =>
          let idents := g.2.1.idents
          let rows := g.2.1.payloads
          let res := (List.zip members rows).map (fun mr => helperImpl idx ip idents mr.2 mr.1)
          if res.all Option.isSome then some (res.filterMap id) else none

/-! ### helper trait (helper_trait.rs) -/

def maybeSizedBound : T :=
  .node "TypeParamBound::Trait" [] [.node "TraitBound" [] [ignNone, .node "TraitBoundModifier::Maybe" [] [], tNone, pathNode noLead [seg "Sized"]]]

/-- `#param: ?Sized` re-parsed as a generic parameter -/
def keyParam (x : String) : T :=
  .node "GenericParam::Type" [] [.node "TypeParam" [] [ignAttrs, tIdent x, .node "Some" ["Colon"] [], tList [maybeSizedBound], tNone, tNone]]

def isLifetimeParam : T → Bool
  | .node "GenericParam::Lifetime" _ _ => true
  | _ => false

/-- `combine_generic_args` (helper_trait.rs:86-105): lifetimes first, then the key parameters, then the rest -/
def helperGenerics (generics : T) (nkeys : Nat) : T :=
  match generics with
  | .node "Generics" [] [lt, .node "List" [] ps, gt, wc] =>
      let start := ps.length
      let keys := (List.range nkeys).map (fun i => keyParam (genIndexedIdent (start + i)))
      let all := ps.filter isLifetimeParam ++ keys ++ ps.filter (fun p => !isLifetimeParam p)
      -- only `params` is assigned (helper_trait.rs:49-54): the `<`/`>` tokens stay as the user's trait had them
      .node "Generics" [] [lt, tList all, gt, wc]
  | t => t

/-- `helper_trait::generate`, trait mode: the user's trait made `pub`, renamed, with the key parameters added -/
def helperTraitOfTrait (trait_ : T) (idx nkeys : Nat) : Option T :=
  match trait_ with
  | .node "ItemTrait" [] [a, _, u, au, r, .node "Ident" [x] [], g, c, sup, items] =>
      some (.node "ItemTrait" [] [a, .node "Visibility::Public" [] [], u, au, r, tIdent (genIdentStr x idx), helperGenerics g nkeys, c, sup, items])
  | _ => none

end DI

namespace DI

/-! ### main impl (main_trait.rs) -/

/-- trait parameters ↦ the header's arguments (main_trait.rs:355-382) -/
structure ArgMap where
  lt : List (String × T)      -- ↦ `Lifetime` node
  ty : List (String × T)      -- ↦ type
  co : List (String × T)      -- ↦ expression
  deriving Repr

def alookup (m : List (String × T)) (x : String) : Option T :=
  match m with
  | [] => none
  | (a, b) :: r => if a = x then some b else alookup r x

def someLead : T := .node "IgnL" [] [.node "Some" ["PathSep"] []]

/-- the type re-parsed as an expression path (`parse_quote!(#new_ty)` into `ExprPath`, param.rs:381) -/
def typeAsExprPath : T → Option T
  | .tparam n => some (.eparam n)
  | .node "Type::Path" [] [q, p] => some (.node "Expr::Path" [] [ignAttrs, q, p])
  | _ => none

/-- the replacement of a const parameter as a single operand (param.rs:342-352) -/
def exprOperand : T → T
  | .eparam n => .eparam n
  | .node "Expr::Path" as ks => .node "Expr::Path" as ks
  | .node "Expr::Lit" as ks => .node "Expr::Lit" as ks
  | .node "Expr::Block" as ks => .node "Expr::Block" as ks
  | .node "Expr::Paren" as ks => .node "Expr::Paren" as ks
  | t => .node "Expr::Paren" [] [ignAttrs, t]

def sbTypePath (m : ArgMap) (as : List String) (qself path : T) : Option T :=
  match firstSegIdent path with
  | some x =>
      (match alookup m.ty x with
       | some r =>
          if (restSegments path).isEmpty then some r
          else some (.node "Type::Path" as [tSome (.node "QSelf" [] [r, .node "Atom" ["0"] [], tNone]), pathNode someLead (restSegments path)])
       | none => some (.node "Type::Path" as [qself, path]))
  | none => some (.node "Type::Path" as [qself, path])

def sbExprPath (m : ArgMap) (as : List String) (att qself path : T) : Option T :=
  match firstSegIdent path with
  | some x =>
      (match alookup m.ty x with
       | some r =>
          let newTy := if (restSegments path).isEmpty then r
            else .node "Type::Path" [] [tSome (.node "QSelf" [] [r, .node "Atom" ["0"] [], tNone]), pathNode someLead (restSegments path)]
          typeAsExprPath newTy
       | none =>
          (match alookup m.co x with
           | some r =>
              (match path with
               | .node "Path" [] [lc, .node "List" [] [.node "PathSegment" [] [_, .node "PathArguments::None" [] []]]] =>
                  if qself == tNone && lc == noLead then some (exprOperand r) else some (.node "Expr::Path" as [att, qself, path])
               | _ => some (.node "Expr::Path" as [att, qself, path]))
           | none => some (.node "Expr::Path" as [att, qself, path])))
  | none => some (.node "Expr::Path" as [att, qself, path])

mutual
/-- `NonPredicateParamResolver` with arbitrary replacements (used on the trait definition) -/
def sbT (m : ArgMap) : T → Option T
  | .tparam n => (match alookup m.ty n with | some r => some r | none => some (.tparam n))
  | .eparam n =>
      (match alookup m.ty n with
       | some r => typeAsExprPath r
       | none => match alookup m.co n with
          | some r => some (exprOperand r)
          | none => some (.eparam n))
  | .node "Ign" as ks => some (.node "Ign" as ks)
  | .node "Eq" as ks => some (.node "Eq" as ks)
  | .node "Lifetime" as [.node "Ident" [x] []] =>
      (match alookup m.lt x with | some r => some r | none => some (.node "Lifetime" as [.node "Ident" [x] []]))
  | .node "Type::Path" as [qself, path] =>
      (match sbT m qself, sbT m path with
       | some q, some p => sbTypePath m as q p
       | _, _ => none)
  | .node "Expr::Path" as [att, qself, path] =>
      (match sbT m qself, sbT m path with
       | some q, some p => sbExprPath m as att q p
       | _, _ => none)
  | .node k as ks => (sbL m ks).map (.node k as)
def sbL (m : ArgMap) : List T → Option (List T)
  | [] => some []
  | t :: ts => match sbT m t, sbL m ts with
      | some a, some b => some (a :: b)
      | _, _ => none
end

def isParamTypeArg : T → Bool
  | .tparam _ => true
  | _ => false

/-- zip the trait's parameters with the header's arguments (main_trait.rs:363-382); kind mismatch = `unreachable!()` -/
def zipTraitArgs : List T → List T → Option ArgMap
  | [], _ => some ⟨[], [], []⟩
  | _, [] => some ⟨[], [], []⟩
  | p :: ps, a :: as =>
      match zipTraitArgs ps as with
      | none => none
      | some m =>
        match p, a with
        | .node "GenericParam::Lifetime" _ _, .node "GenericArgument::Lifetime" [] [l] =>
            (match paramIdent p with | some x => some { m with lt := (x, l) :: m.lt } | none => none)
        | .node "GenericParam::Type" _ _, .node "GenericArgument::Type" [] [t] =>
            (match paramIdent p with | some x => some { m with ty := (x, t) :: m.ty } | none => none)
        | .node "GenericParam::Const" _ _, .node "GenericArgument::Const" [] [e] =>
            (match paramIdent p with | some x => some { m with co := (x, e) :: m.co } | none => none)
        | _, _ => none

def whereType (bounded : T) (bounds : List T) : T :=
  .node "WherePredicate::Type" [] [.node "PredicateType" [] [tNone, bounded, tList bounds]]

def traitBoundOf (p : T) : T :=
  .node "TypeParamBound::Trait" [] [.node "TraitBound" [] [ignNone, .node "TraitBoundModifier::None" [] [], tNone, p]]

/-- `#ty: #bounds` for the trait's own parameters (main_trait.rs:331-353): every lifetime parameter, and every type
    parameter whose argument is a bare canonical parameter -/
def traitParamPredicates (params : List T) (m : ArgMap) : List T :=
  params.filterMap (fun p => match p with
    | .node "GenericParam::Lifetime" [] [.node "LifetimeParam" [] [_, l, _, .node "List" [] bs]] =>
        some (.node "WherePredicate::Lifetime" [] [.node "PredicateLifetime" [] [l, tList bs]])
    | .node "GenericParam::Type" [] [.node "TypeParam" [] [_, .node "Ident" [x] [], _, .node "List" [] bs, _, _]] =>
        (match alookup m.ty x with
         | some t => if isParamTypeArg t then some (whereType (mkTypeIdent x) bs) else none
         | none => some (whereType (mkTypeIdent x) bs))
    | _ => none)

/-- the helper-trait reference of the main impl (main_trait.rs:184-226): lifetimes of the header first, then the
    projections of the keys, then the remaining header arguments -/
def helperRef (helperIdent : String) (idents : List (BKey × String)) (headerArgs : List T) : T :=
  let projs := idents.map (fun kx => gaType (projection kx.1.1 kx.1.2 kx.2))
  pathNode noLead [seg helperIdent (angle (headerArgs.filter isLifetimeArg ++ projs ++ headerArgs.filter (fun a => !isLifetimeArg a)))]

def dedupKeys (ks : List T) : List T := ks.foldl (fun acc k => if acc.contains k then acc else acc ++ [k]) []

/-- `gen_assoc_bound_predicates` (main_trait.rs:245-276) -/
def assocBoundPredicates (abg : ABG) (href : T) : List T :=
  let idents := abg.idents
  let params := dedupKeys (idents.map (fun kx => kx.1.1))
  let perParam := params.map (fun b =>
    -- IndexSet<&TraitBound>: distinct by `TraitBound::eq`, first occurrence kept
    let tbs := (idents.filter (fun kx => kx.1.1 == b)).foldl (fun (acc : List T) kx =>
      if acc.any (fun t => tbEq t kx.1.2 == .t) then acc else acc ++ [kx.1.2]) []
    let bounds := (if abg.unsized.contains b then [maybeSizedBound] else []) ++ tbs.map (fun t => traitBoundOf (tbTokens t))
    whereType b bounds)
  perParam ++ [whereType selfTy [traitBoundOf href]]

end DI

namespace DI

def emptyGenerics : T := .node "Generics" [] [tNone, tList [], tNone, tNone]

/-- `#ty_generics` of a trait item re-parsed as the generics of the impl item: identifiers only (a const parameter
    comes back as a type parameter) -/
def tyGenericsParam : T → T
  | .node "GenericParam::Lifetime" [] [.node "LifetimeParam" [] [_, l, _, _]] =>
      .node "GenericParam::Lifetime" [] [.node "LifetimeParam" [] [ignAttrs, l, tNone, tList []]]
  | .node "GenericParam::Type" [] [.node "TypeParam" [] (_ :: id :: _)] =>
      .node "GenericParam::Type" [] [.node "TypeParam" [] [ignAttrs, id, tNone, tList [], tNone, tNone]]
  | .node "GenericParam::Const" [] [.node "ConstParam" [] (_ :: id :: _)] =>
      .node "GenericParam::Type" [] [.node "TypeParam" [] [ignAttrs, id, tNone, tList [], tNone, tNone]]
  | t => t

def itemGenerics : T → T
  | .node "Generics" [] [lt, .node "List" [] ps, gt, wc] =>
      -- an empty where-clause prints nothing and comes back as `None`
      let wc' := match wc with
        | .node "Some" [] [.node "WhereClause" [] [.node "List" [] []]] => tNone
        | w => w
      if ps.isEmpty then .node "Generics" [] [tNone, tList [], tNone, wc'] else .node "Generics" [] [lt, tList (ps.map tyGenericsParam), gt, wc']
  | t => t

/-- `<Self as #helper>::#ident` -/
def selfAsHelperPath (href : T) (ident : T) : T × T :=
  (tSome (.node "QSelf" [] [selfTy, .node "Atom" [toString (pathSegments href).length] [], .node "Some" ["As"] []]),
   pathNode (pathLead href) (pathSegments href ++ [.node "PathSegment" [] [ident, noArgs]]))

def identExpr (x : String) : T :=
  if x.startsWith PARAM_PREFIX then .eparam x else .node "Expr::Path" [] [ignAttrs, tNone, pathNode noLead [seg x]]

/-- a parameter pattern printed and re-parsed as a call argument; `none`: not modelled (`mut x`, `_`, `&x`, …) -/
def patAsExpr : T → Option T
  | .node "Pat::Ident" [] [_, .node "None" [] [], .node "None" [] [], .node "Ident" [x] [], .node "None" [] []] => some (identExpr x)
  | _ => none

def fnArgAsExpr : T → Option T
  -- a by-value `mut self` receiver: its `mut` is dropped in generated signatures since /repo 19cb482 — unmodelled, like other patterns
  | .node "FnArg::Receiver" [] [.node "Receiver" [] [_, .node "None" [] [], .node "Some" ["Mut"] [], _, _]] => none
  | .node "FnArg::Receiver" _ _ => some (identExpr "self")
  | .node "FnArg::Typed" [] [.node "PatType" [] [_, pat, _]] => patAsExpr pat
  | _ => none

def allSome {α : Type} : List (Option α) → Option (List α)
  | [] => some []
  | none :: _ => none
  | some a :: r => (allSome r).map (a :: ·)

inductive Gen (α : Type) where
  | ok (a : α)
  | panic            -- the generator panics / aborts
  | unmodelled       -- outside the modelled fragment
  deriving Repr

/-- a trait item as the dummy impl item (main_trait.rs:135-173), its value already delegating to the helper trait
    (main_trait.rs:278-316) when `href` is given; with `none` the value is a placeholder (what the indexer sees) -/
def implItemOfTraitItem (href : Option T) : T → Gen T
  | .node "TraitItem::Const" [] [_, id, g, ty, _] =>
      let e := match href with
        | some h => let (q, p) := selfAsHelperPath h id; .node "Expr::Path" [] [ignAttrs, q, p]
        | none => .node "Dummy" [] []
      .ok (.node "ImplItem::Const" [] [ignAttrs, .node "Visibility::Inherited" [] [], tNone, id, itemGenerics g, ty, e])
  | .node "TraitItem::Type" [] [_, id, g, _, _, _] =>
      let t := match href with
        | some h => let (q, p) := selfAsHelperPath h id; tyPath q p
        | none => .node "Dummy" [] []
      .ok (.node "ImplItem::Type" [] [ignAttrs, .node "Visibility::Inherited" [] [], tNone, id, itemGenerics g, t])
  | .node "TraitItem::Fn" [] [_, .node "Signature" [] [c, a, u, abi, id, g, .node "List" [] inputs, variadic, out], _, _] =>
      let sig := .node "Signature" [] [c, a, u, abi, id, g, tList inputs, variadic, out]
      match href with
      | none => .ok (.node "ImplItem::Fn" [] [ignAttrs, .node "Visibility::Inherited" [] [], tNone, sig, .node "Dummy" [] []])
      | some h =>
        if variadic != tNone || a != tNone then .unmodelled else     -- variadic; `async fn` (delegated with `.await` since /repo 81f363f)
        match allSome (inputs.map fnArgAsExpr) with
        | none => .unmodelled
        | some args =>
            let (q, p) := selfAsHelperPath h id
            let call := .node "Expr::Call" [] [ignAttrs, .node "Expr::Path" [] [ignAttrs, q, p], tList args]
            .ok (.node "ImplItem::Fn" [] [ignAttrs, .node "Visibility::Inherited" [] [], tNone, sig,
              .node "Block" [] [tList [.node "Stmt::Expr" [] [call, noLead]]]])
  | _ => .panic       -- `abort!(item, "Not supported")`

def genAll {α : Type} : List (Gen α) → Gen (List α)
  | [] => .ok []
  | .panic :: _ => .panic
  | .unmodelled :: r => (match genAll r with | .panic => .panic | _ => .unmodelled)
  | .ok a :: r => (match genAll r with | .ok l => .ok (a :: l) | .panic => .panic | .unmodelled => .unmodelled)

def wherePreds : T → List T
  | .node "Some" [] [.node "WhereClause" [] [.node "List" [] ps]] => ps
  | _ => []

def mkWhere (ps : List T) : T := tSome (.node "WhereClause" [] [tList ps])

def lastSegArgsNode (p : T) : Option T :=
  match lastSegOf p with
  | some (.node "PathSegment" [] [_, a]) => some a
  | _ => none

/-- `resolve_main_trait_params` (main_trait.rs:355-420) on the parts of the trait the main impl is built from:
    (generics of the impl before its parameters are recomputed, substituted trait items) -/
def resolveMainTrait (trait_ : T) (tp : T) : Option (T × List T) :=
  match trait_ with
  | .node "ItemTrait" [] [_, _, _, _, _, _, .node "Generics" [] [lt, .node "List" [] params, gt, wc], _, _, .node "List" [] items] =>
      (match lastSegArgsNode tp with
       | some (.node "PathArguments::None" [] []) =>
           -- nothing is resolved; `impl #impl_generics`: `<..>` is printed iff there are parameters
           some (.node "Generics" [] [if params.isEmpty then tNone else lt, tList params, if params.isEmpty then tNone else gt,
                  (if (wherePreds wc).isEmpty then tNone else wc)], items)
       | some (.node "PathArguments::AngleBracketed" [] [_, .node "List" [] args]) =>
           (match zipTraitArgs params args with
            | none => none
            | some m =>
                let preds := wherePreds wc ++ traitParamPredicates params m
                (match sbL m preds, sbL m items with
                 | some preds', some items' =>
                     some (.node "Generics" [] [tNone, tList [], tNone, if preds'.isEmpty then tNone else mkWhere preds'], items')
                 | _, _ => none))
       | _ => none)
  | _ => none

def newLifetimeParam (x : String) : T :=
  .node "GenericParam::Lifetime" [] [.node "LifetimeParam" [] [ignAttrs, .node "Lifetime" [] [tIdent x], tNone, tList []]]
def newTypeParam (x : String) : T :=
  .node "GenericParam::Type" [] [.node "TypeParam" [] [ignAttrs, tIdent x, tNone, tList [], tNone, tNone]]
/-- `const #ident: #ty` with the type the example impl declares (main_trait.rs:96-101) -/
def newConstParam (exampleGenerics : T) (x : String) : Option T :=
  match paramNode exampleGenerics x with
  | some (.node "GenericParam::Const" [] [.node "ConstParam" [] [_, _, ty, _, _]]) =>
      some (.node "GenericParam::Const" [] [.node "ConstParam" [] [ignAttrs, tIdent x, ty, tNone, tNone]])
  | _ => none

/-- `main_trait::generate`, trait mode -/
def mainImplOfTrait (trait_ : T) (idx : Nat) (g : T × ABG × List Blk) : Gen T :=
  match g.2.2 with
  | [] => .panic
  | first :: _ =>
    let exampleItem := first.item
    match implTraitPath exampleItem, implSelfTy exampleItem, implGenerics exampleItem, trait_ with
    | some tp, some st, some eg, .node "ItemTrait" [] (_ :: _ :: unsafety :: _) =>
      (match resolveMainTrait trait_ tp, lastSegOf tp with
       | some (.node "Generics" [] [lt, _, gt, wc], items), some (.node "PathSegment" [] [.node "Ident" [tname] [], targs]) =>
          let hargs := match targs with
            | .node "PathArguments::AngleBracketed" [] [_, .node "List" [] as] => as
            | _ => []
          let href := helperRef (genIdentStr tname idx) g.2.1.idents hargs
          let preds := wherePreds wc ++ assocBoundPredicates g.2.1 href
          (match genAll (items.map (implItemOfTraitItem none)), genAll (items.map (implItemOfTraitItem (some href))) with
           | .ok dummies, .ok finals =>
              let traitRef := tSome (.node "Tuple" [] [tNone, tp])
              let dummy := .node "ItemImpl" [] [ignAttrs, tNone, unsafety, emptyGenerics, traitRef, st, tList dummies]
              let s0 : IxState := ⟨kindNames eg "GenericParam::Lifetime", kindNames eg "GenericParam::Type",
                                   kindNames eg "GenericParam::Const", [], [], [], 0⟩
              let s := ixL (ixT s0 dummy) preds
              (match allSome (s.ixCo.map (fun xi => newConstParam eg xi.1)) with
               | none => .panic
               | some cps =>
                  let params := s.ixLt.map (fun xi => newLifetimeParam xi.1) ++ s.ixTy.map (fun xi => newTypeParam xi.1) ++ cps
                  .ok (.node "ItemImpl" [] [ignAttrs, tNone, unsafety, .node "Generics" [] [lt, tList params, gt, mkWhere preds],
                        traitRef, st, tList finals]))
           | .panic, _ => .panic
           | _, .panic => .panic
           | _, _ => .unmodelled)
       | _, _ => .panic)
    | _, _, _, _ => .panic

end DI

namespace DI

/-! ### inherent mode: helper trait (helper_trait.rs:16-47) and main impl (main_trait.rs:110-115) -/

/-- a declared parameter as `impl_generics` prints it after `remove_param_bounds`: no bounds, no default -/
def bareParam : T → T
  | .node "GenericParam::Lifetime" [] [.node "LifetimeParam" [] [_, l, _, _]] =>
      .node "GenericParam::Lifetime" [] [.node "LifetimeParam" [] [ignAttrs, l, tNone, tList []]]
  | .node "GenericParam::Type" [] [.node "TypeParam" [] (_ :: id :: _)] =>
      .node "GenericParam::Type" [] [.node "TypeParam" [] [ignAttrs, id, tNone, tList [], tNone, tNone]]
  | .node "GenericParam::Const" [] [.node "ConstParam" [] [_, id, ty, _, _]] =>
      .node "GenericParam::Const" [] [.node "ConstParam" [] [ignAttrs, id, ty, tNone, tNone]]
  | t => t

def insertParamSorted (p : T) : List T → List T
  | [] => [p]
  | q :: qs =>
      -- key: (!is_lifetime, ident); stable
      let kp := (!isLifetimeParam p, (paramIdent p).getD "")
      let kq := (!isLifetimeParam q, (paramIdent q).getD "")
      if (kq.1 < kp.1) || (kq.1 == kp.1 && kq.2 ≤ kp.2) then q :: insertParamSorted p qs else p :: q :: qs

def sortParams (ps : List T) : List T := ps.foldr insertParamSorted []

/-- `gen_inherent_impl_items` (helper_trait.rs): the prototype of an item of the first block; since /repo 2b7edb4 the
    attributes of the item are copied onto the prototype (`#(#attrs)*`) -/
def traitItemOfImplItem : T → Gen T
  | .node "ImplItem::Const" [] [a, _, _, id, g, ty, _] =>
      if g == emptyGenerics then .ok (.node "TraitItem::Const" [] [a, id, emptyGenerics, ty, tNone]) else .unmodelled
  | .node "ImplItem::Type" [] [a, _, _, id, g, _] =>
      .ok (.node "TraitItem::Type" [] [a, id, itemGenerics g, tNone, tList [], tNone])
  | .node "ImplItem::Fn" [] [a, _, _, sig, _] =>
      .ok (.node "TraitItem::Fn" [] [a, sig, tNone, .node "Some" ["Semi"] []])
  | _ => .panic

/-- the self type's last-segment identifier when it can be re-parsed as a trait name (`trait #self_ty …`) -/
def selfTraitIdent : T → Option String
  | .node "Type::Path" [] [.node "None" [] [], p] =>
      (match lastSegOf p with
       | some (.node "PathSegment" [] [.node "Ident" [x] [], _]) => some x
       | _ => none)
  | _ => none

def helperTraitOfInherent (exampleItem : T) (idx nkeys : Nat) : Gen T :=
  match exampleItem with
  | .node "ItemImpl" [] [_, _, unsafety, .node "Generics" [] [_, .node "List" [] ps, _, _], _, st, .node "List" [] items] =>
      (match selfTraitIdent st, genAll (items.map traitItemOfImplItem) with
       | some x, .ok its =>
          let sorted := sortParams (ps.map bareParam)
          let start := sorted.length
          let keys := (List.range nkeys).map (fun i => keyParam (genIndexedIdent (start + i)))
          let all := sorted.filter isLifetimeParam ++ keys ++ sorted.filter (fun p => !isLifetimeParam p)
          let (lt, gt) := if ps.isEmpty then (tNone, tNone) else (.node "Some" ["Lt"] [], .node "Some" ["Gt"] [])
          .ok (.node "ItemTrait" [] [ignAttrs, .node "Visibility::Public" [] [], unsafety, tNone, tNone, tIdent (genIdentStr x idx),
                .node "Generics" [] [lt, tList all, gt, tNone], tNone, tList [], tList its])
       | none, _ => .panic
       | _, .panic => .panic
       | _, _ => .unmodelled)
  | _ => .panic

/-- `ImplItemResolver` on a real impl item (inherent mode keeps attributes, visibility and signatures) -/
def delegateImplItem (href : T) : T → Gen T
  | .node "ImplItem::Const" [] [a, v, d, id, g, ty, _] =>
      let (q, p) := selfAsHelperPath href id
      .ok (.node "ImplItem::Const" [] [a, v, d, id, g, ty, .node "Expr::Path" [] [ignAttrs, q, p]])
  | .node "ImplItem::Type" [] [a, v, d, id, g, _] =>
      let (q, p) := selfAsHelperPath href id
      .ok (.node "ImplItem::Type" [] [a, v, d, id, g, tyPath q p])
  | .node "ImplItem::Fn" [] [a, v, d, .node "Signature" [] [c, as_, u, abi, id, g, .node "List" [] inputs, variadic, out], _] =>
      if variadic != tNone || as_ != tNone then .unmodelled else     -- variadic; `async fn` (delegated with `.await` since /repo 81f363f)
      match allSome (inputs.map fnArgAsExpr) with
      | none => .unmodelled
      | some args =>
          let (q, p) := selfAsHelperPath href id
          let call := .node "Expr::Call" [] [ignAttrs, .node "Expr::Path" [] [ignAttrs, q, p], tList args]
          .ok (.node "ImplItem::Fn" [] [a, v, d, .node "Signature" [] [c, as_, u, abi, id, g, tList inputs, variadic, out],
            .node "Block" [] [tList [.node "Stmt::Expr" [] [call, noLead]]]])
  | t => .ok t

def lastSegIdentOf (p : T) : Option String :=
  match lastSegOf p with
  | some (.node "PathSegment" [] [.node "Ident" [x] [], _]) => some x
  | _ => none

/-- `main_trait::generate`, inherent mode; `ok none` = no main impl is generated (self type is not a path) -/
def mainImplInherent (idx : Nat) (g : T × ABG × List Blk) : Gen (Option T) :=
  match g.2.2 with
  | [] => .ok none
  | first :: _ =>
    match first.item with
    | .node "ItemImpl" [] [a, d, u, .node "Generics" [] [lt, .node "List" [] ps, gt, _], tr, st, .node "List" [] items] =>
      let eg := .node "Generics" [] [lt, tList ps, gt, tNone]
      (match st with
       | .node "Type::Path" [] [_, sp] =>
          (match lastSegIdentOf sp, inherentSelfTy st eg with
           | some x, some (.node "Type::Path" [] [_, argPath]) =>
              let hargs := match lastSegOf argPath with
                | some l => (segArgList l).getD []
                | none => []
              let href := helperRef (genIdentStr x idx) g.2.1.idents hargs
              let preds := assocBoundPredicates g.2.1 href
              let dummy := .node "ItemImpl" [] [a, d, u, emptyGenerics, tr, st, tList items]
              let s0 : IxState := ⟨kindNames eg "GenericParam::Lifetime", kindNames eg "GenericParam::Type",
                                   kindNames eg "GenericParam::Const", [], [], [], 0⟩
              let s := ixL (ixT s0 dummy) preds
              (match allSome (s.ixCo.map (fun xi => newConstParam eg xi.1)), genAll (items.map (delegateImplItem href)) with
               | some cps, .ok finals =>
                  let params := s.ixLt.map (fun xi => newLifetimeParam xi.1) ++ s.ixTy.map (fun xi => newTypeParam xi.1) ++ cps
                  .ok (some (.node "ItemImpl" [] [a, d, u, .node "Generics" [] [lt, tList params, gt, mkWhere preds], tr, st, tList finals]))
               | none, _ => .panic
               | _, .panic => .panic
               | _, _ => .unmodelled)
           | some _, _ => .panic          -- `unreachable!()` in gen_helper_trait_bound / no angle-bracketed arguments
           | none, _ => .ok none)
       | _ => .ok none)
    | _ => .panic

end DI
